import WsVerif.Model.Stats
import WsVerif.Model.Consts
import WsVerif.Model.NpTwins
import WsVerif.Model.XrTwins
import WsVerif.Gen.XrKernels
import WsVerif.Lemmas.Sums
import WsVerif.Lemmas.XrBridge
import WsVerif.Lemmas.NpBridge
/-!
# C01 — T-tier, xarray level: the accessor methods of `SpecArray` are the model

`Gen/XrKernels.lean` is regenerated on every run by `harness/translate_xr.py` from the bodies of the accessor methods in
`wavespectra/specarray.py` (labelled-array grammar: broadcasting by dimension name, `.sum(dim=…)`, `x[{dim: -1}]`,
`.where`, method calls, guarded division).  Each theorem below identifies one generated definition with the hand-written
model (`Model/Stats.lean`, twins in `Model/XrTwins.lean`) for ALL inputs: every frequency / direction vector, every
matrix, every oracle table, every oracle `sqrt`.  `self.df` / `self.dd` are parameters of the method kernels; the
bridges instantiate them with the model's `Stats.df f` and an arbitrary `ddv` (as the model does), and
`genxr_df_eq` / `genxr_dd_eq` identify the regenerated properties themselves.
-/
namespace WS.C01
open WS WS.Stats

theorem genxr_coords_src :
    Gen.xrFreq_src = "(self) return self._obj.freq" ∧
    Gen.xrDir_src = "(self) if attrs.DIRNAME in self._obj.dims:     return self._obj[attrs.DIRNAME] else:     return None" := ⟨rfl, rfl⟩

/-- `SpecArray.dd` on a spectrum with a direction dimension -/
theorem genxr_dd_eq (d : Vec) : Gen.xrDd d = Stats.dd (some d) := by
  rcases d with _ | ⟨a, _ | ⟨b, rest⟩⟩ <;> rfl

/-- `SpecArray.df` (`np.gradient`, or `[1.0]` for a single frequency) on a non-empty frequency axis -/
theorem genxr_df_eq (f : Vec) (h : f ≠ []) : Gen.xrDf f = Stats.df f := by
  rcases f with _ | ⟨a, _ | ⟨b, rest⟩⟩
  · exact absurd rfl h
  · rfl
  · exact npGradient_eq_df a b rest

example : ([1/8, 1/4, 1/2] : Vec) ≠ [] ∧ Gen.xrDf [1/8, 1/4, 1/2] = [1/8, 3/16, 1/4] := by decide +kernel

/-- `np.gradient` as read from numpy's documentation (slices) is the model's recursion -/
theorem genxr_gradient_eq (a b : ℚ) (rest : Vec) : XrT.npGradient (a :: b :: rest) = Stats.df (a :: b :: rest) :=
  npGradient_eq_df a b rest

theorem genxr_dd_guards : Gen.xrDd_guards = [("self.dir is not None", "and")] := rfl

theorem genxr_oned_eq (f d : Vec) (E : Mat) (dfv : Vec) (ddv : ℚ) : Gen.xrOned f d E dfv ddv = oned ddv E :=
  List.map_map

theorem genxr_oned_guards :
    Gen.xrOned_guards = [("self.dir is not None", "dsout = self._obj.copy(deep=True)")] := rfl

theorem genxr_to_energy_eq (f d : Vec) (E : Mat) (ddv : ℚ) :
    Gen.xrToEnergy f d E (df f) ddv = toEnergy ddv f E := by
  simp [Gen.xrToEnergy, toEnergy, List.map_zipWith, List.map_map, Function.comp_def]

/-- `hs = 4·sqrt(E)`: the radicand is the model's `hsE` with the property's constants -/
theorem genxr_hs_eq (f d : Vec) (E : Mat) (ddv : ℚ) (tail : Bool) :
    Gen.xrHsRad f d E (df f) ddv tail = hsE Consts.thr Consts.quarter tail f (oned ddv E) := by
  unfold hsE
  -- the code's `if c then E + tail else E` is the model's `E + if c then tail else 0`
  rw [add_ite, add_zero, ← genxr_oned_eq f d E (df f) ddv]
  rfl

theorem genxr_hs_factor : Gen.xrHsFactor = 4 := rfl

/-- the defaults of the accessor signatures (`hs(tail=True)`, `hrms(tail=True)`, `momf(mom=0)`, `momd(mom=0, theta=90.0)`,
    `crsd(theta=90.0)`) -/
theorem genxr_defaults :
    Gen.xrHs_tail_default = true ∧ Gen.xrHrms_tail_default = true ∧ Gen.xrMomf_mom_default = 0 ∧
    Gen.xrMomd_mom_default = 0 ∧ Gen.xrMomd_theta_default = 90 ∧ Gen.xrCrsd_theta_default = 90 :=
  ⟨rfl, rfl, rfl, rfl, rfl, rfl⟩

theorem genxr_hs_full (sqrt : ℚ → ℚ) (f d : Vec) (E : Mat) (ddv : ℚ) (tail : Bool) :
    Gen.xrHs sqrt f d E (df f) ddv tail = 4 * sqrt (hsE Consts.thr Consts.quarter tail f (oned ddv E)) := by
  simp only [Gen.xrHs, genxr_hs_eq, genxr_hs_factor]

/-- `hrms = sqrt(8·E)` with the same `E` -/
theorem genxr_hrms_eq (f d : Vec) (E : Mat) (ddv : ℚ) (tail : Bool) :
    Gen.xrHrmsRad f d E (df f) ddv tail = hsE Consts.thr Consts.quarter tail f (oned ddv E) * 8 := by
  rw [← genxr_hs_eq f d]
  rfl

theorem genxr_hrms_full (sqrt : ℚ → ℚ) (f d : Vec) (E : Mat) (ddv : ℚ) (tail : Bool) :
    Gen.xrHrms sqrt f d E (df f) ddv tail = sqrt (hsE Consts.thr Consts.quarter tail f (oned ddv E) * 8) := by
  simp only [Gen.xrHrms, genxr_hrms_eq]

theorem genxr_momf_eq (f d : Vec) (E : Mat) (ddv : ℚ) (k : Nat) :
    Gen.xrMomf f d E (df f) ddv k = momf k f (oned ddv E) := by
  simp only [Gen.xrMomf, genxr_oned_eq, momf, List.zipWith_map_right]

theorem genxr_tm01_eq (f d : Vec) (E : Mat) (ddv : ℚ) :
    Gen.xrTm01 f d E (df f) ddv = tm01 f (oned ddv E) := by
  simp only [Gen.xrTm01, genxr_momf_eq, tm01]

/-- `tm02 = sqrt(m0/m2)`: the radicand is the model's `tm02Sq` -/
theorem genxr_tm02_eq (f d : Vec) (E : Mat) (ddv : ℚ) :
    Gen.xrTm02Rad f d E (df f) ddv = tm02Sq f (oned ddv E) := by
  simp only [Gen.xrTm02Rad, genxr_momf_eq, tm02Sq]

theorem genxr_tm02_full (sqrt : ℚ → ℚ) (f d : Vec) (E : Mat) (ddv : ℚ) :
    Gen.xrTm02 sqrt f d E (df f) ddv = (tm02Sq f (oned ddv E)).map sqrt := by
  simp only [Gen.xrTm02, genxr_tm02_eq]

/-- `momd(mom, theta)`: per-frequency sums against the `mom`-th powers of the sin / cos tables -/
theorem genxr_momd_eq (f d : Vec) (E : Mat) (dfv : Vec) (ddv : ℚ) (k : Nat) (theta : ℚ) (c s : Vec) :
    Gen.xrMomd f d E dfv ddv k theta c s =
      (momdRow ddv (s.map (· ^ k)) E, momdRow ddv (c.map (· ^ k)) E) := by
  simp only [Gen.xrMomd, mom1_rows]

/-- `momd(1)` (what `dm`, `dspr` use) is the model's pair of `momdRow`s -/
theorem genxr_momd1_eq (f d : Vec) (E : Mat) (dfv : Vec) (ddv : ℚ) (theta : ℚ) (c s : Vec) :
    Gen.xrMomd f d E dfv ddv 1 theta c s = (momdRow ddv s E, momdRow ddv c E) := by
  simp only [genxr_momd_eq, pow_one, List.map_id']

theorem genxr_momd_tables :
    Gen.xrMomd_cp_fn = "np.cos(np.radians(·))" ∧ Gen.xrMomd_sp_fn = "np.sin(np.radians(·))" ∧
    Gen.xrMomd_theta_default = 90 ∧
    Gen.xrMomd_guards = [("self.dir is None", "raise ValueError('Cannot calculate momd from 1d, frequency spectra.')")] :=
  ⟨rfl, rfl, rfl, rfl⟩

/-- the tables are `cos / sin` of `270° − θ_j` with the default `theta` -/
theorem genxr_momd_arg_eq (d : ℚ) :
    Gen.xrMomd_cp_arg Gen.xrMomd_theta_default d = Stats.momArg d ∧
    Gen.xrMomd_sp_arg Gen.xrMomd_theta_default d = Stats.momArg d :=
  ⟨momArg_default d, momArg_default d⟩

/-- `dm`: the arguments of `arctan2` are the model's unweighted frequency sums -/
theorem genxr_dm_eq (f d : Vec) (E : Mat) (dfv : Vec) (ddv : ℚ) (c s : Vec) :
    Gen.xrDmVec f d E dfv ddv c s = dmVec ddv s c E := by
  simp only [Gen.xrDmVec, genxr_momd1_eq, dmVec]

theorem genxr_dm_post_eq (pi a : ℚ) : Gen.xrDmPost pi a = Stats.dirOfAtan pi a := rfl

theorem genxr_dm_guards :
    Gen.xrDm_guards = [("self.dir is None", "raise ValueError('Cannot calculate dm from 1d, frequency spectra.')")] :=
  rfl

/-- `dspr = sqrt(2·R2D²·(1 − sqrt(a²+b²)/e))`: the radicand, on the model's ingredients `(a, b, e)` -/
theorem genxr_dspr_eq (pi : ℚ) (sqrt : ℚ → ℚ) (f d : Vec) (E : Mat) (ddv : ℚ) (c s : Vec) :
    Gen.xrDsprRad pi sqrt f d E (df f) ddv c s = XrT.dsprRad pi sqrt (dsprABE ddv s c f E) := by
  simp only [Gen.xrDsprRad, genxr_momd1_eq, genxr_oned_eq, XrT.dsprRad, dsprABE, dot, mulV, Option.map_map,
    Function.comp_def]

theorem genxr_dspr_full (pi : ℚ) (sqrt : ℚ → ℚ) (f d : Vec) (E : Mat) (ddv : ℚ) (c s : Vec) :
    Gen.xrDspr pi sqrt f d E (df f) ddv c s = (XrT.dsprRad pi sqrt (dsprABE ddv s c f E)).map sqrt := by
  simp only [Gen.xrDspr, genxr_dspr_eq]

theorem genxr_dspr_guards :
    Gen.xrDspr_guards = [("self.dir is None", "raise ValueError('Cannot calculate dspr from 1d, frequency spectra.')")] :=
  rfl

/-- `crsd`: per-frequency `Σ_j Δθ·E_ij·cos_j·sin_j` -/
theorem genxr_crsd_eq (f d : Vec) (E : Mat) (dfv : Vec) (ddv theta : ℚ) (c s : Vec) :
    Gen.xrCrsd f d E dfv ddv theta c s = XrT.crsdRow ddv c s E := by
  simp only [Gen.xrCrsd, XrT.crsdRow, List.map_map, Function.comp_def, crsd_row]

/-- … which is the first directional moment against the product table -/
theorem genxr_crsd_momd (f d : Vec) (E : Mat) (dfv : Vec) (ddv theta : ℚ) (c s : Vec) :
    Gen.xrCrsd f d E dfv ddv theta c s = momdRow ddv (mulV c s) E := by
  rw [genxr_crsd_eq, crsdRow_eq_momdRow]

theorem genxr_crsd_tables (pi d : ℚ) :
    Gen.xrCrsd_cp_fn = "np.cos(D2R * ·)" ∧ Gen.xrCrsd_sp_fn = "np.sin(D2R * ·)" ∧ Gen.xr_D2R pi = pi / 180 ∧
    Gen.xrCrsd_theta_default = 90 ∧
    Gen.xrCrsd_cp_arg Gen.xrCrsd_theta_default d = Stats.momArg d ∧
    Gen.xrCrsd_sp_arg Gen.xrCrsd_theta_default d = Stats.momArg d :=
  ⟨rfl, rfl, rfl, rfl, momArg_default d, momArg_default d⟩

/-- `swe = sqrt(1 − m2²/(m0·m4))`, then `swe.where(swe >= 0.001, 1.0)` -/
theorem genxr_swe_eq (sqrt : ℚ → ℚ) (f d : Vec) (E : Mat) (ddv : ℚ) :
    Gen.xrSwe sqrt f d E (df f) ddv = XrT.sweFull sqrt XrT.milli 1 (sweSq f (oned ddv E)) := by
  simp only [Gen.xrSwe, genxr_momf_eq]
  exact where_ge_eq sqrt XrT.milli 1 (sweSq f (oned ddv E))

/-- `swe` is never NaN: the `where` replaces NaN (and values below the cut) by 1 -/
theorem genxr_swe_some (sqrt : ℚ → ℚ) (f d : Vec) (E : Mat) (ddv : ℚ) :
    ∃ v, Gen.xrSwe sqrt f d E (df f) ddv = some v := by
  rw [genxr_swe_eq]
  unfold XrT.sweFull
  split
  · split <;> exact ⟨_, rfl⟩
  · exact ⟨_, rfl⟩

/-- `sw = sqrt(m0·m2/m1² − 1)`, then `sw.where(hs >= 0.001)` with `hs = 4·sqrt(hsE)` (tail on) -/
theorem genxr_sw_eq (sqrt : ℚ → ℚ) (f d : Vec) (E : Mat) (ddv : ℚ) :
    Gen.xrSw sqrt f d E (df f) ddv =
      XrT.swFull sqrt XrT.milli 4 (hsE Consts.thr Consts.quarter true f (oned ddv E)) (swSq f (oned ddv E)) := by
  simp only [Gen.xrSw, Gen.xrHs_tail_default, genxr_momf_eq, genxr_hs_full, XrT.swFull, swSq, XrT.milli, ge_iff_le, decide_eq_true_eq]
  rfl

/-- `gw = sqrt(m0h/tm02² − m0h²/tm01²)`, `m0h = (hs/4)²`: the radicand is the model's `gwSq` for every oracle `sqrt` that
    squares back on the two radicands it is applied to (`hsE` and `tm02Sq`) -/
theorem genxr_gw_eq (sqrt : ℚ → ℚ) (f d : Vec) (E : Mat) (ddv : ℚ)
    (h1 : sqrt (hsE Consts.thr Consts.quarter true f (oned ddv E)) ^ 2 = hsE Consts.thr Consts.quarter true f (oned ddv E))
    (h2 : (tm02Sq f (oned ddv E)).map (fun t => sqrt t ^ 2) = tm02Sq f (oned ddv E)) :
    Gen.xrGwRad sqrt f d E (df f) ddv = gwSq Consts.thr Consts.quarter f (oned ddv E) := by
  simp only [Gen.xrGwRad, Gen.xrHs_tail_default, genxr_hs_full, genxr_tm02_full, genxr_tm01_eq]
  exact gw_core sqrt _ _ _ h1 h2

theorem genxr_gw_full (sqrt : ℚ → ℚ) (f d : Vec) (E : Mat) (ddv : ℚ)
    (h1 : sqrt (hsE Consts.thr Consts.quarter true f (oned ddv E)) ^ 2 = hsE Consts.thr Consts.quarter true f (oned ddv E))
    (h2 : (tm02Sq f (oned ddv E)).map (fun t => sqrt t ^ 2) = tm02Sq f (oned ddv E)) :
    Gen.xrGw sqrt f d E (df f) ddv = (gwSq Consts.thr Consts.quarter f (oned ddv E)).map sqrt := by
  simp only [Gen.xrGw, genxr_gw_eq sqrt f d E ddv h1 h2]

/-- the twin `gwCore` is the arithmetic of the model's `gwSq` -/
theorem gwSq_eq_gwCore (thr quarter : ℚ) (f S : Vec) :
    gwSq thr quarter f S = XrT.gwCore (hsE thr quarter true f S) (tm02Sq f S) (tm01 f S) := rfl

/-- the hypotheses of `genxr_gw_eq` are satisfiable: one frequency `f = 1`, `S = 5`: `hsE = 5 + 5/4 = (5/2)²`, `tm02² = 1` -/
example : let sqrt : ℚ → ℚ := fun x => if x = 25 / 4 then 5 / 2 else 1
    sqrt (hsE Consts.thr Consts.quarter true [1] (oned 1 [[5]])) ^ 2 = hsE Consts.thr Consts.quarter true [1] (oned 1 [[5]]) ∧
    (tm02Sq [1] (oned 1 [[5]])).map (fun t => sqrt t ^ 2) = tm02Sq [1] (oned 1 [[5]]) ∧
    Gen.xrGwRad sqrt [1] [0] [[5]] (df [1]) 1 = some (25 / 4 - (25 / 4) ^ 2) := by
  decide +kernel

/-- Goda peakedness -/
theorem genxr_goda_eq (f d : Vec) (E : Mat) (ddv : ℚ) :
    Gen.xrGoda f d E (df f) ddv = goda f (oned ddv E) := by
  simp only [Gen.xrGoda, genxr_oned_eq, goda, m0E, dot, mulV, divOpt, List.zipWith_map_left]
  rw [apply_ite (Option.map _)]
  rfl

theorem genxr_peak_delegates :
    Gen.xrDp_src = "(self) return xrstats.peak_wave_direction(self._obj)" ∧
    Gen.xrDpm_src = "(self) return xrstats.mean_direction_at_peak_wave_period(self._obj)" := ⟨rfl, rfl⟩

/-- with the regenerated `df` / `dd` as the bin widths the radicand of `hs` is the model's, on the model's own widths -/
theorem genxr_hs_composed (f d : Vec) (E : Mat) (tail : Bool) (h : f ≠ []) :
    Gen.xrHsRad f d E (Gen.xrDf f) (Gen.xrDd d) tail =
      hsE Consts.thr Consts.quarter tail f (oned (Stats.dd (some d)) E) := by
  rw [genxr_df_eq f h, genxr_dd_eq, genxr_hs_eq]

/-- non-vacuity: 3×2 spectrum, `Δθ = min(340, 20) = 20`, tail active (0.5 > 0.333) -/
example : Gen.xrHsRad [1/8, 1/4, 1/2] [350, 10] [[1, 2], [0, 3], [4, 1]] (Gen.xrDf [1/8, 1/4, 1/2]) (Gen.xrDd [350, 10]) true =
    (20 * 3) * (1/8) + (20 * 3) * (3/16) + (20 * 5) * (1/4) + (1/4) * (20 * 5) * (1/2) := by decide +kernel

end WS.C01
