import WsVerif.Props.C03
import WsVerif.Props.C04sound
import WsVerif.Lemmas.PtmBridge
/-!
# C03 ∘ C04 — the watershed model feeds the assembly model: end-to-end conservation

`Props/C03.lean` proves conservation for `ptm1/2/3` under the hypothesis "every bin carries a label `≥ 1`" on an
**arbitrary** label map; `Props/C04sound.lean` proves that the label array returned by the transliteration of
`specpart.c` carries labels `1..K` at every bin as soon as it contains no `0`.  Here the two models are connected:

* `labelsOf nk nth r` — the returned label array `r.labels : Array Int` (row-major `[ifreq][iang]`, the order in which
  the assembly flattens the spectrum) read as the `List Nat` the assembly model takes; `binsOf E labs ws` zips a flattened
  spectrum, a label list and a wind-sea mask into the `List Bin` of `Model/Assembly.lean` (the same zip as
  `Ops/Assembly.lean`);
* `watershed_labels_cover`: `partition_sound.range/used` ⇒ every bin of `binsOf E (labelsOf …) ws` has a label `≥ 1` and
  `nparts = K` (the assembly's `watershed_map.max()` **is** the number of basins of C04);
* **`ptm_conserves_with_watershed`**: for all `nk, nth, ihmax ≥ 1`, every non-constant integer spectrum handed to the
  watershed, every rational spectrum `E` on the same grid (no sign condition is needed for a requested count;
  `swells=None` of PTM1/2 needs `E ≥ 0`), every wind-sea mask, cutoff, sort key and every requested count `≥ K`: if the
  watershed leaves no bin at label `0`, the partitions of PTM1, PTM2 and PTM3 add to `E` bin for bin;
* `ptm_constant_spectrum_loses_all`: a constant spectrum takes the early return of `partition` (all labels `0`), so
  `nparts = 0` and every partition of PTM1/2/3 is all-zero whatever `E` is — finding F04-constant, as a theorem about the
  composed model;
* `ptm_masks_from_smoothed_spectrum`: the label map may come from a *different* spectrum (the smoothed one): soundness,
  disjointness and conservation are statements about the original `E`;
* `partition_deterministic`: the watershed model has no hidden state.

The spectrum given to the watershed (`spec`, integers, see `Model/Specpart.lean`) and the spectrum that is split (`E`,
rationals) are independent arguments throughout.
-/
namespace WS.C03
open WS WS.Assembly

/-! ## the conversion watershed output → assembly input -/

/-- the returned label array (row-major `[ifreq][iang]`) as the label list of the assembly: entry `i = ifreq·nth + iang`
    is `labels[i]` (labels are never negative; `toNat` is the identity on them) -/
def labelsOf (nk nth : Nat) (r : SP.Result) : List Nat :=
  (List.range (nk * nth)).map fun i => (r.labels[i]!).toNat

/-- flattened spectrum, label list and wind-sea mask zipped into the assembly's bins (as `Ops/Assembly.lean` does) -/
def binsOf (E : Vec) (labs : List Nat) (ws : List Bool) : List Bin :=
  List.zipWith (fun (x : Rat) (lw : Nat × Bool) => (⟨x, lw.1, lw.2⟩ : Bin)) E (List.zip labs ws)

theorem labelsOf_length (nk nth : Nat) (r : SP.Result) : (labelsOf nk nth r).length = nk * nth := by
  simp [labelsOf]

/-- when the array has the grid's size (it always has), `labelsOf` is just the array as a list -/
theorem labelsOf_eq_toList (nk nth : Nat) (r : SP.Result) (h : r.labels.size = nk * nth) :
    labelsOf nk nth r = r.labels.toList.map Int.toNat := by
  apply List.ext_getElem
  · simp [labelsOf, h]
  · intro i h1 h2
    have hi : i < r.labels.size := by simpa using h2
    simp [labelsOf, getElem!_pos r.labels i hi]

/-- `partition` returns `nk·nth` labels (kept through the copy-back loops in `Fld.partitionM_spec`) -/
theorem partition_labels_size (nk nth ihmax : Nat) (hk : 1 ≤ nk) (ht : 1 ≤ nth) (hi : 1 ≤ ihmax) (spec : Array Int)
    (hs : spec.size = nk * nth) (iqFill : Int) (tr : Bool) :
    (SP.partition nk nth ihmax (Neigh.table nk nth) spec iqFill tr).labels.size = nk * nth :=
  ((Fld.triple_iff _ _ _).mp (Fld.partitionM_spec nk nth ihmax spec iqFill tr hk ht hi hs) false rfl).2.2.2.1

/-- so for the watershed's output `labelsOf` **is** the returned array, entry for entry, in the order of the flattened
    spectrum -/
theorem labelsOf_partition (nk nth ihmax : Nat) (hk : 1 ≤ nk) (ht : 1 ≤ nth) (hi : 1 ≤ ihmax) (spec : Array Int)
    (hs : spec.size = nk * nth) (iqFill : Int) (tr : Bool) :
    labelsOf nk nth (SP.partition nk nth ihmax (Neigh.table nk nth) spec iqFill tr) =
      (SP.partition nk nth ihmax (Neigh.table nk nth) spec iqFill tr).labels.toList.map Int.toNat :=
  labelsOf_eq_toList nk nth _ (partition_labels_size nk nth ihmax hk ht hi spec hs iqFill tr)

theorem binsOf_length (E : Vec) (labs : List Nat) (ws : List Bool) (n : Nat) (hE : E.length = n)
    (hl : labs.length = n) (hw : ws.length = n) : (binsOf E labs ws).length = n := by
  simp [binsOf, hE, hl, hw]

theorem binsOf_lt {E : Vec} {labs : List Nat} {ws : List Bool} {i : Nat} (h : i < (binsOf E labs ws).length) :
    i < E.length ∧ i < labs.length ∧ i < ws.length := by
  rwa [binsOf, List.length_zipWith, List.length_zip, Nat.lt_min, Nat.lt_min] at h

theorem binsOf_getElem (E : Vec) (labs : List Nat) (ws : List Bool) (i : Nat) (h : i < (binsOf E labs ws).length) :
    (binsOf E labs ws)[i] = ⟨E[i]'(binsOf_lt h).1, labs[i]'(binsOf_lt h).2.1, ws[i]'(binsOf_lt h).2.2⟩ := by
  simp [binsOf]

/-- the energies of the bins are the spectrum that is split -/
theorem binsOf_e (E : Vec) (labs : List Nat) (ws : List Bool) (n : Nat) (hE : E.length = n)
    (hl : labs.length = n) (hw : ws.length = n) : (binsOf E labs ws).map (·.e) = E :=
  PtmBridge.bE_mkBins E labs ws (hl.trans hE.symm) (hw.trans hE.symm)

/-- every bin's label is an entry of the label list (whatever the lengths) -/
theorem binsOf_lab_mem (E : Vec) (labs : List Nat) (ws : List Bool) : ∀ b ∈ binsOf E labs ws, b.lab ∈ labs := by
  intro b hb
  obtain ⟨i, hi, rfl⟩ := List.mem_iff_getElem.mp hb
  rw [binsOf_getElem]
  exact List.getElem_mem _

/-! ## the watershed's labels cover the grid and `nparts` is the number of basins -/

/-- row-major index `i = f·nth + t` ↔ the C's pixel `p = f + nk·t`: the label the assembly sees at `i` is the label
    `labelAt` of `LabelSound` at `p` -/
theorem labelAt_rowmajor (nk nth : Nat) (labels : Array Int) (i : Nat) (hi : i < nk * nth) :
    i / nth + nk * (i % nth) < nk * nth ∧ C04.labelAt nk nth labels (i / nth + nk * (i % nth)) = labels[i]! := by
  have hnth : 0 < nth := by
    rcases Nat.eq_zero_or_pos nth with h | h
    · subst h; simp at hi
    · exact h
  have hf : i / nth < nk := Nat.div_lt_of_lt_mul (by rwa [Nat.mul_comm] at hi)
  have ht : i % nth < nth := Nat.mod_lt _ hnth
  refine ⟨NeighL.lin_lt hf ht, ?_⟩
  unfold C04.labelAt
  rw [NeighL.lin_mod nk _ _ hf, NeighL.lin_div nk _ _ hf, Nat.div_add_mod' i nth]

/-- **the bridge**: a label map that is `LabelSound` with `K` basins (what `partition_sound` delivers) gives the assembly
    bins that all carry a label `≥ 1`, and `nparts` (= `watershed_map.max()`) is exactly `K` -/
theorem labelSound_cover (nk nth : Nat) (hk : 1 ≤ nk) (ht : 1 ≤ nth) (r : SP.Result) (imi : Array Int) (K : Nat)
    (hS : C04.LabelSound (SP.graphOf nk nth (Neigh.rows nk nth) imi) (C04.labelAt nk nth r.labels) K)
    (E : Vec) (ws : List Bool) (hE : E.length = nk * nth) (hws : ws.length = nk * nth) :
    (∀ b ∈ binsOf E (labelsOf nk nth r) ws, 1 ≤ b.lab) ∧ nparts (binsOf E (labelsOf nk nth r) ws) = K := by
  have hn : (SP.graphOf nk nth (Neigh.rows nk nth) imi).n = nk * nth := rfl
  have hmem : ∀ l ∈ labelsOf nk nth r, 1 ≤ l ∧ l ≤ K := by
    intro l hl
    unfold labelsOf at hl
    obtain ⟨i, hi, rfl⟩ := List.mem_map.mp hl
    have hi : i < nk * nth := List.mem_range.mp hi
    obtain ⟨hp, e⟩ := labelAt_rowmajor nk nth r.labels i hi
    have := hS.range _ (by rw [hn]; exact hp)
    rw [e] at this
    exact ⟨Int.lt_toNat.mpr this.1, Int.toNat_le.mpr this.2⟩
  have hlen := binsOf_length E (labelsOf nk nth r) ws (nk * nth) hE (labelsOf_length nk nth r) hws
  refine ⟨fun b hb => (hmem _ (binsOf_lab_mem _ _ _ b hb)).1, le_antisymm ?_ ?_⟩
  · exact nparts_le_of_forall _ K fun b hb => (hmem _ (binsOf_lab_mem _ _ _ b hb)).2
  · -- label `K` is in use
    have hpos : 0 < nk * nth := Nat.mul_pos hk ht
    have hK1 : 1 ≤ K := by
      have := hS.range 0 (by rw [hn]; exact hpos)
      exact_mod_cast this.1.trans this.2
    obtain ⟨p, hp, hLp, -⟩ := hS.used K hK1 le_rfl
    rw [hn] at hp
    have hidx := (Fld.pix_decomp hp).2.2.2
    have hb : (binsOf E (labelsOf nk nth r) ws)[(p % nk) * nth + p / nk]'(by rw [hlen]; exact hidx) ∈
        binsOf E (labelsOf nk nth r) ws := List.getElem_mem _
    have hlab : ((binsOf E (labelsOf nk nth r) ws)[(p % nk) * nth + p / nk]'(by rw [hlen]; exact hidx)).lab = K := by
      rw [binsOf_getElem]
      unfold C04.labelAt at hLp
      simp only [labelsOf, List.getElem_map, List.getElem_range, hLp, Int.toNat_natCast]
    have := lab_le_nparts hb
    rw [hlab] at this
    exact this

/-- `K` of `LabelSound` is determined by the label map (so "the number of basins" is well defined) -/
theorem labelSound_K_unique (g : Flood.Graph) (L : Nat → Int) (K K' : Nat) (hn : 0 < g.n)
    (h : C04.LabelSound g L K) (h' : C04.LabelSound g L K') : K = K' := by
  have key : ∀ A B : Nat, C04.LabelSound g L A → C04.LabelSound g L B → A ≤ B := by
    intro A B hA hB
    have hA1 : 1 ≤ A := by have := hA.range 0 hn; exact_mod_cast this.1.trans this.2
    obtain ⟨p, hp, hLp, -⟩ := hA.used A hA1 le_rfl
    have := (hB.range p hp).2
    rw [hLp] at this
    exact_mod_cast this
  exact le_antisymm (key K K' h h') (key K' K h' h)

/-- the composed statement about the watershed model's output: non-constant spectrum, no `0` left ⇒ there is `K` with
    `LabelSound … K`, every assembly bin carries a label `≥ 1`, and `nparts = K` -/
theorem watershed_labels_cover (nk nth ihmax : Nat) (hk : 1 ≤ nk) (ht : 1 ≤ nth) (hi : 1 ≤ ihmax) (spec : Array Int)
    (hs : spec.size = nk * nth) (iqFill : Int) (E : Vec) (ws : List Bool) (hE : E.length = nk * nth)
    (hws : ws.length = nk * nth) :
    let r := SP.partition nk nth ihmax (Neigh.table nk nth) spec iqFill true
    let bins := binsOf E (labelsOf nk nth r) ws
    r.const = false → (∀ i, i < nk * nth → r.labels[i]! ≠ 0) →
      ∃ K, C04.LabelSound (SP.graphOf nk nth (Neigh.rows nk nth) r.imi) (C04.labelAt nk nth r.labels) K ∧
        (∀ b ∈ bins, 1 ≤ b.lab) ∧ nparts bins = K ∧ bins.length = nk * nth := by
  intro r bins hc h0
  obtain ⟨K, hS⟩ := C04.partition_sound nk nth ihmax hk ht hi spec hs iqFill hc h0
  obtain ⟨h1, h2⟩ := labelSound_cover nk nth hk ht r r.imi K hS E ws hE hws
  exact ⟨K, hS, h1, h2, binsOf_length E _ ws _ hE (labelsOf_length nk nth r) hws⟩

/-! ## end-to-end conservation -/

/-- **PTM1/2/3 on the watershed's own label map conserve energy bin for bin.**  For every grid, level count,
    non-constant integer spectrum `spec` and queue filling: if the watershed leaves no bin at label `0`, then with `K` the
    number of basins (`LabelSound … K`, and `K = nparts`), for every spectrum `E` on the grid, every wind-sea mask, cutoff
    and sort key: the wind sea(s) + `s ≥ K` swells of PTM1/2 and the `s ≥ K` partitions of PTM3 add to `E` at every bin; so
    do the `K` partitions of PTM3's `parts=None`, and for a non-negative `E` what `swells=None` of PTM1/2 returns. -/
theorem ptm_conserves_with_watershed (nk nth ihmax : Nat) (hk : 1 ≤ nk) (ht : 1 ≤ nth) (hi : 1 ≤ ihmax)
    (spec : Array Int) (hs : spec.size = nk * nth) (iqFill : Int) (E : Vec) (ws : List Bool)
    (hE : E.length = nk * nth) (hws : ws.length = nk * nth) (key : Vec → Rat) (wscut : Rat) :
    let r := SP.partition nk nth ihmax (Neigh.table nk nth) spec iqFill true
    let bins := binsOf E (labelsOf nk nth r) ws
    r.const = false → (∀ i, i < nk * nth → r.labels[i]! ≠ 0) →
      ∃ K, C04.LabelSound (SP.graphOf nk nth (Neigh.rows nk nth) r.imi) (C04.labelAt nk nth r.labels) K ∧
        nparts bins = K ∧
        (∀ s, K ≤ s → ∀ (i : Nat) (h : i < E.length), colSum (ptm1 key wscut bins (some s)) i = E[i] ∧
          colSum (ptm2 key wscut bins (some s)) i = E[i] ∧ colSum (ptm3 key bins (some s)) i = E[i]) ∧
        (∀ (i : Nat) (h : i < E.length), colSum (ptm3 key bins none) i = E[i]) ∧
        ((∀ e ∈ E, 0 ≤ e) → ∀ (i : Nat) (h : i < E.length),
          colSum (ptm1 key wscut bins none) i = E[i] ∧ colSum (ptm2 key wscut bins none) i = E[i]) := by
  intro r bins hc h0
  obtain ⟨K, hS, hcov, hK, hlen⟩ := watershed_labels_cover nk nth ihmax hk ht hi spec hs iqFill E ws hE hws hc h0
  have he : ∀ (i : Nat) (h : i < E.length), ∃ hib : i < bins.length, E[i] = bins[i].e :=
    fun i h => ⟨by rw [hlen, ← hE]; exact h, by rw [binsOf_getElem]⟩
  refine ⟨K, hS, hK, fun s hKs i h => ?_, fun i h => ?_, fun hnn i h => ?_⟩ <;> obtain ⟨hib, e⟩ := he i h <;> rw [e]
  · have hreq : nparts bins ≤ s := hK ▸ hKs
    exact ⟨sum_exact_ptm1 key wscut bins s hcov hreq i hib, sum_exact_ptm2 key wscut bins s hcov hreq i hib,
      sum_exact_ptm3 key bins s hcov hreq i hib⟩
  · exact sum_exact_ptm3_none key bins hcov i hib
  · refine sum_exact_none key wscut bins hcov (fun b hb => ?_) i hib
    obtain ⟨j, hj, rfl⟩ := List.mem_iff_getElem.mp hb
    rw [binsOf_getElem]
    exact hnn _ (List.getElem_mem _)

/-! ## a constant spectrum loses everything (finding F04-constant, composed) -/

/-- **constant spectrum ⇒ nothing is returned.**  A constant spectrum handed to the watershed takes the early return of
    `partition` (`partition_constant`: every label `0`), so the assembly sees `nparts = 0` and, for **every** spectrum
    `E` (however much energy it holds), every wind-sea mask, cutoff, key and requested count, every partition of
    PTM1/2/3 is the all-zero array: all the energy is lost (compare `sum_exact_full_fails_constant`). -/
theorem ptm_constant_spectrum_loses_all (nk nth ihmax : Nat) (hk : 1 ≤ nk) (ht : 1 ≤ nth) (spec : Array Int)
    (hs : spec.size = nk * nth) (hconst : ∀ i, i < nk * nth → spec[i]! = spec[0]!) (iqFill : Int) (tr : Bool)
    (E : Vec) (ws : List Bool) (key : Vec → Rat) (wscut : Rat) (cnt : Option Nat) :
    let r := SP.partition nk nth ihmax (Neigh.table nk nth) spec iqFill tr
    let bins := binsOf E (labelsOf nk nth r) ws
    r.const = true ∧ nparts bins = 0 ∧
      (∀ p ∈ ptm1 key wscut bins cnt, p = zeros bins) ∧ (∀ p ∈ ptm2 key wscut bins cnt, p = zeros bins) ∧
      (∀ p ∈ ptm3 key bins cnt, p = zeros bins) ∧
      ∀ i, colSum (ptm1 key wscut bins cnt) i = 0 ∧ colSum (ptm2 key wscut bins cnt) i = 0 ∧
        colSum (ptm3 key bins cnt) i = 0 := by
  intro r bins
  obtain ⟨hc, hl, -⟩ := C04.partition_constant nk nth ihmax hk ht spec hs hconst iqFill tr
  have hlab : ∀ l ∈ labelsOf nk nth r, l = 0 := by
    intro l hl'
    unfold labelsOf at hl'
    obtain ⟨i, hi, rfl⟩ := List.mem_map.mp hl'
    have hi : i < nk * nth := List.mem_range.mp hi
    show (r.labels[i]!).toNat = 0
    rw [hl, getElem!_pos _ i (by simpa using hi)]
    simp
  have hn : nparts bins = 0 :=
    Nat.le_zero.mp (nparts_le_of_forall bins 0 fun b hb => (hlab _ (binsOf_lab_mem _ _ _ b hb)).le)
  obtain ⟨h1, h2, h3⟩ := constant_gives_nothing key wscut bins cnt hn
  exact ⟨hc, hn, h1, h2, h3, fun i =>
    ⟨colSum_all_zeros bins _ h1 i, colSum_all_zeros bins _ h2 i, colSum_all_zeros bins _ h3 i⟩⟩

/-! ## masks from another (smoothed) spectrum, no hidden state -/

/-- **the label map may come from a different spectrum.**  `specSm` (e.g. the smoothed spectrum, discretised) goes to the
    watershed, `Eorig` is what is split.  Unconditionally every output partition is `where(mask, Eorig, 0)` — its values
    are bins of the ORIGINAL spectrum or `0`, never of `specSm` — and no bin is in two partitions; when the watershed of
    `specSm` leaves no `0`, the partitions add to `Eorig` bin for bin for every requested count `≥ nparts`. -/
theorem ptm_masks_from_smoothed_spectrum (nk nth ihmax : Nat) (hk : 1 ≤ nk) (ht : 1 ≤ nth) (hi : 1 ≤ ihmax)
    (specSm : Array Int) (hs : specSm.size = nk * nth) (iqFill : Int) (Eorig : Vec) (ws : List Bool)
    (hE : Eorig.length = nk * nth) (hws : ws.length = nk * nth) (key : Vec → Rat) (wscut : Rat) :
    let r := SP.partition nk nth ihmax (Neigh.table nk nth) specSm iqFill true
    let bins := binsOf Eorig (labelsOf nk nth r) ws
    bins.map (·.e) = Eorig ∧
    (∀ cnt, (∀ p ∈ ptm1 key wscut bins cnt, BinSound bins p) ∧ (∀ p ∈ ptm2 key wscut bins cnt, BinSound bins p) ∧
      (∀ p ∈ ptm3 key bins cnt, BinSound bins p)) ∧
    (∀ cnt i, colCount (ptm1 key wscut bins cnt) i ≤ 1 ∧ colCount (ptm2 key wscut bins cnt) i ≤ 1 ∧
      colCount (ptm3 key bins cnt) i ≤ 1) ∧
    (r.const = false → (∀ i, i < nk * nth → r.labels[i]! ≠ 0) →
      ∀ s, nparts bins ≤ s → ∀ (i : Nat) (h : i < Eorig.length),
        colSum (ptm1 key wscut bins (some s)) i = Eorig[i] ∧ colSum (ptm2 key wscut bins (some s)) i = Eorig[i] ∧
          colSum (ptm3 key bins (some s)) i = Eorig[i]) := by
  intro r bins
  refine ⟨binsOf_e Eorig _ ws _ hE (labelsOf_length nk nth r) hws, ?_, ?_, ?_⟩
  · exact fun cnt => ⟨bin_sound_ptm1 key wscut bins cnt, bin_sound_ptm2 key wscut bins cnt, bin_sound_ptm3 key bins cnt⟩
  · exact fun cnt i => ⟨masks_disjoint_ptm1 key wscut bins cnt i, masks_disjoint_ptm2 key wscut bins cnt i,
      masks_disjoint_ptm3 key bins cnt i⟩
  · intro hc h0 s hs' i h
    obtain ⟨K, -, hK, h1, -⟩ :=
      ptm_conserves_with_watershed nk nth ihmax hk ht hi specSm hs iqFill Eorig ws hE hws key wscut hc h0
    exact h1 s (hK ▸ hs') i h

/-- **no hidden state**: `partition` is a function of its arguments alone (grid, level count, neighbour table, spectrum,
    initial queue filling, trace flag) — equal inputs give the equal result record (labels, levels, order, trace, flags);
    in particular it reads no spectrum but `spec` -/
theorem partition_deterministic (nk nth ihmax : Nat) (nb nb' spec spec' : Array Int) (iqFill iqFill' : Int)
    (tr tr' : Bool) (hnb : nb = nb') (hspec : spec = spec') (hq : iqFill = iqFill') (htr : tr = tr') :
    SP.partition nk nth ihmax nb spec iqFill tr = SP.partition nk nth ihmax nb' spec' iqFill' tr' := by
  subst hnb hspec hq htr; rfl

/-! ## the hypotheses are satisfiable; concrete numbers -/

/-- the 2×4 two-peak spectrum of `C04sound`: not constant, no `0` left, label map `[1,2,2,1,1,2,2,1]` -/
def demoSpec : Array Int := #[9, 0, 7, 0, 1, 0, 1, 0]
/-- a spectrum to split that is *not* the one given to the watershed -/
def demoE : Vec := [1, 2, 3, 4, 5, 6, 7, 9]
def demoWs : List Bool := [true, false, false, false, true, false, false, false]

/-- the run of the watershed model on `demoSpec` (evaluated in `C04sound`); everything below about the demo is read off it -/
theorem demo_run : (SP.partition 2 4 4 (Neigh.table 2 4) demoSpec 0 true).labels = #[1, 2, 2, 1, 1, 2, 2, 1] ∧
    (SP.partition 2 4 4 (Neigh.table 2 4) demoSpec 0 true).const = false :=
  ⟨C04.twoPeaks_run.2, C04.twoPeaks_run.1⟩

theorem demo_labelsOf : labelsOf 2 4 (SP.partition 2 4 4 (Neigh.table 2 4) demoSpec 0 true) = [1, 2, 2, 1, 1, 2, 2, 1] := by
  rw [labelsOf, demo_run.1]
  rfl

theorem demo_hyps : (SP.partition 2 4 4 (Neigh.table 2 4) demoSpec 0 true).const = false ∧
    ∀ i, i < 2 * 4 → (SP.partition 2 4 4 (Neigh.table 2 4) demoSpec 0 true).labels[i]! ≠ 0 := by
  refine ⟨demo_run.2, ?_⟩
  rw [demo_run.1]
  decide

example : demoSpec.size = 2 * 4 ∧ demoE.length = 2 * 4 ∧ demoWs.length = 2 * 4 ∧ (∀ e ∈ demoE, 0 ≤ e) := by
  decide +kernel

example : labelsOf 2 4 (SP.partition 2 4 4 (Neigh.table 2 4) demoSpec 0 true) = [1, 2, 2, 1, 1, 2, 2, 1] := demo_labelsOf

/-- the three theorems apply to it (all hypotheses hold together) … -/
example : ∃ K, nparts (binsOf demoE (labelsOf 2 4 (SP.partition 2 4 4 (Neigh.table 2 4) demoSpec 0 true)) demoWs) = K ∧
    ∀ s, K ≤ s → ∀ (i : Nat) (h : i < demoE.length),
      colSum (ptm3 (fun v => v.sum)
        (binsOf demoE (labelsOf 2 4 (SP.partition 2 4 4 (Neigh.table 2 4) demoSpec 0 true)) demoWs) (some s)) i = demoE[i] := by
  obtain ⟨K, -, hK, h, -⟩ := ptm_conserves_with_watershed 2 4 4 (by decide) (by decide) (by decide) demoSpec rfl 0
    demoE demoWs rfl rfl (fun v => v.sum) 0 demo_hyps.1 demo_hyps.2
  exact ⟨K, hK, fun s hs i hi => (h s hs i hi).2.2⟩

/-- … and this is what the composed model computes (the slots before the sort by `key`, which the kernel cannot unfold):
    two basins; PTM3 splits `demoE` into two complementary arrays; PTM2 (cutoff 1/3) into an empty primary wind sea, a
    secondary wind sea and two swells — adding to `demoE` at every bin -/
example : (ptm3Slots
      (binsOf demoE (labelsOf 2 4 (SP.partition 2 4 4 (Neigh.table 2 4) demoSpec 0 true)) demoWs)).map (·.vals) =
    [[1, 0, 0, 4, 5, 0, 0, 9], [0, 2, 3, 0, 0, 6, 7, 0]] := by
  rw [demo_labelsOf]
  decide +kernel
example :
    let bins := binsOf demoE (labelsOf 2 4 (SP.partition 2 4 4 (Neigh.table 2 4) demoSpec 0 true)) demoWs
    (ptm1Wsea (1/3) bins :: ptm2Wsea2 (1/3) bins :: ptm2Slots (1/3) bins).map (·.vals) =
      [[0, 0, 0, 0, 0, 0, 0, 0], [1, 0, 0, 0, 5, 0, 0, 0], [0, 0, 0, 4, 0, 0, 0, 9], [0, 2, 3, 0, 0, 6, 7, 0]] := by
  rw [demo_labelsOf]
  decide +kernel
example :
    let bins := binsOf demoE (labelsOf 2 4 (SP.partition 2 4 4 (Neigh.table 2 4) demoSpec 0 true)) demoWs
    (List.range 8).map (colSum (ptm1Wsea (1/3) bins :: ptm2Wsea2 (1/3) bins :: ptm2Slots (1/3) bins)) = demoE := by
  rw [demo_labelsOf]
  decide +kernel

/-- constant spectrum: the hypothesis of `ptm_constant_spectrum_loses_all` holds for `[3,3,3,3]`, and the composed model
    sees no basin (`nparts = 0`) for the spectrum `[3,3,3,3]` itself -/
example : ∀ i, i < 2 * 2 → (#[3, 3, 3, 3] : Array Int)[i]! = (#[3, 3, 3, 3] : Array Int)[0]! := by
  decide
example : labelsOf 2 2 (SP.partition 2 2 4 (Neigh.table 2 2) #[3, 3, 3, 3] 0 false) = [0, 0, 0, 0] ∧
    nparts (binsOf [3, 3, 3, 3] (labelsOf 2 2 (SP.partition 2 2 4 (Neigh.table 2 2) #[3, 3, 3, 3] 0 false))
      [false, false, false, false]) = 0 := by decide +kernel

/-- `labelSound_cover`, `labelSound_K_unique`: a `LabelSound` label map exists (`partition_sound` on the demo) -/
example : ∃ K, C04.LabelSound (SP.graphOf 2 4 (Neigh.rows 2 4) (SP.partition 2 4 4 (Neigh.table 2 4) demoSpec 0 true).imi)
    (C04.labelAt 2 4 (SP.partition 2 4 4 (Neigh.table 2 4) demoSpec 0 true).labels) K :=
  C04.partition_sound 2 4 4 (by decide) (by decide) (by decide) demoSpec rfl 0 demo_hyps.1 demo_hyps.2
example : 0 < (SP.graphOf 2 4 (Neigh.rows 2 4) #[]).n := by decide
example : ∀ b ∈ ([⟨1, 2, false⟩, ⟨3, 1, true⟩] : List Bin), b.lab ≤ 2 := by decide
example : ∀ p ∈ [zeros C03.demo], p = zeros C03.demo := by simp
/-- `ptm_masks_from_smoothed_spectrum` on the demo: `demoSpec` plays the smoothed spectrum, `demoE` the original -/
example : ∀ s, nparts (binsOf demoE (labelsOf 2 4 (SP.partition 2 4 4 (Neigh.table 2 4) demoSpec 0 true)) demoWs) ≤ s →
    ∀ (i : Nat) (h : i < demoE.length), colSum (ptm1 (fun v => v.sum) (1/3)
      (binsOf demoE (labelsOf 2 4 (SP.partition 2 4 4 (Neigh.table 2 4) demoSpec 0 true)) demoWs) (some s)) i = demoE[i] :=
  fun s hs i h => ((ptm_masks_from_smoothed_spectrum 2 4 4 (by decide) (by decide) (by decide) demoSpec rfl 0 demoE demoWs
    rfl rfl (fun v => v.sum) (1/3)).2.2.2 demo_hyps.1 demo_hyps.2 s hs i h).1
/-- `partition_deterministic`: equal inputs exist -/
example : SP.partition 2 4 4 (Neigh.table 2 4) demoSpec 0 true = SP.partition 2 4 4 (Neigh.table 2 4) #[9, 0, 7, 0, 1, 0, 1, 0] 0 true :=
  partition_deterministic 2 4 4 _ _ _ _ 0 0 true true rfl rfl rfl rfl

end WS.C03
