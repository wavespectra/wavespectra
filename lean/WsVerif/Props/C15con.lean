import WsVerif.Model.Construct
import WsVerif.Model.ConstructArgs
import WsVerif.Model.Consts
import WsVerif.Gen.ConKernels
import WsVerif.Lemmas.ConBridge
import Mathlib.Tactic.Ring
import Mathlib.Tactic.NormNum
/-!
# C15 — T-tier: the parametric constructors are the model (`gencon_*`)

`Gen/ConKernels.lean` is regenerated on every run by `harness/translate_con.py` from the bodies of
`pierson_moskowitz`, `jonswap`, `tma`, `gaussian`, `conditional` (`wavespectra/construct/frequency.py`), `cartwright`,
`asymmetric` (`construct/direction.py`), `construct_partition` (`construct/__init__.py`) and `scaled` (`core/utils.py`).
Each theorem below identifies one regenerated definition with the hand-written model — `Model/Construct.lean` (what the
code does with the transcendental tables) and `Model/ConstructArgs.lean` (what each table is a table of) — for ALL inputs:
every frequency / direction vector, every scalar parameter, every oracle table, symbolic `pi`, `g`.

The only hypotheses: the frequency axis is non-empty (the accessor's `df`), the oracle `sqrt` is a square root at the
radicand of `hs` where a spectrum is rescaled (`SqrtAt`: the model is in pre-image form `(h / 4√H)² = h² / 16H`), and
the `cos^{2s}` table has one column per direction (the code normalises with `dir.size`, the model with the row length).
Literals, signatures, defaults, the untranslated plumbing statements and the unguarded divisors are pinned at the end.
-/
namespace WS.C15
open WS WS.Stats WS.Construct WS.ConBridge

theorem gencon_scaled_eq (sqrt : ℚ → ℚ) (f E : Vec) (h : ℚ) (hf : f ≠ []) (hs : SqrtAt sqrt (H f E)) :
    Gen.conScaled sqrt f E h = Construct.scaled Consts.thr Consts.quarter h f E := by
  unfold Gen.conScaled
  rw [xrHs_1d sqrt f E hf]
  exact scaled_core sqrt f E h hs

theorem gencon_pm_args (f fp alpha : ℚ) :
    Gen.conPm_ex_fn = "np.exp(·0)" ∧ Gen.conPm_ex_arg0 f fp alpha = pmExpArg fp f :=
  ⟨rfl, pmExpArg_gen f fp⟩

theorem gencon_pm_eq (pi g : ℚ) (sqrt : ℚ → ℚ) (f : Vec) (fp alpha : ℚ) (h : Option ℚ) (ex : Vec) (hf : f ≠ [])
    (hs : ∀ hv, h = some hv → SqrtAt sqrt (H f (pmRaw (f.map (phillips pi g alpha)) ex))) :
    Gen.conPm pi g sqrt f fp alpha h ex = Construct.pm Consts.thr Consts.quarter h f (f.map (phillips pi g alpha)) ex := by
  simp only [Gen.conPm, phillips_div_gen]
  cases h with
  | none => rfl
  | some hv => exact gencon_scaled_eq sqrt f _ hv hf (hs hv rfl)

theorem gencon_jonswap_args (f fp alpha gamma sa sb : ℚ) :
    Gen.conJonswap_ex_fn = "np.exp(·0)" ∧ Gen.conJonswap_pw_fn = "·0 ** np.exp(·1)" ∧
    Gen.conJonswap_ex_arg0 f fp alpha gamma sa sb = pmExpArg fp f ∧
    Gen.conJonswap_pw_arg0 f fp alpha gamma sa sb = gamma ∧
    Gen.conJonswap_pw_arg1 f fp alpha gamma sa sb = peakExpArg fp (sigmaSel fp sa sb f) f :=
  ⟨rfl, rfl, pmExpArg_gen f fp, rfl, peakExpArg_gen f fp sa sb⟩

theorem gencon_jonswap_eq (pi g : ℚ) (sqrt : ℚ → ℚ) (f : Vec) (fp alpha gamma sa sb : ℚ) (h : Option ℚ) (ex pw : Vec)
    (hf : f ≠ []) (hs : ∀ hv, h = some hv → SqrtAt sqrt (H f (jonswapRaw (f.map (phillips pi g alpha)) ex pw))) :
    Gen.conJonswap pi g sqrt f fp alpha gamma sa sb h ex pw =
      Construct.jonswap Consts.thr Consts.quarter h f (f.map (phillips pi g alpha)) ex pw := by
  simp only [Gen.conJonswap, phillips_mul_gen]
  cases h with
  | none => rfl
  | some hv => exact gencon_scaled_eq sqrt f _ hv hf (hs hv rfl)

theorem gencon_tma_args (pi : ℚ) (sqrt : ℚ → ℚ) (f fp dep alpha gamma sa sb : ℚ) :
    Gen.conTma_ex_fn = "np.exp(·0)" ∧ Gen.conTma_pw_fn = "·0 ** np.exp(·1)" ∧
    Gen.conTma_th_fn = "np.tanh(·0)" ∧ Gen.conTma_sh_fn = "np.sinh(·0)" ∧
    Gen.conTma_ex_arg0 f fp dep alpha gamma sa sb = pmExpArg fp f ∧
    Gen.conTma_pw_arg0 f fp dep alpha gamma sa sb = gamma ∧
    Gen.conTma_pw_arg1 f fp dep alpha gamma sa sb = peakExpArg fp (sigmaSel fp sa sb f) f ∧
    Gen.conTma_th_arg0 pi sqrt f fp dep alpha gamma sa sb = kd pi sqrt dep f ∧
    Gen.conTma_sh_arg0 pi sqrt f fp dep alpha gamma sa sb = 2 * kd pi sqrt dep f :=
  ⟨rfl, rfl, rfl, rfl, pmExpArg_gen f fp, rfl, peakExpArg_gen f fp sa sb, kd_gen pi sqrt dep f, kd2_gen pi sqrt dep f⟩

/-- the depth factor computed by the regenerated `tma` from the tables `th = tanh(k·d)`, `sh = sinh(2·k·d)` -/
abbrev genPhi (pi : ℚ) (sqrt : ℚ → ℚ) (dep : ℚ) (f th sh : Vec) : Vec := tmaPhi (f.map (kd pi sqrt dep)) th sh

theorem gencon_tma_eq (pi g : ℚ) (sqrt : ℚ → ℚ) (f : Vec) (fp dep alpha gamma sa sb : ℚ) (h : Option ℚ)
    (ex pw th sh : Vec) (hf : f ≠ [])
    (hs1 : ∀ hv, h = some hv → SqrtAt sqrt (H f (jonswapRaw (f.map (phillips pi g alpha)) ex pw)))
    (hs2 : ∀ hv j, h = some hv →
      Construct.jonswap Consts.thr Consts.quarter h f (f.map (phillips pi g alpha)) ex pw = some j →
      SqrtAt sqrt (H f (mulV j (genPhi pi sqrt dep f th sh)))) :
    Gen.conTma pi g sqrt f fp dep alpha gamma sa sb h ex pw th sh =
      Construct.tma Consts.thr Consts.quarter h f (f.map (phillips pi g alpha)) ex pw (genPhi pi sqrt dep f th sh) := by
  simp only [Gen.conTma, Construct.tma, kd2_gen, phi_gen,
    gencon_jonswap_eq pi g sqrt f fp alpha gamma sa sb h ex pw hf hs1]
  cases hj : Construct.jonswap Consts.thr Consts.quarter h f (f.map (phillips pi g alpha)) ex pw with
  | none => cases h <;> rfl
  | some j =>
    cases h with
    | none => rfl
    | some hv => exact gencon_scaled_eq sqrt f _ hv hf (hs2 hv j rfl hj)

theorem gencon_gaussian_args (f hs fp gw : ℚ) :
    Gen.conGaussian_ex_fn = "np.exp(·0)" ∧ Gen.conGaussian_ex_arg0 f hs fp gw = gaussExpArg fp gw f :=
  ⟨rfl, gaussExpArg_gen f fp gw⟩

theorem gencon_gaussian_eq (pi : ℚ) (sqrt : ℚ → ℚ) (f : Vec) (hs fp gw : ℚ) (ex : Vec) (hf : f ≠ [])
    (hsq : SqrtAt sqrt (H f (gaussTable pi sqrt hs gw ex))) :
    Gen.conGaussian pi sqrt f hs fp gw ex =
      Construct.gaussian Consts.thr Consts.quarter hs f (gaussTable pi sqrt hs gw ex) := by
  unfold Gen.conGaussian Construct.gaussian
  exact gencon_scaled_eq sqrt f _ hs hf hsq

theorem gencon_conditional_args (f hs fp alpha gamma sa sb gw : ℚ) :
    Gen.conConditional_ex_fn = "np.exp(·0)" ∧ Gen.conConditional_pw_fn = "·0 ** np.exp(·1)" ∧
    Gen.conConditional_ex2_fn = "np.exp(·0)" ∧
    Gen.conConditional_ex_arg0 f hs fp alpha gamma sa sb gw = pmExpArg fp f ∧
    Gen.conConditional_pw_arg0 f hs fp alpha gamma sa sb gw = gamma ∧
    Gen.conConditional_pw_arg1 f hs fp alpha gamma sa sb gw = peakExpArg fp (sigmaSel fp sa sb f) f ∧
    Gen.conConditional_ex2_arg0 f hs fp alpha gamma sa sb gw = gaussExpArg fp gw f :=
  ⟨rfl, rfl, rfl, pmExpArg_gen f fp, rfl, peakExpArg_gen f fp sa sb, gaussExpArg_gen f fp gw⟩

/-- the regenerated `conditional` is the elementwise choice between the two regenerated shapes, both built with the
    same `hs` (JONSWAP where `cond`, Gaussian elsewhere) -/
theorem gencon_conditional_select (pi g : ℚ) (sqrt : ℚ → ℚ) (f : Vec) (hs fp : ℚ) (cond : List Bool)
    (alpha gamma sa sb gw : ℚ) (ex pw ex2 : Vec) :
    Gen.conConditional pi g sqrt f hs fp cond alpha gamma sa sb gw ex pw ex2 =
      (Gen.conJonswap pi g sqrt f fp alpha gamma sa sb (some hs) ex pw).bind fun a =>
        (Gen.conGaussian pi sqrt f hs fp gw ex2).map fun b => selectV cond a b := by
  unfold Gen.conConditional
  simp only [select_gen]

theorem gencon_conditional_eq (pi g : ℚ) (sqrt : ℚ → ℚ) (f : Vec) (hs fp : ℚ) (cond : List Bool)
    (alpha gamma sa sb gw : ℚ) (ex pw ex2 : Vec) (hf : f ≠ [])
    (h1 : SqrtAt sqrt (H f (jonswapRaw (f.map (phillips pi g alpha)) ex pw)))
    (h2 : SqrtAt sqrt (H f (gaussTable pi sqrt hs gw ex2))) :
    Gen.conConditional pi g sqrt f hs fp cond alpha gamma sa sb gw ex pw ex2 =
      Construct.conditional Consts.thr Consts.quarter hs f cond (f.map (phillips pi g alpha)) ex pw
        (gaussTable pi sqrt hs gw ex2) := by
  rw [gencon_conditional_select, gencon_gaussian_eq pi sqrt f hs fp gw ex2 hf h2,
    gencon_jonswap_eq pi g sqrt f fp alpha gamma sa sb (some hs) ex pw hf (fun _ _ => h1)]
  rfl

theorem gencon_cartwright_args (pi d dm dspr : ℚ) :
    Gen.conCartwright_pw_fn = "np.cos(·0) ** ·1" ∧
    Gen.conCartwright_pw_arg0 pi d dm dspr = cosArg pi d dm ∧
    Gen.conCartwright_pw_arg1 pi d dm dspr = cosExp pi dspr :=
  ⟨rfl, cosArg_gen pi d dm, cosExp_gen pi dspr⟩

theorem gencon_mask_eq (dirs : Vec) (dm : ℚ) (t : Vec) :
    List.zipWith (fun a b => if a = true then b else (0 : ℚ))
      (List.map (fun dir => decide (absR (if absR (dir - dm) ≤ 180 then absR (dir - dm) else 360 - absR (dir - dm)) ≤ 90)) dirs) t
      = mask90 dirs dm t := by
  rw [List.zipWith_map_left]
  simp only [decide_eq_true_eq]
  rfl

theorem gencon_cartwright_eq (pi : ℚ) (dirs : Vec) (dm dspr : ℚ) (u : Bool) (pw : Vec) (hl : pw.length = dirs.length) :
    Gen.conCartwright pi dirs dm dspr u pw = Construct.cartwright pi u dirs dm pw := by
  unfold Gen.conCartwright Construct.cartwright
  simp only [gencon_mask_eq]
  cases u with
  | false => exact cartwrightRow_gen pi pw dirs.length hl
  | true => exact cartwrightRow_gen pi (mask90 dirs dm pw) dirs.length (mask90_length dirs dm pw hl)

theorem gencon_maskF_eq (dirs dms : Vec) (T : Mat) :
    List.zipWith (fun ra rb => List.zipWith (fun a b => if a = true then b else (0 : ℚ)) ra rb)
      (List.map (fun dm => List.map (fun dir =>
        decide (absR (if absR (dir - dm) ≤ 180 then absR (dir - dm) else 360 - absR (dir - dm)) ≤ 90)) dirs) dms) T
      = List.zipWith (fun m t => mask90 dirs m t) dms T := by
  rw [List.zipWith_map_left]
  congr 1
  funext m t
  exact gencon_mask_eq dirs m t

/-- with per-frequency parameters (`asymmetric` calls it with `under_90=False`) -/
theorem gencon_cartwrightF_eq (pi : ℚ) (dirs dms dsprs : Vec) (u : Bool) (T : Mat) (hl : ∀ t ∈ T, t.length = dirs.length) :
    Gen.conCartwrightF pi dirs dms dsprs u T = Construct.cartwrightF pi u dirs dms T := by
  unfold Gen.conCartwrightF Construct.cartwrightF
  simp only [gencon_maskF_eq]
  cases u with
  | false => exact spreadRows_gen pi T dirs.length hl
  | true => exact spreadRows_gen pi _ dirs.length (mask_rows_length dirs dms T hl)

theorem gencon_asymmetric_args (pi d f dm dpm dspr dpspr fm fp : ℚ) :
    Gen.conAsymmetric_pw_fn = "np.cos(·0) ** ·1" ∧
    Gen.conAsymmetric_pw_arg0 pi d f dm dpm dspr dpspr fm fp = cosArg pi d (asymThetaAt dm dpm fm fp f) ∧
    Gen.conAsymmetric_pw_arg1 pi d f dm dpm dspr dpspr fm fp = cosExp pi (asymSigmaAt dspr dpspr fm fp f) :=
  ⟨rfl, cosArg_gen pi d _, cosExp_gen pi _⟩

/-- the per-frequency mean direction and spread handed to `cartwright` are the model's `asymTheta` / `asymSigma` -/
theorem gencon_asymmetric_params (pi : ℚ) (dirs f : Vec) (dm dpm dspr dpspr fm fp : ℚ) (T : Mat) :
    Gen.conAsymmetric pi dirs f dm dpm dspr dpspr fm fp T =
      Gen.conCartwrightF pi dirs (asymTheta K.lo K.hi K.dfmin dm dpm fm fp f)
        (asymSigma K.lo K.hi K.dfmin K.smin dspr dpspr fm fp f) false T := by
  simp only [Gen.conAsymmetric, asymTheta, asymSigma, asymDd, K.lo, K.hi, K.dfmin, K.smin, ge_iff_le]
  rfl

theorem gencon_asymmetric_eq (pi : ℚ) (dirs f : Vec) (dm dpm dspr dpspr fm fp : ℚ) (T : Mat)
    (hl : ∀ t ∈ T, t.length = dirs.length) :
    Gen.conAsymmetric pi dirs f dm dpm dspr dpspr fm fp T = spreadRows pi T := by
  rw [gencon_asymmetric_params, gencon_cartwrightF_eq pi dirs _ _ false T hl]
  rfl

/-! ## `construct_partition`: shape ⊗ spreading, NaN rows filled with zeros -/

theorem gencon_construct_eq (nd : ℕ) (shape : Vec) (G : List (Option Vec)) :
    Gen.conConstructPartition nd shape G = outerRows nd shape G := by
  unfold Gen.conConstructPartition outerRows
  simp only [List.map_zipWith]
  congr 1
  funext a r
  cases r <;> simp

/-- the same spreading for every frequency (`cartwright` with scalar `dm`, `dspr`) -/
theorem gencon_constructD_eq (nd : ℕ) (shape : Vec) (g : Option Vec) :
    Gen.conConstructPartitionD nd shape g = outerRows nd shape (constRows shape.length g) := by
  unfold Gen.conConstructPartitionD outerRows constRows
  rw [← List.map_const', List.zipWith_map_right, List.zipWith_self, List.map_map]
  apply List.map_congr_left
  intro a _
  cases g <;> rfl

/-- regenerated shape ⊗ regenerated cos-2s spreading through the regenerated `construct_partition` -/
theorem gencon_construct_cartwright (nd : ℕ) (shape : Vec) (pi : ℚ) (dirs : Vec) (dm dspr : ℚ) (u : Bool) (pw : Vec)
    (hl : pw.length = dirs.length) :
    Gen.conConstructPartitionD nd shape (Gen.conCartwright pi dirs dm dspr u pw) =
      outerRows nd shape (constRows shape.length (Construct.cartwright pi u dirs dm pw)) := by
  rw [gencon_cartwright_eq pi dirs dm dspr u pw hl, gencon_constructD_eq]

/-- regenerated shape ⊗ regenerated asymmetric spreading -/
theorem gencon_construct_asymmetric (nd : ℕ) (shape : Vec) (pi : ℚ) (dirs f : Vec) (dm dpm dspr dpspr fm fp : ℚ) (T : Mat)
    (hl : ∀ t ∈ T, t.length = dirs.length) :
    Gen.conConstructPartition nd shape (Gen.conAsymmetric pi dirs f dm dpm dspr dpspr fm fp T) =
      outerRows nd shape (spreadRows pi T) := by
  rw [gencon_asymmetric_eq pi dirs f dm dpm dspr dpspr fm fp T hl, gencon_construct_eq]

/-! ## pins: signatures, defaults, literals, untranslated statements (as source text), unguarded divisors -/

theorem gencon_untranslatable_none : Gen.conUntranslatable = [] := rfl

theorem gencon_signatures :
    Gen.conScaled_sig = "spec, hs" ∧
    Gen.conPm_sig = "freq, fp, alpha=0.0081, hs=None, **kwargs" ∧
    Gen.conJonswap_sig = "freq, fp, alpha=0.0081, gamma=3.3, sigma_a=0.07, sigma_b=0.09, hs=None, **kwargs" ∧
    Gen.conTma_sig = "freq, fp, dep, alpha=0.0081, gamma=3.3, sigma_a=0.07, sigma_b=0.09, hs=None, **kwargs" ∧
    Gen.conGaussian_sig = "freq, hs, fp, gw, **kwargs" ∧
    Gen.conConditional_sig = "freq, hs, fp, cond, when_true='jonswap', when_false='gaussian', **kwargs" ∧
    Gen.conCartwright_sig = "dir, dm, dspr, under_90=False, **kwargs" ∧
    Gen.conCartwrightF_sig = "dir, dm, dspr, under_90=False, **kwargs" ∧
    Gen.conAsymmetric_sig = "dir, freq, dm, dpm, dspr, dpspr, fm, fp, **kwargs" ∧
    Gen.conConstructPartition_sig = "freq_name='jonswap', dir_name='cartwright', freq_kwargs={}, dir_kwargs={}" ∧
    Gen.conConstructPartitionD_sig = "freq_name='jonswap', dir_name='cartwright', freq_kwargs={}, dir_kwargs={}" :=
  ⟨rfl, rfl, rfl, rfl, rfl, rfl, rfl, rfl, rfl, rfl, rfl⟩

/-- `alpha=0.0081, gamma=3.3, sigma_a=0.07, sigma_b=0.09, hs=None` wherever they occur -/
theorem gencon_defaults_frequency :
    Gen.conPm_alpha_default = K.alpha ∧ Gen.conPm_hs_default = none ∧
    Gen.conJonswap_alpha_default = K.alpha ∧ Gen.conJonswap_gamma_default = K.gamma ∧
    Gen.conJonswap_sigma_a_default = K.sigmaA ∧ Gen.conJonswap_sigma_b_default = K.sigmaB ∧
    Gen.conJonswap_hs_default = none ∧
    Gen.conTma_alpha_default = K.alpha ∧ Gen.conTma_gamma_default = K.gamma ∧
    Gen.conTma_sigma_a_default = K.sigmaA ∧ Gen.conTma_sigma_b_default = K.sigmaB ∧ Gen.conTma_hs_default = none := by
  decide +kernel

/-- the constants of the model are the doubles nearest to the decimal numbers of the signatures -/
theorem gencon_defaults_values :
    |K.alpha - 81 / 10000| * 2 ^ 52 < 1 ∧ |K.gamma - 33 / 10| * 2 ^ 50 < 1 ∧
    |K.sigmaA - 7 / 100| * 2 ^ 52 < 1 ∧ |K.sigmaB - 9 / 100| * 2 ^ 52 < 1 := by
  decide +kernel

theorem gencon_defaults_other :
    Gen.conConditional_when_true_default = "jonswap" ∧ Gen.conConditional_when_false_default = "gaussian" ∧
    Gen.conCartwright_under_90_default = false ∧
    Gen.conConstructPartition_freq_name_default = "jonswap" ∧ Gen.conConstructPartition_dir_name_default = "cartwright" ∧
    Gen.conConstructPartition_freq_kwargs_default = "{}" ∧ Gen.conConstructPartition_dir_kwargs_default = "{}" :=
  ⟨rfl, rfl, rfl, rfl, rfl, rfl, rfl⟩

/-- the statements that are NOT translated (coordinate checks, `to_coords`, names/attributes, `xr.broadcast` of two
    arrays over the same dimension, the `inspect` idiom of `conditional`), pinned as source text -/
theorem gencon_plumbing :
    Gen.conScaled_plumbing = [] ∧
    Gen.conPm_plumbing = ["check_same_coordinates(fp, alpha)",
      "if not isinstance(freq, xr.DataArray): freq = to_coords(freq, 'freq')", "dsout.name = attrs.SPECNAME"] ∧
    Gen.conJonswap_plumbing = ["check_same_coordinates(fp, alpha, gamma, sigma_a, sigma_b, hs)",
      "if not isinstance(freq, xr.DataArray): freq = to_coords(freq, 'freq')", "dsout.name = attrs.SPECNAME"] ∧
    Gen.conTma_plumbing = ["check_same_coordinates(fp, dep, alpha, gamma, sigma_a, sigma_b, hs)",
      "if not isinstance(freq, xr.DataArray): freq = to_coords(freq, 'freq')", "dsout.name = attrs.SPECNAME"] ∧
    Gen.conGaussian_plumbing = ["check_same_coordinates(hs, fp, gw)",
      "if not isinstance(freq, xr.DataArray): freq = to_coords(freq, 'freq')", "dsout.name = attrs.SPECNAME"] ∧
    Gen.conConditional_plumbing = ["check_same_coordinates(hs, fp, cond)",
      "if not isinstance(freq, xr.DataArray): freq = to_coords(freq, 'freq')", "import inspect",
      "arg_vals = inspect.getargvalues(inspect.currentframe())",
      "arguments = {a: arg_vals.locals[a] for a in arg_vals.args}", "arguments.update(arg_vals.locals['kwargs'])",
      "dsout.name = attrs.SPECNAME"] ∧
    Gen.conCartwright_plumbing = ["check_same_coordinates(dm, dspr)",
      "if not isinstance(dir, xr.DataArray): dir = to_coords(dir, 'dir')"] ∧
    Gen.conCartwrightF_plumbing = Gen.conCartwright_plumbing ∧
    Gen.conAsymmetric_plumbing = ["check_same_coordinates(dm, dpm, dspr, dpspr, fm, fp)",
      "if not isinstance(freq, xr.DataArray): freq = to_coords(freq, 'freq')",
      "if not isinstance(dir, xr.DataArray): dir = to_coords(dir, 'dir')", "theta, sigma = xr.broadcast(theta, sigma)"] ∧
    Gen.conConstructPartition_plumbing = ["set_spec_attributes(dset)"] ∧
    Gen.conConstructPartitionD_plumbing = ["set_spec_attributes(dset)"] :=
  ⟨rfl, rfl, rfl, rfl, rfl, rfl, rfl, rfl, rfl, rfl, rfl⟩

/-- `construct_partition` loads the two functions by name from exactly these modules and calls them with the two
    keyword dictionaries; their results are the parameters `efth1d`, `spread` of the regenerated definition -/
theorem gencon_construct_calls :
    Gen.conConstructPartition_calls =
      ["efth1d = load_function('wavespectra.construct.frequency', freq_name)(**freq_kwargs)",
       "spread = load_function('wavespectra.construct.direction', dir_name)(**dir_kwargs)"] ∧
    Gen.conConstructPartitionD_calls = Gen.conConstructPartition_calls := ⟨rfl, rfl⟩

/-- the divisors that are divided by with total rational division (every other division is guarded): parameters and
    coordinates, and the `sinh` table of `tma`; where one of them vanishes numpy yields inf/nan and nothing is claimed -/
theorem gencon_divisors :
    Gen.conScaled_divisors = [] ∧
    Gen.conPm_divisors = ["(2 * pi) ** 4", "freq ** 5", "fp", "(freq / fp) ** 4"] ∧
    Gen.conJonswap_divisors = ["(2 * pi) ** 4", "freq ** 5", "fp", "(freq / fp) ** 4", "2 * sigma ** 2 * fp ** 2"] ∧
    Gen.conTma_divisors = ["jonswap: (2 * pi) ** 4", "jonswap: freq ** 5", "jonswap: fp", "jonswap: (freq / fp) ** 4",
      "jonswap: 2 * sigma ** 2 * fp ** 2", "dep", "np.sinh(2 * k * dep)", "1 + 2 * k * dep / np.sinh(2 * k * dep)"] ∧
    Gen.conGaussian_divisors = ["gw * np.sqrt(2 * pi)", "gw"] ∧
    Gen.conCartwright_divisors = ["np.deg2rad(dspr) ** 2", "dir.size", "R2D"] ∧
    Gen.conCartwrightF_divisors = Gen.conCartwright_divisors ∧
    Gen.conAsymmetric_divisors = ["df", "cartwright: np.deg2rad(dspr) ** 2", "cartwright: dir.size", "cartwright: R2D"] ∧
    Gen.conConstructPartition_divisors = [] ∧ Gen.conConstructPartitionD_divisors = [] :=
  ⟨rfl, rfl, rfl, rfl, rfl, rfl, rfl, rfl, rfl, rfl⟩

/-- the literals of the formulas, through the bridges above: each equation fails if the corresponding literal of the
    source changes (`1.25`/`5/4`, `-4`, `-5`, `2`, `0.5`, `4`, `180`, `360`, `90`, `0.001`, `0.14`, `0.5`, `1.5`) -/
theorem gencon_literals :
    pmExpArg 1 2 = -(5 / 64) ∧ phillips 1 1 1 2 = 1 / 512 ∧ peakExpArg 1 1 3 = -2 ∧ gaussExpArg 1 1 3 = -2 ∧
    gaussCoef 1 (fun _ => 1) 8 1 = 4 ∧ cosArg 180 350 10 = 10 ∧ cosExp 180 1 = 2 ∧ phiElem 1 3 2 = 9 / 2 ∧
    mask90 [0, 90, 91, 271] 0 [1, 1, 1, 1] = [1, 1, 0, 1] ∧
    K.lo = 1 / 2 ∧ K.hi = 3 / 2 := by
  decide +kernel

theorem gencon_limiter_values :
    |K.dfmin - 1 / 1000| * 2 ^ 52 < 1 ∧ |K.smin - 14 / 100| * 2 ^ 52 < 1 := by
  decide +kernel

/-! ## non-vacuity: the hypotheses of the bridges are satisfiable -/

/-- a 3-bin spectrum whose radicand is the perfect square `4`, with an oracle that is a square root there -/
example : ([1/8, 1/4, 3/8] : Vec) ≠ [] ∧ SqrtAt (fun x => if x = 4 then 2 else 0) (H [1/8, 1/4, 3/8] [32, 0, 0]) :=
  ⟨List.cons_ne_nil _ _, by decide +kernel, by decide +kernel⟩

example : Gen.conScaled (fun x => if x = 4 then 2 else 0) [1/8, 1/4, 3/8] [32, 0, 0] 8 = some [32, 0, 0] := by
  decide +kernel

/-- four directions, a table of the right length: `den = 2·(2π/4)` with `π := 3`, each entry `x/3/60` -/
example : ([1, 1/2, 0, 1/2] : Vec).length = ([0, 90, 180, 270] : Vec).length ∧
    Gen.conCartwright 3 [0, 90, 180, 270] 0 30 false [1, 1/2, 0, 1/2] = some [1/180, 1/360, 0, 1/360] ∧
    Gen.conCartwright 3 [0, 90, 180, 270] 0 30 true [1, 1/2, 1/4, 1/2] = some [1/180, 1/360, 0, 1/360] ∧
    Gen.conConstructPartitionD 4 [2, 0] (some [1/180, 1/360, 0, 1/360]) = [[1/90, 1/180, 0, 1/180], [0, 0, 0, 0]] ∧
    Gen.conConstructPartition 2 [2, 3] [some [1, 2], none] = [[2, 4], [0, 0]] := by
  decide +kernel

end WS.C15
