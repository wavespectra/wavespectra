import WsVerif.Model.IO.Native
import WsVerif.Gen.Dispatch
import WsVerif.Gen.NativeK
import WsVerif.Gen.Lits
import WsVerif.Lemmas.Sums
import WsVerif.Lemmas.Instruments
import WsVerif.Props.C10
import Mathlib.Data.Rat.Floor
import Mathlib.Tactic.NormNum
/-!
# C12 — model-native datasets are converted with the right units and direction sense

Property theorems on the model `Model/IO/Native.lean` of `read_dataset` and the `from_*` readers.
`pi` is a symbolic parameter (non-zero / positive): every statement holds for every such value, in particular
for the double `np.pi` and for the real π.  `10**x`, `cos`, `atan2` enter as oracle values (DESIGN §1.1).
Variances are the accessor's discrete rule `Σ_i Σ_j E_ij Δf_i Δθ` (`Stats.dsum`, `Δf = np.gradient`, `Δθ = dd`).
-/
namespace WS.C12
open WS WS.Stats WS.Native

/-! ## T-tier: the regenerated tables and kernels are the model's -/

/-- the dispatch table regenerated from `input/dataset.py` (signature sets, test order, reader called) -/
theorem gen_dispatch : Gen.dispatchTable = Native.dispatchTable := rfl

theorem gen_consts (pi : ℚ) : Gen.utils_D2R pi = d2r pi ∧ Gen.utils_R2D pi = r2d pi ∧
    Gen.ncswan_R2D pi = r2d pi ∧ Gen.wwm_R2D pi = r2d pi := ⟨rfl, rfl, rfl, rfl⟩

theorem gen_ww3 (pi x : ℚ) : Gen.ww3_spec pi x = ww3Spec pi x ∧ Gen.ww3_dir pi x = ww3Dir x := ⟨rfl, rfl⟩

theorem gen_ncswan (pi x : ℚ) : Gen.ncswan_spec pi x = ncswanSpec pi x ∧ Gen.ncswan_dir pi x = ncswanDir pi x :=
  ⟨rfl, rfl⟩

theorem gen_wwm (pi sig x : ℚ) : Gen.wwm_freq pi sig = wwmFreq pi sig ∧ Gen.wwm_dir pi x = wwmDir pi x ∧
    Gen.wwm_spec pi sig x = wwmSpec pi sig x := ⟨rfl, rfl, rfl⟩

theorem gen_era5 (pi p : ℚ) : Gen.era5_spec pi p = era5Spec pi (some p) ∧ Gen.era5_fill = era5Spec pi none :=
  ⟨rfl, rfl⟩

/-- the literals of the ERA5 default grids (`np.full(30, 0.03453) * 1.1 ** np.arange(0, 30)`,
    `(np.arange(7.5, 352.5 + 15, 15) + 180) % 360`) and of the readers are the model's -/
theorem gen_era5_grids :
    Gen.lits_era5_DEFAULT_FREQS = [30, era5F0, era5Ratio, 0, 30] ∧
    Gen.src_era5_DEFAULT_FREQS = "np.full(30, 0.03453) * 1.1 ** np.arange(0, 30)" ∧
    Gen.lits_era5_DEFAULT_DIRS = [15 / 2, 705 / 2, 15, 15, 180, 360] ∧
    Gen.src_era5_DEFAULT_DIRS = "(np.arange(7.5, 352.5 + 15, 15) + 180) % 360" := ⟨rfl, rfl, rfl, rfl⟩

theorem gen_ndbc (pi ef d r1 r2 c1 c2 a1 a2 θ : ℚ) :
    Gen.ndbc_dist r1 r2 c1 c2 = ndbcDist r1 r2 c1 c2 ∧ Gen.ndbc_spec pi ef d = ndbcSpec pi ef d ∧
    Gen.ndbc_cosarg1 pi a1 a2 θ = d2r pi * (θ - a1) ∧ Gen.ndbc_cosarg2 pi a1 a2 θ = 2 * d2r pi * (θ - a2) :=
  ⟨rfl, rfl, rfl, rfl⟩

theorem gen_uv (u v a : ℚ) (cf : Bool) : Gen.uv_mag2 u v = uvMag2 u v ∧ Gen.uv_dir cf a = uvDir cf a := ⟨rfl, rfl⟩

/-- both readers that build winds call `uv_to_spddir(east, north, coming_from=True)` -/
theorem gen_uv_calls :
    Gen.ncswan_uv_call = ["(dset[attrs.WSPDNAME], dset[attrs.WDIRNAME])", "dset['xwnd']", "dset['ywnd']", "coming_from=True"] ∧
    Gen.wwm_uv_call = ["(dset[attrs.WSPDNAME], dset[attrs.WDIRNAME])", "dset['Uwind']", "dset['Vwind']", "coming_from=True"] :=
  ⟨rfl, rfl⟩

theorem gen_lits : Gen.lits_ww3_from_ww3 = [0, 0, 180, 360] ∧ Gen.lits_ncswan_from_ncswan = [0, 0, 360, 1, 1] ∧
    Gen.lits_wwm_from_wwm = [2, 360, 2] ∧ Gen.lits_era5_from_era5 = [10, 180, 0] ∧
    Gen.lits_ndbc_construct_spectra = [1 / 2, 2] ∧ Gen.lits_ndbc_from_ndbc = [10, 0, 360] ∧
    Gen.lits_utils_uv_to_spddir = [270, 90, 2, 2, 360] := ⟨rfl, rfl, rfl, rfl, rfl, rfl, rfl⟩

/-- name mappings: the spectrum variable, the spectral coordinates and the optional variables of every
    convention are renamed to the wavespectra names, and only wavespectra names are kept -/
theorem gen_mappings :
    Gen.mapping_ww3 = [("time", "time"), ("frequency", "freq"), ("direction", "dir"), ("station", "site"),
      ("efth", "efth"), ("longitude", "lon"), ("latitude", "lat"), ("wnddir", "wdir"), ("wnd", "wspd")] ∧
    Gen.mapping_ncswan = [("time", "time"), ("frequency", "freq"), ("direction", "dir"), ("points", "site"),
      ("density", "efth"), ("longitude", "lon"), ("latitude", "lat"), ("depth", "dpt")] ∧
    Gen.mapping_wwm = [("nfreq", "freq"), ("ndir", "dir"), ("nbstation", "site"), ("AC", "efth"), ("lon", "lon"),
      ("lat", "lat"), ("DEP", "dpt"), ("ocean_time", "time")] ∧
    Gen.mapping_ndbc = [("time", "time"), ("frequency", "freq"), ("direction", "dir"),
      ("spectral_wave_density", "efth"), ("longitude", "lon"), ("latitude", "lat"), ("depth", "dpt")] ∧
    Gen.to_keep = ["efth", "wspd", "wdir", "dpt", "lon", "lat"] := ⟨rfl, rfl, rfl, rfl, rfl⟩

/-! ## dispatch -/

theorem subsetB_iff (s v : List String) : subsetB s v = true ↔ ∀ x ∈ s, x ∈ v := by
  simp only [subsetB, List.all_eq_true, List.contains_iff_mem]

theorem find_congr {α : Type} (p q : α → Bool) (l : List α) (h : ∀ x ∈ l, p x = q x) :
    l.find? p = l.find? q := by
  rw [← List.head?_filter, ← List.head?_filter, List.filter_congr h]

/-- the routing only asks which signature names are present: neither the order or multiplicity of the dataset's
    names (the code works on a Python `set`) nor names outside every signature influence it -/
theorem dispatch_congr (table : List (String × List String)) (v w : List String)
    (h : ∀ p ∈ table, ∀ x ∈ p.2, (x ∈ v ↔ x ∈ w)) : dispatch table v = dispatch table w := by
  unfold dispatch
  rw [find_congr _ _ table fun p hp => ?_]
  rw [Bool.eq_iff_iff, subsetB_iff, subsetB_iff]
  exact forall₂_congr (h p hp)

/-- each convention's own signature is routed to its own reader by the code's table, in the code's test order -/
theorem conv_routes : ∀ c ∈ conventions, dispatch Native.dispatchTable c.2 = some c.1 := by decide +kernel

/-- **dispatch_correct**: a dataset whose names are a convention's signature names plus *any* further names that
    are not signature names of some convention (times, positions, winds, depths, anything) is routed to that
    convention's own reader; a dataset in the wavespectra convention is returned unchanged (`identity`).
    The table is the one regenerated from the source (`gen_dispatch`). -/
theorem dispatch_correct (vars extra : List String) (c : String × List String) (hc : c ∈ conventions)
    (hextra : ∀ x ∈ extra, x ∉ sigNames) (hvars : ∀ x, x ∈ vars ↔ x ∈ c.2 ∨ x ∈ extra) :
    dispatch Gen.dispatchTable vars = some c.1 := by
  rw [gen_dispatch, dispatch_congr _ vars c.2 fun p hp x hx => ?_]
  · exact conv_routes c hc
  · rw [hvars x]
    exact or_iff_left fun hxe => hextra x hxe (List.mem_flatMap.mpr ⟨p, hp, hx⟩)

/-- optional variables of the conventions (MAPPING keys, wind components, spectral-grid variables, NDBC moments)
    that are not signature names -/
def optionalNames : List String :=
  ((Gen.mapping_ww3 ++ Gen.mapping_ncswan ++ Gen.mapping_wwm ++ Gen.mapping_ndbc).map (·.1) ++
    ["dpt", "xwnd", "ywnd", "Uwind", "Vwind", "SPSIG", "SPDIR", "mean_wave_dir", "principal_wave_dir",
     "wave_spectrum_r1", "wave_spectrum_r2", "string16"]).filter fun x => !sigNames.contains x

theorem optional_not_sig (x : String) (hx : x ∈ optionalNames) : x ∉ sigNames := fun hs => by
  have := (List.mem_filter.mp hx).2
  rw [List.contains_iff_mem.mpr hs] at this
  cases this

/-- … in particular with any selection of the other conventions' optional variables present -/
theorem dispatch_correct_optional (extra : List String) (c : String × List String) (hc : c ∈ conventions)
    (hextra : ∀ x ∈ extra, x ∈ optionalNames) : dispatch Gen.dispatchTable (c.2 ++ extra) = some c.1 :=
  dispatch_correct (c.2 ++ extra) extra c hc (fun x hx => optional_not_sig x (hextra x hx)) fun _ => List.mem_append

/-- a dataset containing no complete signature raises `ValueError` -/
theorem dispatch_unknown (vars : List String) (h : ∀ p ∈ Native.dispatchTable, subsetB p.2 vars = false) :
    dispatch Gen.dispatchTable vars = none := by
  rw [gen_dispatch]
  unfold dispatch
  rw [List.find?_eq_none.mpr (fun p hp => by simp [h p hp])]
  rfl

/-! ## naming: the result is laid out in the wavespectra convention -/

theorem gen_mapping_tables : Gen.mapping_ww3 = mappingWW3 ∧ Gen.mapping_ncswan = mappingNcswan ∧
    Gen.mapping_wwm = mappingWWM ∧ Gen.mapping_ndbc = mappingNdbc ∧ Gen.mapping_era5 = mappingEra5 := ⟨rfl, rfl, rfl, rfl, rfl⟩

/-- how the readers rename: every reader renames the keys of its table that are present in the dataset
    (ww3 / ncswan / ndbc through the local `mapping`, wwm and era5 inline) -/
theorem gen_renames :
    Gen.renames_ww3 = ["dset.rename(mapping)"] ∧ Gen.renames_ncswan = ["dset.rename(mapping)"] ∧
    Gen.renames_wwm = ["dset.rename({k: v for k, v in MAPPING.items() if k != v and k in names})"] ∧
    Gen.renames_era5 = ["dset.rename({k: v for k, v in native.items() if k in names})"] ∧
    Gen.renames_ndbc = ["dset.rename(mapping)", "dset.rename(mapping)"] ∧
    Gen.mapping_expr_ww3 = ["{k: v for k, v in MAPPING.items() if k != v and k in vars_and_dims}"] ∧
    Gen.mapping_expr_ncswan = ["{k: v for k, v in MAPPING.items() if k != v and k in vars_and_dims}"] ∧
    Gen.mapping_expr_ndbc = ["{}", "{k: v for k, v in MAPPING.items() if k != v and k in vars_and_dims}"] ∧
    Gen.mapping_expr_wwm = [] ∧ Gen.mapping_expr_era5 = [] := ⟨rfl, rfl, rfl, rfl, rfl, rfl, rfl, rfl, rfl, rfl⟩

/-- a dataset of convention `c` carrying every optional positional/time/depth variable of its convention -/
def equipped (c : String × List String × List String × String) : List String :=
  c.2.1 ++ ["time", "ocean_time", "lon", "lat", "DEP", "longitude", "latitude", "depth"]

/-- the result of a reader (`od` = its dimension model, `os` = its spectrum-name model) is in the wavespectra
    convention: spectrum `efth`, dimensions `freq` and `dir`, no native signature dimension left -/
def namesOkWith (od : String → Bool → List String → List String → Except Err (List String)) (os : String → String → String)
    (c : String × List String × List String × String) : Bool :=
  os c.1 c.2.2.2 == "efth" &&
    match od c.1 true (equipped c) c.2.2.1 with
    | .ok d => d.contains "freq" && d.contains "dir" && c.2.2.1.all (fun n => !d.contains n)
    | .error _ => false

def namesOk := namesOkWith outDims outSpec

/-- **names_full**: every native convention (WW3, SWAN, WWM, ERA5, NDBC) comes back from the reader that
    `read_dataset` selects in the wavespectra convention -/
theorem names_full : ∀ c ∈ nativeConventions, namesOk c = true := by decide +kernel

/-- **wwm_optional**: `from_wwm` works whichever optional variables are present, and renames the dimensions -/
theorem wwm_optional (all dims : List String) (dirl : Bool) :
    outDims "wwm" dirl all dims = .ok (renamePresent mappingWWM dims) := rfl

/-! ### code as found (before a998130 / 8cfe575): statements about the explicitly named old model -/

/-- full statement on the old model -/
def NamesFullOld : Prop := ∀ c ∈ nativeConventions, namesOkWith outDimsOld outSpecOld c = true

/-- refuted by the old ERA5 reader as `read_dataset` called it: `d2fd(frequency, direction)` stayed, unrelated
    `freq`/`dir` coordinates were added (finding F11, fixed by a998130) -/
theorem names_full_fails_old : ¬ NamesFullOld := fun h =>
  absurd (h ("era5", ["frequency", "direction", "d2fd"], ["frequency", "direction"], "d2fd") (by decide +kernel))
    (by decide +kernel)

theorem names_partial_old : ∀ c ∈ nativeConventions, c.1 ≠ "era5" → namesOkWith outDimsOld outSpecOld c = true := by
  decide +kernel

def WwmOptionalFullOld : Prop :=
  ∀ extra : List String, ∃ d, outDimsOld "wwm" true (["nfreq", "ndir", "nbstation", "AC"] ++ extra) ["nfreq", "ndir", "nbstation"] = .ok d

/-- refuted on the old model: `dset.rename(MAPPING)` needed `lon`, `lat`, `DEP` and `ocean_time` (finding F23, fixed
    by 8cfe575) -/
theorem wwm_optional_fails_old : ¬ WwmOptionalFullOld := by
  intro h
  obtain ⟨d, hd⟩ := h ["lon", "lat", "ocean_time"]
  have e : outDimsOld "wwm" true (["nfreq", "ndir", "nbstation", "AC"] ++ ["lon", "lat", "ocean_time"])
      ["nfreq", "ndir", "nbstation"] = .error .valueError := by decide +kernel
  rw [e] at hd
  cases hd

theorem wwm_optional_partial_old (all dims : List String) (h : ∀ p ∈ mappingWWM, p.1 ∈ all) (dirl : Bool) :
    outDimsOld "wwm" dirl all dims = .ok (renamePresent mappingWWM dims) := by
  have : mappingWWM.all (fun p => all.contains p.1) = true := by
    rw [List.all_eq_true]; intro p hp; simpa using h p hp
  unfold outDimsOld renameStrict
  simp only [this, if_true]
  rfl

/-! ## units: variance is preserved -/

theorem d2r_mul_r2d (pi : ℚ) (hpi : pi ≠ 0) : d2r pi * r2d pi = 1 := by
  unfold d2r r2d; field_simp

theorem r2d_pos (pi : ℚ) (hpi : 0 < pi) : 0 < r2d pi := div_pos (by norm_num) hpi

/-- dividing by `R2D` is multiplying by `D2R` (also for `π = 0`) -/
theorem div_r2d (pi x : ℚ) : x / r2d pi = x * d2r pi := by
  rw [r2d, d2r, div_div_eq_mul_div, mul_div_assoc]

theorem two_pi_mul_r2d (pi : ℚ) (hpi : pi ≠ 0) : 2 * pi * r2d pi = 360 := by
  rw [r2d, mul_assoc, mul_div_cancel₀ _ hpi]; norm_num

theorem row_congr (g : ℚ → ℚ) (a b a' b' : ℚ) (h : ∀ x, g x * a * b = x * a' * b') (r : Vec) :
    ((r.map g).map fun x => x * a * b).sum = (r.map fun x => x * a' * b').sum := by
  rw [List.map_map]; exact congrArg List.sum (List.map_congr_left fun x _ => h x)

theorem dsum_scale (ddv k : ℚ) (w : Vec) (e : Mat) :
    dsum ddv w (mapM (fun x => x * k) e) = dsum (ddv * k) w e := by
  unfold dsum mapM
  rw [List.zipWith_map_left]
  congr 2; funext r wi
  exact row_congr _ _ _ _ _ (fun x => by ring) r

theorem absR_mul_pos (k z : ℚ) (hk : 0 < k) : absR (z * k) = absR z * k := by
  rw [absR_eq_abs, absR_eq_abs, abs_mul, abs_of_pos hk]

theorem minR_mul_pos (k a b : ℚ) (hk : 0 < k) : minR (a * k) (b * k) = minR a b * k := by
  rw [minR_eq_min, minR_eq_min, min_mul_of_nonneg _ _ hk.le]

/-- the bin width read off two directions reduced modulo 360 is the short-way distance of the unreduced ones,
    also when 0/360 falls between the reduced ones -/
theorem dd_pmod (u v : ℚ) (rest : Vec) (h : absR (v - u) < 360) :
    dd (some (pmod u 360 :: pmod v 360 :: rest)) = C10.wrapDist (v - u) := by
  have e : pmod v 360 - pmod u 360 = v - u + 360 * (((u / 360).floor - (v / 360).floor : ℤ) : ℚ) := by
    unfold pmod; push_cast; ring
  have h2 : absR (pmod v 360 - pmod u 360) < 360 := by
    have hu := C10.dir_range u
    have hv := C10.dir_range v
    unfold absR; split_ifs
    · rw [neg_sub]; exact (sub_le_self _ hv.1).trans_lt hu.2
    · exact (sub_le_self _ hu.1).trans_lt hv.2
  show C10.wrapDist (pmod v 360 - pmod u 360) = _
  rw [e] at h2 ⊢
  exact C10.wrapDist_wrap _ _ h h2

/-- converted bin width of WW3 directions: `(θ + 180) % 360` keeps the (short-way) spacing of the first two
    stored directions -/
theorem dd_ww3 (dirs : Vec) (h : ∀ x y rest, dirs = x :: y :: rest → absR (y - x) < 360) :
    dd (some (dirs.map ww3Dir)) = dd (some dirs) := by
  match dirs, h with
  | [], _ => rfl
  | [_], _ => rfl
  | x :: y :: rest, h =>
    have e : y + 180 - (x + 180) = y - x := add_sub_add_right_eq_sub ..
    exact (dd_pmod (x + 180) (y + 180) _ (by rw [e]; exact h x y rest rfl)).trans (by rw [e]; rfl)

/-- **variance_ww3**: the variance of every converted WW3 spectrum (density × D2R on directions in degrees, integrated
    with the converted coordinates) equals the native integral (density per radian × bin width in radians) -/
theorem variance_ww3 (pi : ℚ) (f dirs : Vec) (e : Mat)
    (h : ∀ x y rest, dirs = x :: y :: rest → absR (y - x) < 360) :
    varConv f (fromWW3 pi dirs e).1 (fromWW3 pi dirs e).2 = dsum (dd (some dirs) * d2r pi) (df f) e := by
  unfold varConv fromWW3
  simp only
  rw [dd_ww3 dirs h]
  exact dsum_scale _ _ _ _

/-- converted bin width of SWAN directions (radians ↦ degrees, `% 360`): `R2D` times the short-way spacing in
    radians of the first two stored directions -/
theorem dd_ncswan (pi x y : ℚ) (rest : Vec) (hpi : 0 < pi) (h : absR (y - x) < 2 * pi) :
    dd (some ((x :: y :: rest).map (ncswanDir pi))) = minR (absR (y - x)) (2 * pi - absR (y - x)) * r2d pi := by
  have hr := r2d_pos pi hpi
  have h360 := two_pi_mul_r2d pi hpi.ne'
  have hD : absR (y * r2d pi - x * r2d pi) < 360 := by
    rw [← sub_mul, absR_mul_pos _ _ hr, ← h360]; exact mul_lt_mul_of_pos_right h hr
  refine (dd_pmod _ _ _ hD).trans ?_
  rw [← sub_mul, C10.wrapDist, absR_mul_pos _ _ hr, ← h360, ← sub_mul, minR_mul_pos _ _ _ hr]

theorem ncswanSpec_eq (pi : ℚ) : ncswanSpec pi = fun x => x * d2r pi := funext (div_r2d pi)

/-- **variance_ncswan**: density per radian on directions in radians ↦ density per degree on degrees; for every
    native bin width `ddRad` (radians) the converted integral with `Δθ' = ddRad·R2D` is the native integral -/
theorem variance_ncswan (pi ddRad : ℚ) (hpi : pi ≠ 0) (f : Vec) (e : Mat) :
    dsum (ddRad * r2d pi) (df f) (mapM (ncswanSpec pi) e) = dsum ddRad (df f) e := by
  rw [ncswanSpec_eq, dsum_scale, mul_assoc, mul_comm (r2d pi), d2r_mul_r2d pi hpi, mul_one]

/-- … and `Δθ'` as the accessor computes it from the converted coordinates is `ddRad·R2D` with `ddRad` the
    short-way spacing of the first two native directions -/
theorem variance_ncswan_coords (pi x y : ℚ) (rest f : Vec) (e : Mat) (hpi : 0 < pi) (h : absR (y - x) < 2 * pi) :
    varConv f (fromNcswan pi (x :: y :: rest) e).1 (fromNcswan pi (x :: y :: rest) e).2 =
      dsum (minR (absR (y - x)) (2 * pi - absR (y - x))) (df f) e := by
  unfold varConv fromNcswan
  simp only
  rw [dd_ncswan pi x y rest hpi h]
  exact variance_ncswan pi _ (ne_of_gt hpi) f e

theorem dfGo_div (k p c : ℚ) (rest : Vec) :
    dfGo (p / k) (c / k) (rest.map (· / k)) = (dfGo p c rest).map (· / k) := by
  induction rest generalizing p c with
  | nil => simp [dfGo]; ring
  | cons n rest ih =>
    simp only [List.map_cons, dfGo, ih]
    congr 1; ring

/-- `np.gradient` is homogeneous — except on a single frequency where the accessor uses `Δf = 1` -/
theorem df_div (k : ℚ) (f : Vec) (h : f.length ≠ 1) : df (f.map (· / k)) = (df f).map (· / k) := by
  match f, h with
  | [], _ => rfl
  | [_], h => exact absurd rfl h
  | a :: b :: rest, _ =>
    simp only [List.map_cons, df, dfGo_div]
    congr 1; ring

/-- one converted WWM bin with its converted widths (`Δσ/2π`, `Δθ·R2D`) is the native `N·σ·Δσ·Δθ` -/
theorem wwm_bin (pi s wi ddRad x : ℚ) (hpi : pi ≠ 0) :
    wwmSpec pi s x * (wi / (2 * pi)) * (ddRad * r2d pi) = x * (s * wi) * ddRad := by
  rw [wwmSpec, div_r2d]
  calc _ = x * (s * wi) * ddRad * (2 * pi / (2 * pi)) * (d2r pi * r2d pi) := by ring
    _ = _ := by rw [div_self (mul_ne_zero two_ne_zero hpi), d2r_mul_r2d pi hpi, mul_one, mul_one]

theorem wwm_core (pi ddRad : ℚ) (hpi : pi ≠ 0) (sig w : Vec) (ac : Mat) :
    dsum (ddRad * r2d pi) (w.map (· / (2 * pi))) (wwmE pi sig ac) =
      dsum ddRad (List.zipWith (· * ·) sig w) ac := by
  unfold dsum wwmE
  rw [List.zipWith_map_right, List.zipWith_comm (as := ac)]
  exact congrArg List.sum (zipWith_zipWith_swap
    (fun s r wi => row_congr _ _ _ _ _ (fun x => wwm_bin pi s wi ddRad x hpi) r) sig ac w)

/-- **variance_wwm**: action density `N(σ,θ)` on `σ` (rad/s) and radians ↦ energy density per hertz per degree.
    Converted integral (`f = σ/2π`, `Δθ' = ddRad·R2D`) = native `Σ N·σ·Δσ·Δθ` — the Jacobian `σ·2π·π/180` is the
    right one.  (At least two frequencies: on a single frequency both rules use a unit width.) -/
theorem variance_wwm (pi ddRad : ℚ) (hpi : pi ≠ 0) (sig : Vec) (ac : Mat) (hlen : sig.length ≠ 1) :
    dsum (ddRad * r2d pi) (df (sig.map (wwmFreq pi))) (wwmE pi sig ac) =
      dsum ddRad (List.zipWith (· * ·) sig (df sig)) ac := by
  have : sig.map (wwmFreq pi) = sig.map (· / (2 * pi)) := rfl
  rw [this, df_div _ _ hlen]
  exact wwm_core pi ddRad hpi sig (df sig) ac

/-- on a single frequency the accessor's unit bin (1 Hz) is `2π` rad/s wide in native units -/
theorem variance_wwm_single (pi ddRad s : ℚ) (hpi : pi ≠ 0) (ac : Mat) :
    dsum (ddRad * r2d pi) (df ([s].map (wwmFreq pi))) (wwmE pi [s] ac) = dsum ddRad [s * (2 * pi)] ac := by
  have h := wwm_core pi ddRad hpi [s] [2 * pi] ac
  have e1 : (2 * pi) / (2 * pi) = (1 : ℚ) := div_self (mul_ne_zero two_ne_zero hpi)
  simp only [List.map_cons, List.map_nil, List.zipWith_cons_cons, List.zipWith_nil_left, e1] at h
  exact h

theorem era5Spec_eq (pi : ℚ) : era5Spec pi = fun p => p.getD 0 * d2r pi := by
  funext p
  cases p with
  | none => simp [era5Spec]
  | some x => simp only [era5Spec, Option.getD_some, d2r]; ring

/-- **variance_era5**: `10**d2fd` (per radian; missing ↦ no energy) × `π/180` on directions in degrees: the converted
    integral equals the native one with the bin width in radians -/
theorem variance_era5 (pi ddDeg : ℚ) (f : Vec) (p10 : List (List (Option ℚ))) :
    dsum ddDeg (df f) (era5E pi p10) = dsum (ddDeg * d2r pi) (df f) (p10.map fun r => r.map fun o => o.getD 0) := by
  rw [← dsum_scale]
  simp only [era5E, era5Spec_eq, mapM, List.map_map, Function.comp_def]

/-- the default ERA5 grids: 24 going-to directions `7.5 + 15k` turned to coming-from, bin width 15°, all distinct
    and in `[0, 360)`; 30 increasing frequencies `0.03453·1.1^k` -/
theorem era5_default_grids :
    era5DefaultDirs = (List.range 24).map (fun k => ww3Dir (15 / 2 + 15 * (k : ℚ))) ∧
    dd (some era5DefaultDirs) = 15 ∧ era5DefaultDirs.Nodup ∧ (∀ x ∈ era5DefaultDirs, 0 ≤ x ∧ x < 360) ∧
    era5DefaultFreqs.length = 30 ∧ era5DefaultFreqs.Pairwise (· < ·) := by
  refine ⟨by decide +kernel, by decide +kernel, by decide +kernel, fun x hx => ?_, rfl, ?_⟩
  · obtain ⟨y, -, rfl⟩ := List.mem_map.mp hx
    exact C10.dir_range _
  · -- a geometric sequence with positive first term and ratio above one
    have h0 : 0 < era5F0 := by unfold era5F0; norm_num
    have h1 : 1 < era5Ratio := by unfold era5Ratio; norm_num
    exact List.pairwise_lt_range.map _ fun a b hab => mul_lt_mul_of_pos_left (pow_lt_pow_right₀ h1 hab) h0

/-- the same for the default ERA5 grid: bin width 15° = `15·π/180` rad -/
theorem variance_era5_default (pi : ℚ) (f : Vec) (p10 : List (List (Option ℚ))) :
    varConv f era5DefaultDirs (era5E pi p10) =
      dsum (15 * d2r pi) (df f) (p10.map fun r => r.map fun o => o.getD 0) := by
  unfold varConv
  rw [era5_default_grids.2.1]
  exact variance_era5 pi 15 f p10

/-! ## direction sense -/

theorem pmod_turns (x : ℚ) : 0 ≤ pmod x 360 ∧ pmod x 360 < 360 ∧ ∃ n : ℤ, pmod x 360 = x - 360 * n :=
  ⟨(C10.dir_range x).1, (C10.dir_range x).2, (x / 360).floor, rfl⟩

theorem pmod_self (x : ℚ) (h0 : 0 ≤ x) (h1 : x < 360) : pmod x 360 = x := pmod_eq_self h0 h1

/-- **direction_ww3**: going-to `θ` ↦ coming-from `(θ + 180) mod 360`: the result lies in `[0, 360)` and differs from
    `θ + 180` by a whole number of turns, so every bin keeps its physical direction -/
theorem direction_ww3 (x : ℚ) : 0 ≤ ww3Dir x ∧ ww3Dir x < 360 ∧ ∃ n : ℤ, ww3Dir x = x + 180 - 360 * n :=
  pmod_turns (x + 180)

theorem ww3Dir_twice (x : ℚ) : ww3Dir (ww3Dir x) = pmod x 360 := Instr.pmod_half_turn_twice x

/-- on `[0, 360)` the map is an involution, hence a bijection of the circle of bins -/
theorem ww3Dir_involutive (x : ℚ) (h0 : 0 ≤ x) (h1 : x < 360) : ww3Dir (ww3Dir x) = x := by
  rw [ww3Dir_twice, pmod_self x h0 h1]

/-- two bins are sent to the same label only if they were the same direction modulo 360 -/
theorem ww3Dir_injective_mod (x y : ℚ) (h : ww3Dir x = ww3Dir y) : ∃ n : ℤ, x - y = 360 * n := by
  obtain ⟨_, _, n, hn⟩ := direction_ww3 x
  obtain ⟨_, _, m, hm⟩ := direction_ww3 y
  refine ⟨n - m, ?_⟩
  rw [hn, hm] at h
  push_cast; linarith

/-- the conversion is bin-for-bin: same number of bins, label `i` is the converted label `i` -/
theorem ww3_bins (dirs : Vec) (i : Nat) (hi : i < dirs.length) :
    (dirs.map ww3Dir).length = dirs.length ∧ getR (dirs.map ww3Dir) i = ww3Dir (getR dirs i) :=
  ⟨List.length_map _, getR_map_of_lt dirs ww3Dir 0 i hi⟩

/-- **direction_ncswan**: radians ↦ degrees in `[0, 360)`, equal to `θ·R2D` up to whole turns -/
theorem direction_ncswan (pi x : ℚ) :
    0 ≤ ncswanDir pi x ∧ ncswanDir pi x < 360 ∧ ∃ n : ℤ, ncswanDir pi x = x * r2d pi - 360 * n :=
  pmod_turns (x * r2d pi)

/-- **direction_wwm**: `SPDIR` in radians ↦ degrees in `[0, 360)`, equal to `SPDIR·R2D` up to whole turns -/
theorem direction_wwm (pi x : ℚ) :
    0 ≤ wwmDir pi x ∧ wwmDir pi x < 360 ∧ ∃ n : ℤ, wwmDir pi x = x * r2d pi - 360 * n :=
  pmod_turns (x * r2d pi)

/-- converted bin width of WWM directions (same map as SWAN's) -/
theorem dd_wwm (pi x y : ℚ) (rest : Vec) (hpi : 0 < pi) (h : absR (y - x) < 2 * pi) :
    dd (some ((x :: y :: rest).map (wwmDir pi))) = minR (absR (y - x)) (2 * pi - absR (y - x)) * r2d pi :=
  dd_ncswan pi x y rest hpi h

/-! ### code as found (before 8cfe575): `dir = SPDIR·R2D` without modulo -/

/-- full statement on the old model: converted directions lie in `[0, 360)` -/
def DirectionWwmFullOld : Prop := ∀ pi x : ℚ, 0 < pi → 0 ≤ wwmDirOld pi x ∧ wwmDirOld pi x < 360

/-- refuted (`SPDIR = -1 rad` ↦ `-60°` with `π = 3`; finding F24, fixed by 8cfe575) -/
theorem direction_wwm_fails_old : ¬ DirectionWwmFullOld := by
  intro h
  have := (h 3 (-1) (by norm_num)).1
  revert this
  decide +kernel

theorem direction_wwm_partial_old (pi x : ℚ) (hpi : 0 < pi) (h0 : 0 ≤ x) (h1 : x < 2 * pi) :
    0 ≤ wwmDirOld pi x ∧ wwmDirOld pi x < 360 := by
  have hr := r2d_pos pi hpi
  exact ⟨mul_nonneg h0 hr.le, by rw [← two_pi_mul_r2d pi hpi.ne']; exact mul_lt_mul_of_pos_right h1 hr⟩

/-! ## NDBC -/

theorem sum_ndbc (k h r1 r2 : ℚ) (c1 c2 : Vec) (hl : c1.length = c2.length) :
    (List.zipWith (fun a b => k * (h + r1 * a + r2 * b)) c1 c2).sum =
      k * ((c1.length : ℚ) * h + r1 * c1.sum + r2 * c2.sum) :=
  Instr.sum_zipWith_affine k h r1 r2 c1 c2 hl

/-- **ndbc_integrates**: on a uniform full circle (`n·Δθ = 360`) where the first and second harmonics sum to zero,
    the constructed directional spectrum integrates back to the non-directional density `ef` for every
    `r1, r2, α1, α2` -/
theorem ndbc_integrates (pi ef r1 r2 dd : ℚ) (c1 c2 : Vec) (hpi : pi ≠ 0) (hlen : c1.length = c2.length)
    (hfull : (c1.length : ℚ) * dd = 360) (h1 : c1.sum = 0) (h2 : c2.sum = 0) :
    ((ndbcRow pi ef r1 r2 c1 c2).map (· * dd)).sum = ef := by
  have : ndbcRow pi ef r1 r2 c1 c2 =
      List.zipWith (fun a b => (ef * d2r pi / pi) * (1 / 2 + r1 * a + r2 * b)) c1 c2 := by
    unfold ndbcRow ndbcSpec ndbcDist; congr; funext a b; ring
  rw [sum_map_mul_const, this, sum_ndbc _ _ _ _ _ _ hlen, h1, h2, d2r]
  calc _ = ef * (pi / pi) * ((c1.length : ℚ) * dd / 360) := by ring
    _ = ef := by rw [hfull, div_self hpi, div_self (by norm_num), mul_one, mul_one]

theorem arange_length (start stop step : ℚ) (n : Nat) (hstep : step ≠ 0) (h : (n : ℚ) * step = stop - start) :
    (arange start stop step).length = n := by
  rw [arange, List.length_map, List.length_range]
  exact Instr.ceil_div_of_mul_eq n _ step hstep h

/-- `np.arange(0, 360, dd)` has exactly `n` bins when `n·dd = 360` -/
theorem ndbc_dirs_length (n : Nat) (dd : ℚ) (hdd : 0 < dd) (h : (n : ℚ) * dd = 360) : (ndbcDirs dd).length = n :=
  arange_length 0 360 dd n hdd.ne' (by rw [h, sub_zero])

/-! ## winds -/

theorem dirTrig_true (ca sa : ℚ) : dirTrig true ca sa = (-ca, -sa) := by simp [dirTrig, nauticalTrig]

theorem dirTrig_false (ca sa : ℚ) : dirTrig false ca sa = (ca, sa) := by simp [dirTrig, nauticalTrig]

/-- **uv_vec**: with `(ca, sa)` the cosine and sine of the `atan2` angle of `(u, v)` (`u = spd·ca`, `v = spd·sa`,
    `ca² + sa² = 1`): the radicand of the returned speed is `spd²`, and the unit vector of the returned coming-from
    direction `θ = 270° − a` (east = sin θ, north = cos θ) scaled by the speed is `−(u, v)`: the wind blows *from* θ.
    With `coming_from=False` the same vector is `+(u, v)`. -/
theorem uv_vec (u v spd ca sa : ℚ) (hunit : ca ^ 2 + sa ^ 2 = 1) (hu : u = spd * ca) (hv : v = spd * sa) :
    uvMag2 u v = spd ^ 2 ∧
    (spd * (dirTrig true ca sa).1, spd * (dirTrig true ca sa).2) = (-u, -v) ∧
    (spd * (dirTrig false ca sa).1, spd * (dirTrig false ca sa).2) = (u, v) ∧
    (dirTrig true ca sa).1 ^ 2 + (dirTrig true ca sa).2 ^ 2 = 1 := by
  subst hu hv
  rw [dirTrig_true, dirTrig_false]
  refine ⟨?_, ?_, rfl, ?_⟩
  · rw [uvMag2, mul_pow, mul_pow, ← mul_add, hunit, mul_one]
  · rw [mul_neg, mul_neg]
  · rw [neg_sq, neg_sq, hunit]

/-- the returned wind direction lies in `[0, 360)` and is `270 − a` up to whole turns -/
theorem uv_dir_range (a : ℚ) : 0 ≤ uvDir true a ∧ uvDir true a < 360 ∧ ∃ n : ℤ, uvDir true a = 270 - a - 360 * n :=
  pmod_turns (270 - a)

/-! ## non-vacuity -/

section Examples

-- dispatch: a WW3 dataset with times, positions, winds and depth
example : dispatch Gen.dispatchTable ["time", "station", "frequency", "direction", "efth", "longitude", "latitude",
    "wnd", "wnddir", "dpt"] = some "ww3" := by decide +kernel
example := dispatch_correct ["dpt", "efth", "station", "time", "direction", "frequency"] ["time", "dpt"]
  ("ww3", ["frequency", "direction", "station", "efth"]) (by decide +kernel) (by decide +kernel)
  (fun x => (List.Perm.mem_iff (by decide +kernel)).trans List.mem_append)
example := dispatch_correct_optional ["time", "depth", "xwnd", "ywnd", "longitude", "latitude"]
  ("ncswan", ["frequency", "direction", "points", "density"]) (by decide +kernel) (by decide +kernel)
example : ∀ x ∈ optionalNames, x ∉ sigNames := optional_not_sig
example : "time" ∈ optionalNames ∧ "DEP" ∈ optionalNames ∧ "wnd" ∈ optionalNames := by decide +kernel
example := dispatch_unknown ["time", "freq", "dir", "efth"] (by decide +kernel)
-- the dispatcher needs `site`: a wavespectra-convention dataset on a lat/lon grid is *not* recognised
example : dispatch Gen.dispatchTable ["time", "lat", "lon", "freq", "dir", "efth"] = none := by decide +kernel

example := wwm_optional_partial_old ["nfreq", "ndir", "nbstation", "AC", "lon", "lat", "DEP", "ocean_time"]
  ["ocean_time", "nbstation", "nfreq", "ndir"] (by decide +kernel) true
example : outDims "wwm" true ["nfreq", "ndir", "nbstation", "AC"]
  ["ocean_time", "nbstation", "nfreq", "ndir"] = .ok ["time", "site", "freq", "dir"] := by decide +kernel
example : outDims "era5" false ["d2fd", "frequency", "direction", "latitude", "longitude", "time"]
  ["time", "frequency", "direction", "latitude", "longitude"] = .ok ["time", "freq", "dir", "lat", "lon"] := by decide +kernel

private def fE : Vec := [1/10, 1/5, 2/5]
private def eE : Mat := [[1, 2, 0, 1], [0, 3, 1, 1], [2, 1, 1, 0]]
private def dE : Vec := [270, 0, 90, 180]

-- WW3: the seam moves between the first two labels (270,0 ↦ 90,180) and the variance is kept
example : ∀ x y rest, dE = x :: y :: rest → absR (y - x) < 360 := by
  intro x y rest h; cases h; decide +kernel
example : (fromWW3 (22/7) dE eE).1 = [90, 180, 270, 0] := by decide +kernel
example := dd_ww3 dE (by intro x y rest h; cases h; decide +kernel)
example := variance_ww3 (22/7) fE dE eE (by intro x y rest h; cases h; decide +kernel)
example : varConv fE (fromWW3 (22/7) dE eE).1 (fromWW3 (22/7) dE eE).2 = 429/140 := by decide +kernel
example := dd_ncswan 3 1 2 [3, 4] (by norm_num) (by decide +kernel)
example := variance_ncswan (22/7) (1/2) (by norm_num) fE eE
example := variance_ncswan_coords 3 1 2 [3, 4] fE eE (by norm_num) (by decide +kernel)
example := variance_wwm (22/7) (1/2) (by norm_num) [1, 2, 4] eE (by decide)
example : dsum (1/2) (List.zipWith (· * ·) [1, 2, 4] (df [1, 2, 4])) eE = 51/2 := by decide +kernel
example := df_div 7 fE (by decide)
example := variance_wwm_single (22/7) (1/2) 3 (by norm_num) [[1, 2, 0, 1]]
example := variance_era5 (22/7) 15 fE [[some 1, none, some (1/100)], [some 3, some 2, none], [none, none, some 5]]
example := ww3Dir_involutive 200 (by norm_num) (by norm_num)
example : ww3Dir 200 = 20 ∧ ww3Dir 20 = 200 := by decide +kernel
example := ww3Dir_injective_mod 10 370 (by decide +kernel)
example := ww3_bins dE 2 (by decide)
example := direction_wwm_partial_old 3 1 (by norm_num) (by norm_num) (by norm_num)
example := dd_wwm 3 1 2 [3, 4] (by norm_num) (by decide +kernel)
example : wwmDir 3 (-1) = 300 := by decide +kernel
example := pmod_self 12 (by norm_num) (by norm_num)
-- NDBC on 4 directions θ = 0, 90, 180, 270 with α1 = α2 = 0: cos(θ) = 1,0,-1,0 and cos(2θ) = 1,-1,1,-1
example := ndbc_integrates (22/7) 5 (3/10) (1/5) 90 [1, 0, -1, 0] [1, -1, 1, -1] (by norm_num) (by decide)
  (by norm_num) (by decide +kernel) (by decide +kernel)
example : ((ndbcRow (22/7) 5 (3/10) (1/5) [1, 0, -1, 0] [1, -1, 1, -1]).map (· * 90)).sum = 5 := by decide +kernel
example := ndbc_dirs_length 8 45 (by norm_num) (by norm_num)
example := sum_ndbc 2 (1/2) (3/10) (1/5) [1, 0, -1, 0] [1, -1, 1, -1] (by decide)
-- wind (u, v) = (3, 4)·2: speed 10, (cos a, sin a) = (3/5, 4/5)
example := uv_vec 6 8 10 (3/5) (4/5) (by norm_num) (by norm_num) (by norm_num)
example := absR_mul_pos 3 (-2) (by norm_num)
example := minR_mul_pos 3 1 2 (by norm_num)
example := d2r_mul_r2d (22/7) (by norm_num)
example := wwm_core (22/7) (1/2) (by norm_num) [1, 2, 4] [1, 1, 2] eE
example := wwm_bin (22/7) 2 1 (1/2) 5 (by norm_num)
example := subsetB_iff ["a"] ["a", "b"]
example := (subsetB_iff ["a"] ["b", "a"]).mpr (by decide)
example := dispatch_congr Native.dispatchTable ["a", "b"] ["b", "a"] (by intro _ _ x _; simp [or_comm])
example := dispatch_congr Native.dispatchTable ["a", "a"] ["a"] (by intro _ _ x _; simp)
example := dispatch_congr Native.dispatchTable ["frequency", "zz"] ["frequency"] (by decide +kernel)
example := find_congr (fun x : Nat => x == 1) (fun x => x == 1) [1, 2] (by intro x _; rfl)
example := row_congr (fun x => x * 2) 3 5 3 10 (by intro x; ring) [1, 2]

end Examples

end WS.C12
