import WsVerif.Gen.RgKernels
import WsVerif.Lemmas.RgBridge
import WsVerif.Props.C08
import WsVerif.Props.C01xr
import WsVerif.Model.Split
/-!
C08, T-tier: the definitions regenerated from `core.utils.regrid_spec` / `unique_indices` / `SpecArray._interp_freq`
(`Gen/RgKernels.lean`, by `harness/translate_rg.py`) equal the hand-written model `Model/Regrid.lean`, FOR ALL INPUTS.
-/
namespace WS.C08
open WS WS.Regrid WS.Rg

/-- NaN mask of one direction-interpolated entry: a value only inside the (extended) node range -/
def maskDir (l : Loc) (v : Rat) : Option Rat := if l.isSeg then some v else none

/-- `% 360`, `unique_indices`, `sortby("dir")` on a NaN-free spectrum: the labels are the model's sorted distinct
    labels `dirNodes`, the columns are re-indexed by the first occurrences; `sortby` is then the identity -/
theorem genrg_unique_sort_eq (f d : Vec) (e : Mat) :
    Rg.sortbyDir (Gen.rgUniqueIndices (Rg.assignDir (ofMat f d e) (Rg.modV (Rg.dirC (ofMat f d e)) 360))) =
      ofMat f ((dirNodes d).map (·.1)) (e.map fun r => ((dirNodes d).map (·.2)).map (getR r)) := by
  have hv : dirNodes d = dedupK (sortK ((Rg.modV d 360).zip (List.range (Rg.modV d 360).length))) := by
    simp [dirNodes, Rg.modV]
  have hsorted := (dirNodes_keys d).1
  have hlab : ((dirNodes d).map (·.2)).map (getR (Rg.modV d 360)) = (dirNodes d).map (·.1) := by
    rw [hv]; exact nodes_labels _
  simp only [Gen.rgUniqueIndices, Rg.assignDir, Rg.dirC, Rg.npUniqueIndex, Rg.iselDirL, ofMat, ← hv, hlab, Rg.sortbyDir]
  rw [argsort_sorted _ hsorted, map_getR_range]
  simp only [List.map_map]
  congr 1
  apply List.map_congr_left
  intro r _
  simp only [Function.comp]
  have h := map_getO_range (((dirNodes d).map (·.2)).map (getO (r.map some)))
  simp only [List.length_map] at h ⊢
  simp only [List.map_map] at h
  rw [h]
  simp [getO_map_some, Function.comp_def]

theorem lin1_some (xs ys : Vec) (x : Rat) :
    lin1 none xs (ys.map some) x = maskDir (locate xs x) (applyLoc ys (locate xs x)) := by
  cases h : locate xs x <;> simp [lin1, maskDir, applyLoc, lerpO, getO_map_some, Loc.isSeg, h]

/-- the generated wrap decisions are the model's `wrapLo` / `wrapHi` (on the sorted distinct labels `min` is the first
    and `max` the last label) -/
theorem genrg_wrap_eq (dS td : Vec) (hs : dS.Pairwise (· < ·)) :
    (decide (Rg.amin td < Rg.amin dS) || decide (dS.length = 1)) = wrapLo dS td ∧
    (decide (Rg.amax td > Rg.amax dS) || decide (dS.length = 1)) = wrapHi dS td := by
  simp [wrapLo, wrapHi, Rg.amin, Rg.amax, minL_sorted dS hs, maxL_sorted dS hs]

example : ([10, 20] : Vec).Pairwise (· < ·) := by decide

/-- `to_concat` / `xr.concat(dim="dir")` of the direction block: the last bin relabelled `− 360` in front when `lo`, the
    first relabelled `+ 360` behind when `hi` = the model's node lists `dirXs` / `dirYs` -/
theorem dirBlock_concat (f dS : Vec) (E : Mat) (lo hi : Bool) :
    (let ds := ofMat f dS E
     let tc : List Rg.Ds := [ds]
     let tc : List Rg.Ds :=
       if lo then [Rg.assignDir (Rg.iselDir ds (-1)) (Rg.subV (Rg.dirC (Rg.iselDir ds (-1))) 360), ds] else tc
     let tc : List Rg.Ds :=
       if hi then tc ++ [Rg.assignDir (Rg.iselDir ds 0) (Rg.addV (Rg.dirC (Rg.iselDir ds 0)) 360)] else tc
     if decide (tc.length > 1) then Rg.concatDir tc else ds) =
      ofMat f (dirXs dS lo hi) (E.map fun r => dirYs r lo hi) := by
  cases lo <;> cases hi <;>
    simp [Rg.iselDir, Rg.assignDir, Rg.subV, Rg.addV, Rg.dirC, Rg.concatDir, Rg.concat2Dir, ofMat,
      pick_neg_one, pick_zero, dirXs, dirYs, lastD, List.getLastD_eq_getLast?]

/-- the direction block of `regrid_spec` on a NaN-free spectrum = the model's `dirStage`, NaN outside the node range -/
theorem genrg_dir_stage_eq (f d : Vec) (e : Mat) (td : Vec) :
    Gen.rgDirBlock (ofMat f d e) td =
      { freq := f, dir := td,
        e := (dirStage d e td).vals.map fun r => List.zipWith maskDir (dirStage d e td).locs r } := by
  have hw := genrg_wrap_eq ((dirNodes d).map (·.1)) td (dirNodes_keys d).1
  have hcat := dirBlock_concat f ((dirNodes d).map (·.1)) (e.map fun r => ((dirNodes d).map (·.2)).map (getR r))
    (wrapLo ((dirNodes d).map (·.1)) td) (wrapHi ((dirNodes d).map (·.1)) td)
  have hd : Rg.dirC (ofMat f ((dirNodes d).map (·.1)) (e.map fun r => ((dirNodes d).map (·.2)).map (getR r))) =
      (dirNodes d).map (·.1) := rfl
  simp only [Gen.rgDirBlock]
  rw [genrg_unique_sort_eq]
  simp only [hd, hw.1, hw.2]
  simp only at hcat
  rw [hcat]
  simp only [Rg.interpDir, ofMat, dirStage, List.map_map, Function.comp_def, List.zipWith_map_right,
    List.zipWith_map_left, List.zipWith_self, ← lin1_some]

/-- the generated `fzero` decision is the model's `anchorLo` -/
theorem genrg_anchor_eq (f tf : Vec) :
    (decide (Rg.amin tf < Rg.amin f) || decide (f.length = 1)) = anchorLo f tf := by
  rfl

/-- the frequency block up to the call of `interp`, for ANY spectrum (NaN allowed): `0 * dsout.isel(freq=0)` relabelled
    `freq = 0` goes in front exactly when `anchorLo` -/
theorem genrg_freq_prefix (ds : Rg.Ds) (tf : Vec) :
    Gen.rgFreqBlock ds tf =
      Rg.interpFreq (if anchorLo ds.freq tf then
          { freq := 0 :: ds.freq, dir := ds.dir, e := (ds.e.headD []).map (fun v => v.map fun y => 0 * y) :: ds.e }
        else ds) tf 0 := by
  simp only [Gen.rgFreqBlock]
  have hf : Rg.freqC ds = ds.freq := rfl
  rw [hf, genrg_anchor_eq]
  cases anchorLo ds.freq tf
  · simp
  · simp [Rg.concatFreq, Rg.concat2Freq, Rg.setFreq, Rg.scaleDs, Rg.iselFreq, pick_zero]

/-- frequency block, up to the call of `interp`: the zero row at `f = 0` is put IN FRONT exactly when the model's
    `anchorLo` says so, and the nodes handed to `interp(freq=…, assume_sorted=False, fill_value=0)` are the model's
    `pairs` of `freqStage`.  PARTIAL: it stops at the call; the reading `Rg.interpFreq` is proved equal to `freqStage` on the
    lifted rows in `genrg_freq_stage_eq` / `genrg_freq_stage_masked_eq` below. -/
theorem genrg_freq_stage_partial (f d : Vec) (e : Mat) (tf : Vec) :
    Gen.rgFreqBlock (ofMat f d e) tf =
      Rg.interpFreq (ofMat ((if anchorLo f tf then [0] else []) ++ f) d
        ((if anchorLo f tf then [List.replicate (e.headD []).length 0] else []) ++ e)) tf 0 := by
  rw [genrg_freq_prefix]
  show Rg.interpFreq (if anchorLo f tf then _ else _) tf 0 = _
  cases anchorLo f tf
  · rfl
  · congr 1
    cases e <;> simp [ofMat, ← List.map_const']

/-- `maintain_m0`: the factor is `hs(dset)² / hs(dsout)²` (guarded float division), applied to every value -/
theorem genrg_m0_shape (sqrt : Rat → Rat) (a b : Rg.Ds) :
    Gen.rgM0Block sqrt a b = Rg.mulScale b (Rg.divG ((Gen.rgHs sqrt a) ^ 2) ((Gen.rgHs sqrt b) ^ 2)) := rfl

/-- the accessor `hs` used by the scale is the regenerated `Gen.xrHs` on the grid the spectrum lives on -/
theorem genrg_hs_shape (sqrt : Rat → Rat) (ds : Rg.Ds) :
    Gen.rgHs sqrt ds = Gen.xrHs sqrt ds.freq ds.dir ((Rg.fin? ds).getD []) (Gen.xrDf ds.freq) (Gen.xrDd ds.dir) true := rfl

/-- order of the blocks of `regrid_spec`: direction, then frequency, then the `maintain_m0` scale against the INPUT -/
theorem genrg_regrid_shape (sqrt : Rat → Rat) (ds : Rg.Ds) (tf td : Vec) (m0 : Bool) :
    Gen.rgRegrid sqrt ds (some tf) (some td) m0 =
      (if m0 then Gen.rgM0Block sqrt ds (Gen.rgFreqBlock (Gen.rgDirBlock ds td) tf)
       else Gen.rgFreqBlock (Gen.rgDirBlock ds td) tf) ∧
    Gen.rgRegrid sqrt ds none (some td) false = Gen.rgDirBlock ds td ∧
    Gen.rgRegrid sqrt ds (some tf) none false = Gen.rgFreqBlock ds tf ∧
    Gen.rgRegrid sqrt ds none none false = ds := ⟨rfl, rfl, rfl, rfl⟩

example : (∀ l ∈ [Loc.seg 0 0], l.isSeg = true) ∧ [Loc.seg 0 0].length = ([1] : Vec).length := by decide

/-- HEADLINE (C08 "exact on nodes") on the GENERATED direction block: regridding a NaN-free spectrum with strictly
    increasing directions in `[0, 360)` onto its own directions returns it unchanged, no NaN -/
theorem genrg_dir_exact_on_nodes (f d : Vec) (e : Mat) (hs : d.Pairwise (· < ·)) (hr : ∀ x ∈ d, 0 ≤ x ∧ x < 360)
    (hn : 2 ≤ d.length) (hrect : Rect e d.length) :
    Gen.rgDirBlock (ofMat f d e) d = ofMat f d e := by
  obtain ⟨hv, hseg, hlen⟩ := dirStage_id_facts d e hs hr (List.ne_nil_of_length_pos (by omega)) hrect
  rw [genrg_dir_stage_eq, hv]
  simp only [ofMat]
  congr 1
  apply List.map_congr_left
  intro r hr'
  exact zipWith_eq_map_right _ r (by rw [hlen, hrect r hr']) fun l hl v _ => by rw [maskDir, hseg l hl]; rfl

example : ([10, 20] : Vec).Pairwise (· < ·) ∧ (∀ x ∈ ([10, 20] : Vec), 0 ≤ x ∧ x < 360) ∧ 2 ≤ ([10, 20] : Vec).length ∧
    Rect [[1, 2]] ([10, 20] : Vec).length := by
  refine ⟨by decide, by decide, by decide, ?_⟩
  intro r hr; simp at hr; subst hr; rfl

/-- `_interp_freq`: range check (`ValueError`), `searchsorted`, the two weights and `/ df` = the model's
    `Split.interpFreq`, wherever the two neighbouring frequencies differ (the model reports the float division by zero
    separately) -/
theorem genrg_interp_freq_eq (f : Vec) (e : Mat) (x : Rat)
    (hdf : getR f (Split.searchsorted f x) - getR f (Split.searchsorted f x - 1) ≠ 0) :
    Gen.rgInterpFreq f e x = Split.interpFreq f e x := by
  have h1 : Rg.amin f = Split.vmin f := by cases f <;> simp [Rg.amin, minL, Split.vmin, minD]
  have h2 : Rg.amax f = Split.vmax f := by cases f <;> simp [Rg.amax, maxL, Split.vmax, maxD]
  have h3 : Rg.searchsorted f x = Split.searchsorted f x := rfl
  simp only [Gen.rgInterpFreq, Split.interpFreq, h1, h2, h3, if_neg hdf, Split.lerpRow]
  split
  · rfl
  · congr 1
    simp only [List.zipWith_map_left, List.zipWith_map_right, List.map_zipWith]

example : getR [1, 2, 4] (Split.searchsorted [1, 2, 4] 3) - getR [1, 2, 4] (Split.searchsorted [1, 2, 4] 3 - 1) ≠ 0 := by
  decide +kernel

/-- signatures, the `attrs` names, pure forwarding in `interp` / `interp_like`, and the statements of `regrid_spec`
    that are NOT translated (Dataset `keep/others` plumbing, list/tuple → array, name, attributes) -/
theorem genrg_pins :
    Gen.rgAttrs = [("DIRNAME", "dir"), ("FREQNAME", "freq")] ∧
    Gen.rgUniqueIndices_sig = [("ds", ""), ("dim", "'time'")] ∧
    Gen.rgRegrid_sig = [("dset", ""), ("freq", "None"), ("dir", "None"), ("maintain_m0", "True")] ∧
    Gen.rgInterpFreq_sig = [("self", ""), ("fint", "")] ∧
    Gen.rgInterp_sig = [("self", ""), ("freq", "None"), ("dir", "None"), ("maintain_m0", "True")] ∧
    Gen.rgInterp_src = ["return regrid_spec(self._obj, freq, dir, maintain_m0=maintain_m0)"] ∧
    Gen.rgInterpLike_sig = [("self", ""), ("other", ""), ("maintain_m0", "True")] ∧
    Gen.rgInterpLike_src = ["freq = getattr(other.spec, attrs.FREQNAME)", "dir = getattr(other.spec, attrs.DIRNAME)",
      "return self.interp(freq=freq, dir=dir, maintain_m0=maintain_m0)"] := ⟨rfl, rfl, rfl, rfl, rfl, rfl, rfl, rfl⟩

theorem genrg_pins_plumbing :
    Gen.rgRegrid_plumbing = ["others = None", "if isinstance(dset, xr.Dataset):\n    keep = [v for v in dset.data_vars if not {attrs.FREQNAME, attrs.DIRNAME} & set(dset[v].dims)]\n    others = dset[keep]\n    dset = dset.drop_vars(keep)", "if isinstance(freq, (list, tuple)):\n    freq = np.array(freq)", "if isinstance(dir, (list, tuple)):\n    dir = np.array(dir)", "if others is not None:\n    dsout = dsout.assign(others.data_vars)", "if isinstance(dsout, xr.DataArray):\n    dsout.name = 'efth'", "set_spec_attributes(dsout)"] := rfl


/-! ## the frequency stage, the `maintain_m0` factor and the whole function against `Model/Regrid.lean` -/

/-- NaN mask of one column (a target direction outside the extended node range is NaN) -/
def maskCol (ok : Bool) (v : Rat) : Option Rat := if ok then some v else none

/-- NaN mask of a frequency-interpolated row of a NaN-free spectrum: NaN only on a degenerate segment -/
def maskRow (l : Loc) (r : Vec) : Rg.ORow := if l.isNan then r.map (fun _ => none) else r.map some

theorem zipWith_lerpO_some (t : Rat) (a b : Vec) :
    List.zipWith (fun x y => lerpO x y t) (a.map some) (b.map some) =
      (List.zipWith (fun x y => lerpT x y t) a b).map some := by
  rw [List.zipWith_map_left, List.zipWith_map_right, List.map_zipWith]; rfl

theorem zipWith_lerpO_mask (t : Rat) (i : Nat) : ∀ (c : List Bool) (a b : Vec),
    List.zipWith (fun x y => lerpO x y t) (List.zipWith maskCol c a) (List.zipWith maskCol c b) =
      List.zipWith (maskEntry (.seg i t)) c (List.zipWith (fun x y => lerpT x y t) a b) := by
  intro c
  induction c with
  | nil => intro a b; simp
  | cons k c ih =>
    intro a b
    cases a with
    | nil => simp
    | cons x a =>
      cases b with
      | nil => simp
      | cons y b =>
        simp only [List.zipWith_cons_cons, ih]
        cases k <;> simp [maskCol, maskEntry, lerpO]

theorem zipWith_const_replicate {γ : Type} (g : Bool → Rat → γ) (k : γ) (hg : ∀ b, g b 0 = k) (c : List Bool) (n : Nat)
    (h : n ≤ c.length) : List.zipWith g c (List.replicate n 0) = List.replicate n k := by
  rw [zipWith_eq_map_right (k := fun _ => k) c _ (by rwa [List.length_replicate]) fun b _ v hv => by
    rw [List.eq_of_mem_replicate hv]; exact hg b, List.map_replicate]

theorem scale0_mask : ∀ (c : List Bool) (r : Vec),
    (List.zipWith maskCol c r).map (fun v => v.map fun y => 0 * y) = List.zipWith maskCol c (List.replicate r.length 0) := by
  intro c
  induction c with
  | nil => intro r; simp
  | cons b c ih =>
    intro r
    cases r with
    | nil => simp
    | cons x r =>
      simp only [List.zipWith_cons_cons, List.map_cons, ih, List.length_cons, List.replicate_succ]
      cases b <;> simp [maskCol]

/-- the frequency block on rows lifted by `M` (NaN-free rows; rows with NaN columns) against the model's `freqStage`
    masked by `K`, for any lifting / mask compatible with NaN propagation and with the zero row `0 * isel(freq=0)` -/
theorem freqBlock_lift (M : Vec → ORow) (K : Loc → Vec → ORow) (f d : Vec) (e : Mat) (tf : Vec)
    (hM0 : M [] = [])
    (hseg : ∀ i t a b, List.zipWith (fun x y => lerpO x y t) (M a) (M b) =
      K (.seg i t) (List.zipWith (fun x y => lerpT x y t) a b))
    (hnan : List.replicate (e.headD []).length none = K .nan (List.replicate (e.headD []).length 0))
    (hout : List.replicate (e.headD []).length (some 0) = K .out (List.replicate (e.headD []).length 0))
    (hlen : ((e.map M).headD []).length = (e.headD []).length)
    (hzero : ((e.map M).headD []).map (fun v => v.map fun y => 0 * y) = M (List.replicate (e.headD []).length 0)) :
    Gen.rgFreqBlock { freq := f, dir := d, e := e.map M } tf =
      { freq := tf, dir := d, e := List.zipWith K (freqStage f e tf).locs (freqStage f e tf).vals } := by
  rw [genrg_freq_prefix]
  simp only [freqStage, List.zipWith_map_right, List.zipWith_self]
  cases hlo : anchorLo f tf
  · simp only [Bool.false_eq_true, if_false, List.nil_append]
    rw [interpFreq_lift M K (e.headD []).length f d e tf hM0 hseg hnan hout hlen]
    simp only [List.map_map, Function.comp_def]
  · simp only [if_true, List.singleton_append, hzero]
    rw [← List.map_cons,
      interpFreq_lift M K (e.headD []).length (0 :: f) d (List.replicate (e.headD []).length (0 : Rat) :: e) tf hM0 hseg
        hnan hout (by rw [List.map_cons, List.headD_cons, ← hzero, List.length_map, hlen])]
    simp only [List.map_map, Function.comp_def, List.zip_cons_cons]

/-- The generated frequency block on a NaN-free spectrum = the model's `freqStage` (zero row in front iff
    `anchorLo`, stable sort by frequency — the source frequencies may be unsorted and repeated, exactly as in the model —,
    node search `locate`, fill value `0` outside the node range), NaN only where `locate` reports a degenerate segment.
    No hypothesis. -/
theorem genrg_freq_stage_eq (f d : Vec) (e : Mat) (tf : Vec) :
    Gen.rgFreqBlock (ofMat f d e) tf =
      { freq := tf, dir := d, e := List.zipWith maskRow (freqStage f e tf).locs (freqStage f e tf).vals } :=
  freqBlock_lift (List.map some) maskRow f d e tf rfl (fun _ t a b => zipWith_lerpO_some t a b)
    (List.map_replicate (f := fun _ => none)).symm (List.map_replicate (f := some)).symm (by cases e <;> simp)
    (by cases e <;> simp [← List.map_const'])

theorem genrg_freq_stage_masked_eq (f d : Vec) (e : Mat) (c : List Bool) (tf : Vec) (hrect : Rect e c.length) :
    Gen.rgFreqBlock { freq := f, dir := d, e := e.map (List.zipWith maskCol c) } tf =
      { freq := tf, dir := d,
        e := List.zipWith (fun row r => List.zipWith (maskEntry row) c r) (freqStage f e tf).locs (freqStage f e tf).vals } := by
  have hnd := headD_length_le e c.length fun r hr => le_of_eq (hrect r hr)
  refine freqBlock_lift (List.zipWith maskCol c) (fun l r => List.zipWith (maskEntry l) c r) f d e tf
    List.zipWith_nil_right (fun i t a b => zipWith_lerpO_mask t i c a b)
    (zipWith_const_replicate (maskEntry .nan) none (fun _ => rfl) c _ hnd).symm
    (zipWith_const_replicate (maskEntry .out) (some 0) (fun _ => rfl) c _ hnd).symm ?_ ?_
  · cases e with
    | nil => rfl
    | cons r t => simp [hrect r (by simp)]
  · cases e with
    | nil => exact List.zipWith_nil_right.symm
    | cons r t => exact scale0_mask c r

/-- a generated spectrum as a model result -/
def toOut (ds : Rg.Ds) : Out := { freq := ds.freq, dir := some ds.dir, e := ds.e }

theorem zipWith_maskCol_true (r : Vec) (n : Nat) (h : r.length ≤ n) :
    List.zipWith maskCol (List.replicate n true) r = r.map some :=
  zipWith_eq_map_right _ r (by rwa [List.length_replicate]) fun b hb v _ => by rw [List.eq_of_mem_replicate hb]; rfl

theorem zipWith_const_rows {α β : Type} (G : Loc → α → β) (L : Loc) (f : Vec) (rows : List α)
    (h : rows.length ≤ f.length) : List.zipWith G (f.map fun _ => L) rows = rows.map (G L) :=
  zipWith_eq_map_right _ rows (by rwa [List.length_map]) fun l hl r _ => by
    obtain ⟨_, _, rfl⟩ := List.mem_map.mp hl; rfl

theorem maskEntry_seg_col (i : Nat) (t : Rat) : maskEntry (.seg i t) = maskCol := by
  funext c v; rfl

theorem ofMat_masked (f d : Vec) (e : Mat) (n : Nat) (hrect : Rect e n) :
    ofMat f d e = { freq := f, dir := d, e := e.map (List.zipWith maskCol (List.replicate n true)) } := by
  simp only [ofMat]
  congr 1
  apply List.map_congr_left
  intro r hr
  rw [zipWith_maskCol_true r n (by rw [hrect r hr])]

theorem headD_map_true (e : Mat) (n : Nat) (hrect : Rect e n) (hne : e ≠ []) :
    ((e.headD []).map fun _ => true) = List.replicate n true := by
  cases e with
  | nil => exact absurd rfl hne
  | cons r t => simp [← hrect r (by simp), ← List.map_const']

/-- Whole-function equality without `maintain_m0`: for a well-formed NaN-free 2-D spectrum (`e` has one row per
    frequency, every row one value per direction) the generated `regrid_spec` IS the model's `regrid`, for every
    combination of target frequencies / directions (given or `None`), NaN masks included. -/
theorem genrg_regrid_eq (sqrt : Rat → Rat) (thr q : Rat) (f d : Vec) (e : Mat) (tf td : Option Vec)
    (hl : e.length = f.length) (hrect : Rect e d.length) (hne : e ≠ []) :
    Regrid.regrid thr q f (some d) e tf td false = .ok (toOut (Gen.rgRegrid sqrt (ofMat f d e) tf td false)) := by
  have hmd : ∀ (locs : List Loc), List.zipWith maskDir locs = List.zipWith maskCol (locs.map Loc.isSeg) := by
    intro locs; funext r; rw [List.zipWith_map_left]; rfl
  cases tf with
  | none =>
    cases td with
    | none =>
      simp only [regrid, core, coreOk, dirPart, freqPart, finish, Gen.rgRegrid, toOut, Bool.false_eq_true, if_false]
      congr 2
      rw [zipWith_const_rows _ _ f e (by omega), headD_map_true e _ hrect hne, maskEntry_seg_col]
      simp only [ofMat]
      apply List.map_congr_left
      intro r hr
      rw [zipWith_maskCol_true r _ (by rw [hrect r hr])]
    | some t =>
      simp only [regrid, core, coreOk, dirPart, freqPart, finish, Gen.rgRegrid, toOut, Bool.false_eq_true, if_false,
        genrg_dir_stage_eq]
      congr 2
      rw [zipWith_const_rows _ _ f _ (by simp [dirStage]; omega), maskEntry_seg_col, hmd]
  | some tf =>
    cases td with
    | none =>
      simp only [regrid, core, coreOk, dirPart, freqPart, finish, Gen.rgRegrid, toOut, Bool.false_eq_true, if_false]
      rw [ofMat_masked f d e _ hrect, genrg_freq_stage_masked_eq f d e _ tf (by simpa using hrect),
        headD_map_true e _ hrect hne]
    | some t =>
      simp only [regrid, core, coreOk, dirPart, freqPart, finish, Gen.rgRegrid, toOut, Bool.false_eq_true, if_false,
        genrg_dir_stage_eq]
      rw [hmd, genrg_freq_stage_masked_eq f t _ _ tf (dirStage_shape d e t)]

theorem mapM_some_id {α : Type} : ∀ r : List α, List.mapM (m := Option) some r = some r := by
  intro r
  induction r with
  | nil => rfl
  | cons a r ih => simp [List.mapM_cons, ih]

theorem fin?_ofMat (f d : Vec) (e : Mat) : Rg.fin? (ofMat f d e) = some e := by
  simp only [Rg.fin?, ofMat]
  induction e with
  | nil => rfl
  | cons r t ih => simp [List.mapM_cons, mapM_some_id, ih]

/-- the accessor `hs` of the generated code on a NaN-free spectrum: `4·sqrt` of the model's radicand `hsOf` -/
theorem genrg_hs_eq (sqrt : Rat → Rat) (f d : Vec) (e : Mat) (hf : f ≠ []) :
    Gen.rgHs sqrt (ofMat f d e) = 4 * sqrt (hsOf Consts.thr Consts.quarter f (some d) e) := by
  simp only [Gen.rgHs, fin?_ofMat, Option.getD_some, Gen.xrHs, C01.genxr_hs_factor, hsOf, specS]
  have hc : Rg.freqC (ofMat f d e) = f := rfl
  have hd : Rg.dirC (ofMat f d e) = d := rfl
  rw [hc, hd, C01.genxr_hs_composed f d e _ hf]
  rfl

/-- `(4·√a)² / (4·√b)²` in guarded float division is the model's factor `a / b`, NaN for `b = 0` -/
theorem divG_hs_sq (a b sa sb : ℚ) (ha : sa ^ 2 = a) (hb : sb ^ 2 = b) :
    Rg.divG ((4 * sa) ^ 2) ((4 * sb) ^ 2) = scaleOf a b true := by
  have h0 : 0 ≤ a := ha ▸ sq_nonneg sa
  have h1 : 0 ≤ b := hb ▸ sq_nonneg sb
  rw [mul_pow, mul_pow, ha, hb, Rg.divG, scaleOf]
  rcases eq_or_lt_of_le h1 with hb0 | hpos
  · rw [← hb0, mul_zero, if_pos rfl, if_neg (by simp)]
  · rw [if_neg (mul_ne_zero (by norm_num) (ne_of_gt hpos)), if_pos (by simp [h0, hpos]),
      mul_div_mul_left _ _ (by norm_num)]

/-- The `maintain_m0` factor of the generated block, `hs(in)**2 / hs(out)**2` through the regenerated accessor
    (guarded float division), is the model's `scaleOf` of the two radicands, for NaN-free spectra with non-negative
    radicands and any `sqrt` that inverts squaring on non-negative numbers. -/
theorem genrg_m0_eq (sqrt : Rat → Rat) (f d : Vec) (e : Mat) (f' d' : Vec) (e' : Mat) (hf : f ≠ []) (hf' : f' ≠ [])
    (hs0 : sqrt (hsOf Consts.thr Consts.quarter f (some d) e) ^ 2 = hsOf Consts.thr Consts.quarter f (some d) e)
    (hs1 : sqrt (hsOf Consts.thr Consts.quarter f' (some d') e') ^ 2 = hsOf Consts.thr Consts.quarter f' (some d') e') :
    Rg.divG ((Gen.rgHs sqrt (ofMat f d e)) ^ 2) ((Gen.rgHs sqrt (ofMat f' d' e')) ^ 2) =
      scaleOf (hsOf Consts.thr Consts.quarter f (some d) e) (hsOf Consts.thr Consts.quarter f' (some d') e') true := by
  rw [genrg_hs_eq sqrt f d e hf, genrg_hs_eq sqrt f' d' e' hf']
  exact divG_hs_sq _ _ _ _ hs0 hs1

theorem mulScale_ofMat (f d : Vec) (e : Mat) (k : Option Rat) :
    Rg.mulScale (ofMat f d e) k = { freq := f, dir := d, e := e.map fun r => r.map fun v => k.map (· * v) } := by
  simp only [Rg.mulScale, ofMat, List.map_map, Function.comp_def]
  cases k with
  | none => rfl
  | some k => simp only [Option.map_some, mul_comm]

/-- Whole-function equality with `maintain_m0`, when nothing is masked (`allOK`: every target direction inside
    the extended node range, no degenerate frequency segment), for any `sqrt` that inverts squaring on the two radicands. -/
theorem genrg_regrid_m0_eq (sqrt : Rat → Rat) (f d : Vec) (e : Mat) (tf td : Option Vec)
    (hl : e.length = f.length) (hrect : Rect e d.length) (hne : e ≠ [])
    (hok : (coreOk f (some d) e tf td).allOK = true) (hcf : (coreOk f (some d) e tf td).freq ≠ [])
    (hs0 : sqrt (hsOf Consts.thr Consts.quarter f (some d) e) ^ 2 = hsOf Consts.thr Consts.quarter f (some d) e)
    (hs1 : sqrt (hsOf Consts.thr Consts.quarter (coreOk f (some d) e tf td).freq (coreOk f (some d) e tf td).dir
        (coreOk f (some d) e tf td).vals) ^ 2 =
      hsOf Consts.thr Consts.quarter (coreOk f (some d) e tf td).freq (coreOk f (some d) e tf td).dir
        (coreOk f (some d) e tf td).vals) :
    Regrid.regrid Consts.thr Consts.quarter f (some d) e tf td true =
      .ok (toOut (Gen.rgRegrid sqrt (ofMat f d e) tf td true)) := by
  obtain ⟨D, hD⟩ : ∃ D, (coreOk f (some d) e tf td).dir = some D := by cases td <;> exact ⟨_, rfl⟩
  have hfalse := (genrg_regrid_eq sqrt Consts.thr Consts.quarter f d e tf td hl hrect hne).symm.trans
    (regrid_false_of_allOK Consts.thr Consts.quarter f (some d) e tf td (fun h => nomatch h) (le_of_eq hl)
      (dirPart_shape _ e td (rect_head e _ hrect)) hok)
  have hf : f ≠ [] := by intro h; subst h; exact hne (List.eq_nil_of_length_eq_zero (by simpa using hl))
  have hstep : Gen.rgRegrid sqrt (ofMat f d e) tf td true =
      Gen.rgM0Block sqrt (ofMat f d e) (Gen.rgRegrid sqrt (ofMat f d e) tf td false) := by
    cases tf <;> cases td <;> rfl
  have hds : Gen.rgRegrid sqrt (ofMat f d e) tf td false =
      ofMat (coreOk f (some d) e tf td).freq D (coreOk f (some d) e tf td).vals := by
    injection hfalse with h
    generalize Gen.rgRegrid sqrt (ofMat f d e) tf td false = ds' at h ⊢
    cases ds'
    simp only [toOut, Out.mk.injEq, hD, Option.some.injEq] at h
    simp only [ofMat, h.1, h.2.1, h.2.2]
  rw [hstep, hds, genrg_m0_shape, genrg_m0_eq sqrt f d e _ D _ hf hcf hs0 (by rw [← hD]; exact hs1), mulScale_ofMat,
    regrid_of_core _ _ _ (some d) _ _ _ true _ (core_eq_ok _ (some d) _ _ _ fun h => nomatch h), hok, finish_true, hD]
  rfl

/-- HEADLINE (C08 `zero_above_fmax`) on the GENERATED function: a requested frequency above every source
    frequency carries no energy in any direction (entries are `0` or NaN), for every well-formed NaN-free spectrum -/
theorem genrg_zero_above_fmax (sqrt : Rat → Rat) (f d : Vec) (e : Mat) (tf : Vec) (td : Option Vec)
    (hl : e.length = f.length) (hrect : Rect e d.length) (hne : e ≠ []) (i : Nat) (hi : i < tf.length)
    (hx : ∀ y ∈ f, y < getR tf i) (h0 : 0 < getR tf i) :
    ∀ x ∈ (Gen.rgRegrid sqrt (ofMat f d e) (some tf) td false).e.getD i [], ∀ w, x = some w → w = 0 :=
  zero_above_fmax 0 0 f (some d) e tf td false _ (genrg_regrid_eq sqrt 0 0 f d e (some tf) td hl hrect hne) i hi hx h0

/-- HEADLINE (C08 `m0_exact`) on the GENERATED function: with `maintain_m0`, nothing masked and energy on the
    target grid, the generated result is NaN-free and its `hs` radicand on the OUTPUT grid equals the radicand of the
    source on the SOURCE grid -/
theorem genrg_m0_exact (sqrt : Rat → Rat) (f d : Vec) (e : Mat) (tf td : Option Vec)
    (hl : e.length = f.length) (hrect : Rect e d.length) (hne : e ≠ [])
    (hok : (coreOk f (some d) e tf td).allOK = true) (hcf : (coreOk f (some d) e tf td).freq ≠ [])
    (hs0 : sqrt (hsOf Consts.thr Consts.quarter f (some d) e) ^ 2 = hsOf Consts.thr Consts.quarter f (some d) e)
    (hs1 : sqrt (hsOf Consts.thr Consts.quarter (coreOk f (some d) e tf td).freq (coreOk f (some d) e tf td).dir
        (coreOk f (some d) e tf td).vals) ^ 2 =
      hsOf Consts.thr Consts.quarter (coreOk f (some d) e tf td).freq (coreOk f (some d) e tf td).dir
        (coreOk f (some d) e tf td).vals)
    (hout : 0 < hsOf Consts.thr Consts.quarter (coreOk f (some d) e tf td).freq (coreOk f (some d) e tf td).dir
        (coreOk f (some d) e tf td).vals) :
    ∃ vals : Mat, (Gen.rgRegrid sqrt (ofMat f d e) tf td true).e = vals.map (·.map some) ∧
      hsOf Consts.thr Consts.quarter (Gen.rgRegrid sqrt (ofMat f d e) tf td true).freq
        (some (Gen.rgRegrid sqrt (ofMat f d e) tf td true).dir) vals = hsOf Consts.thr Consts.quarter f (some d) e := by
  have hc : core f (some d) e tf td = .ok (coreOk f (some d) e tf td) := by cases td <;> rfl
  have hin : 0 ≤ hsOf Consts.thr Consts.quarter f (some d) e := by rw [← hs0]; positivity
  exact m0_exact Consts.thr Consts.quarter f (some d) e tf td _ _
    (genrg_regrid_m0_eq sqrt f d e tf td hl hrect hne hok hcf hs0 hs1) hc hok hin hout

/-! ### non-vacuity -/
def f1 : Vec := [1]
def d1 : Vec := [0]
def e1 : Mat := [[4 / 5]]

example : Rect [[1, 2]] [true, false].length := by intro r hr; simp at hr; subst hr; rfl
example : eE.length = fE.length ∧ Rect eE dE.length ∧ eE ≠ [] := ⟨rfl, eE_rect, by decide⟩
example : hsOf Consts.thr Consts.quarter f1 (some d1) e1 = 1 := by decide +kernel
example : e1.length = f1.length ∧ Rect e1 d1.length ∧ e1 ≠ [] ∧
    (coreOk f1 (some d1) e1 (some f1) (some d1)).allOK = true ∧ (coreOk f1 (some d1) e1 (some f1) (some d1)).freq ≠ [] ∧
    id (hsOf Consts.thr Consts.quarter f1 (some d1) e1) ^ 2 = hsOf Consts.thr Consts.quarter f1 (some d1) e1 ∧
    id (hsOf Consts.thr Consts.quarter (coreOk f1 (some d1) e1 (some f1) (some d1)).freq
        (coreOk f1 (some d1) e1 (some f1) (some d1)).dir (coreOk f1 (some d1) e1 (some f1) (some d1)).vals) ^ 2 =
      hsOf Consts.thr Consts.quarter (coreOk f1 (some d1) e1 (some f1) (some d1)).freq
        (coreOk f1 (some d1) e1 (some f1) (some d1)).dir (coreOk f1 (some d1) e1 (some f1) (some d1)).vals ∧
    0 < hsOf Consts.thr Consts.quarter (coreOk f1 (some d1) e1 (some f1) (some d1)).freq
        (coreOk f1 (some d1) e1 (some f1) (some d1)).dir (coreOk f1 (some d1) e1 (some f1) (some d1)).vals := by
  refine ⟨rfl, ?_, by decide, by decide +kernel, by decide +kernel, by decide +kernel, by decide +kernel, by decide +kernel⟩
  intro r hr; simp [e1] at hr; subst hr; rfl
example : 2 < tfE.length ∧ (∀ y ∈ fE, y < getR tfE 2) ∧ 0 < getR tfE 2 := by decide +kernel
/-- the generated function and the model agree on the worked example of `Props/C08.lean`, computed -/
example : regrid (333 / 1000) (1 / 4) fE (some dE) eE (some tfE) (some tdE) false =
    .ok (toOut (Gen.rgRegrid id (ofMat fE dE eE) (some tfE) (some tdE) false)) := by
  decide +kernel

example : ([1, 2] : Vec).length ≤ 2 ∧ (2 : Nat) ≤ [true, true, false].length ∧ ([[1, 2]] : Mat).length ≤ ([3] : Vec).length := by decide
example : Loc.isNan (.seg 0 0) = false ∧ Loc.isNan .out = false := ⟨rfl, rfl⟩
example : ∀ r ∈ ([[1, 2], [3]] : Mat), r.length ≤ 2 := by decide

end WS.C08
