import WsVerif.Model.Peak
import WsVerif.Lemmas.Argmax
import WsVerif.Gen.Tps
import WsVerif.Gen.Lits
import WsVerif.Model.Consts
import Mathlib.Tactic.Ring
import Mathlib.Tactic.FieldSimp
import Mathlib.Tactic.Positivity
import WsVerif.Gen.NpKernels
import WsVerif.Model.NpTwins
import WsVerif.Lemmas.NpBridge
/-!
# C02 — peak parameters are taken at the true spectral peak
-/
namespace WS.C02
open WS WS.Stats WS.Peak

/-- interior strict local maximum, as a proposition -/
def IsInteriorStrictMax (a : Vec) (q : Nat) : Prop :=
  0 < q ∧ q + 1 < a.length ∧ getR a (q - 1) < getR a q ∧ getR a (q + 1) < getR a q

theorem isPeak_iff (a : Vec) (q : Nat) : isPeak a q = true ↔ IsInteriorStrictMax a q := by
  unfold isPeak IsInteriorStrictMax
  simp [Bool.and_eq_true, and_assoc]

theorem masked_length (a : Vec) : (masked a).length = a.length := by simp [masked]

theorem masked_get (a : Vec) (i : Nat) : getR (masked a) i = if isPeak a i then getR a i else 0 := by
  by_cases h : i < a.length
  · simp only [masked, getR, List.getD_eq_getElem?_getD, List.getElem?_map, List.getElem?_range h, Option.map_some,
      Option.getD_some]
  · -- out of range both sides are `0`: there is no right neighbour
    have hp : isPeak a i = false := by
      simp only [isPeak, decide_eq_false fun h' : i + 1 < a.length => h (Nat.lt_of_succ_lt h'), Bool.and_false,
        Bool.false_and]
    rw [hp, getR, List.getD_eq_getElem?_getD, List.getElem?_eq_none (by rw [masked_length]; exact not_lt.mp h)]
    rfl

theorem masked_zero (a : Vec) : getR (masked a) 0 = 0 := by
  rw [masked_get]; rfl

/-- `peakIdx` is the first maximiser of the masked spectrum -/
theorem peakIdx_max (a : Vec) (q : Nat) (hq : q < a.length) :
    getR (masked a) q ≤ getR (masked a) (peakIdx a) ∧ (q < peakIdx a → getR (masked a) q < getR (masked a) (peakIdx a)) := by
  have hne : masked a ≠ [] := List.ne_nil_of_length_pos (by rw [masked_length]; exact Nat.zero_lt_of_lt hq)
  exact (argmaxFirst_spec (masked a) hne).2 q (by rw [masked_length]; exact hq)

/-- **peak index**: either `0` (no usable peak) or an interior strict local maximum that dominates every
    other interior strict local maximum, the first one among equals. -/
theorem peakIdx_spec (a : Vec) :
    peakIdx a = 0 ∨
      (IsInteriorStrictMax a (peakIdx a) ∧
        ∀ q, IsInteriorStrictMax a q →
          getR a q ≤ getR a (peakIdx a) ∧ (getR a q = getR a (peakIdx a) → peakIdx a ≤ q)) := by
  by_cases hp : peakIdx a = 0
  · exact Or.inl hp
  have hlen : 0 < a.length := by
    cases a with
    | nil => exact absurd rfl hp
    | cons _ _ => simp
  have hpk : isPeak a (peakIdx a) = true := by
    by_contra hnp
    have h0 := (peakIdx_max a 0 hlen).2 (Nat.pos_of_ne_zero hp)
    rw [masked_zero, masked_get, if_neg hnp] at h0
    exact lt_irrefl _ h0
  refine Or.inr ⟨(isPeak_iff a _).mp hpk, fun q hq => ?_⟩
  have hmq := peakIdx_max a q (by have := hq.2.1; omega)
  rw [masked_get, masked_get, if_pos ((isPeak_iff a q).mpr hq), if_pos hpk] at hmq
  exact ⟨hmq.1, fun heq => Nat.le_of_not_lt fun hlt => (hmq.2 hlt).ne heq⟩

/-- for a non-negative spectrum the peak index is `0` exactly when there is no interior strict local
    maximum — so NaN peak parameters are produced in that case and only in that case -/
theorem peakIdx_zero_iff (a : Vec) (h0 : ∀ i, 0 ≤ getR a i) :
    peakIdx a = 0 ↔ ¬ ∃ q, IsInteriorStrictMax a q := by
  constructor
  · intro hp ⟨q, hq⟩
    have := (peakIdx_max a q (by have := hq.2.1; omega)).1
    rw [hp, masked_zero, masked_get, if_pos ((isPeak_iff a q).mpr hq)] at this
    exact absurd (hq.2.2.1.trans_le this) (not_lt.mpr (h0 (q - 1)))
  · intro hno
    rcases peakIdx_spec a with h | ⟨h, _⟩
    · exact h
    · exact absurd ⟨_, h⟩ hno

/-- the smooth and the discrete peak frequency are NaN exactly when no peak was detected, and the
    discrete one is the frequency coordinate *at the detected peak* -/
theorem fp_none_iff (f S : Vec) :
    (fpSmooth f S = none ↔ peakIdx S = 0) ∧ (fpDiscrete f S = none ↔ peakIdx S = 0) ∧
    (peakIdx S ≠ 0 → fpDiscrete f S = some (getR f (peakIdx S))) := by
  unfold fpSmooth fpDiscrete
  by_cases h : peakIdx S = 0 <;> simp [h]

theorem tpsFp_eq (f1 f2 f3 e1 e2 e3 : ℚ) :
    tpsFp f1 f2 f3 e1 e2 e3 = (f1 + f2 - (e1 - e2) / (f1 - f2) / Peak.qa f1 f2 f3 e1 e2 e3) / 2 := rfl

/-- `qa` is the second divided difference: from the first pair of bins to the second the slope changes by `qa·(f3 − f1)` -/
theorem qa_mul (f1 f2 f3 e1 e2 e3 : ℚ) (h12 : f1 ≠ f2) (h13 : f1 ≠ f3) (h23 : f2 ≠ f3) :
    Peak.qa f1 f2 f3 e1 e2 e3 * (f3 - f1) = (e2 - e3) / (f2 - f3) - (e1 - e2) / (f1 - f2) := by
  have a : f1 - f2 ≠ 0 := sub_ne_zero.mpr h12
  have b : f1 - f3 ≠ 0 := sub_ne_zero.mpr h13
  have c : f3 - f2 ≠ 0 := sub_ne_zero.mpr (Ne.symm h23)
  have c' : f2 - f3 ≠ 0 := sub_ne_zero.mpr h23
  unfold Peak.qa; field_simp; ring

/-- the three-point parabola interpolates the three bins -/
theorem parab_interp (f1 f2 f3 e1 e2 e3 : ℚ) (h12 : f1 ≠ f2) (h13 : f1 ≠ f3) (h23 : f2 ≠ f3) :
    let q12 := (e1 - e2) / (f1 - f2)
    let qa := Peak.qa f1 f2 f3 e1 e2 e3
    parab f1 f2 e1 q12 qa f1 = e1 ∧ parab f1 f2 e1 q12 qa f2 = e2 ∧ parab f1 f2 e1 q12 qa f3 = e3 := by
  have a : f1 - f2 ≠ 0 := sub_ne_zero.mpr h12
  have c : f2 - f3 ≠ 0 := sub_ne_zero.mpr h23
  refine ⟨by simp [parab], ?_, ?_⟩
  · simp only [parab, sub_self, mul_zero, add_zero]; field_simp; ring
  · -- at `f3` the Newton form telescopes: `qa·(f3 − f1)` is the change of slope
    simp only [parab, qa_mul f1 f2 f3 e1 e2 e3 h12 h13 h23]; field_simp; ring

/-- pure algebra: a parabola in Newton form is `p(v) + qa·(x − v)²` around `v = (f1+f2 − q12/qa)/2` -/
theorem parab_vertex (f1 f2 e1 q12 qa x : ℚ) (hqa : qa ≠ 0) :
    parab f1 f2 e1 q12 qa x =
      parab f1 f2 e1 q12 qa ((f1 + f2 - q12 / qa) / 2) + qa * (x - (f1 + f2 - q12 / qa) / 2) ^ 2 := by
  have : q12 = qa * (q12 / qa) := (mul_div_cancel₀ _ hqa).symm
  generalize q12 / qa = t at *
  subst this
  simp only [parab]
  ring

/-- `tps` returns the vertex of the parabola through the three bins -/
theorem tpsFp_vertex (f1 f2 f3 e1 e2 e3 x : ℚ) (hqa : Peak.qa f1 f2 f3 e1 e2 e3 ≠ 0) :
    parab f1 f2 e1 ((e1 - e2) / (f1 - f2)) (Peak.qa f1 f2 f3 e1 e2 e3) x =
      parab f1 f2 e1 ((e1 - e2) / (f1 - f2)) (Peak.qa f1 f2 f3 e1 e2 e3) (tpsFp f1 f2 f3 e1 e2 e3) +
        Peak.qa f1 f2 f3 e1 e2 e3 * (x - tpsFp f1 f2 f3 e1 e2 e3) ^ 2 :=
  parab_vertex f1 f2 e1 _ _ x hqa

/-- at a strict peak the spectrum rises into the middle bin and falls out of it -/
theorem slopes_at_peak {f1 f2 f3 e1 e2 e3 : ℚ} (h12 : f1 < f2) (h23 : f2 < f3) (he1 : e1 < e2) (he3 : e3 < e2) :
    0 < (e1 - e2) / (f1 - f2) ∧ (e2 - e3) / (f2 - f3) < 0 :=
  ⟨div_pos_of_neg_of_neg (sub_neg.mpr he1) (sub_neg.mpr h12), div_neg_of_pos_of_neg (sub_pos.mpr he3) (sub_neg.mpr h23)⟩

/-- … so the second divided difference is negative -/
theorem qa_neg (f1 f2 f3 e1 e2 e3 : ℚ) (h12 : f1 < f2) (h23 : f2 < f3) (he1 : e1 < e2) (he3 : e3 < e2) :
    Peak.qa f1 f2 f3 e1 e2 e3 < 0 := by
  obtain ⟨hq12, hq23⟩ := slopes_at_peak h12 h23 he1 he3
  refine neg_of_mul_neg_left ?_ (sub_pos.mpr (h12.trans h23)).le
  rw [qa_mul f1 f2 f3 e1 e2 e3 h12.ne (h12.trans h23).ne h23.ne]
  exact sub_neg.mpr (hq23.trans hq12)

/-- symmetric form of the vertex: `fp = (f2+f3)/2 − q23/(2·qa)` -/
theorem tpsFp_symm (f1 f2 f3 e1 e2 e3 : ℚ) (h12 : f1 ≠ f2) (h13 : f1 ≠ f3) (h23 : f2 ≠ f3)
    (hqa : Peak.qa f1 f2 f3 e1 e2 e3 ≠ 0) :
    tpsFp f1 f2 f3 e1 e2 e3 = (f2 + f3 - ((e2 - e3) / (f2 - f3)) / Peak.qa f1 f2 f3 e1 e2 e3) / 2 := by
  rw [eq_add_of_sub_eq' (qa_mul f1 f2 f3 e1 e2 e3 h12 h13 h23).symm, tpsFp_eq, add_div, mul_div_cancel_left₀ _ hqa]
  ring

/-- **the fitted peak lies strictly between the midpoints of the neighbouring bins** -/
theorem tpsFp_between (f1 f2 f3 e1 e2 e3 : ℚ) (h12 : f1 < f2) (h23 : f2 < f3)
    (he1 : e1 < e2) (he3 : e3 < e2) :
    (f1 + f2) / 2 < tpsFp f1 f2 f3 e1 e2 e3 ∧ tpsFp f1 f2 f3 e1 e2 e3 < (f2 + f3) / 2 := by
  have hq := qa_neg f1 f2 f3 e1 e2 e3 h12 h23 he1 he3
  obtain ⟨hq12, hq23⟩ := slopes_at_peak h12 h23 he1 he3
  constructor
  · rw [tpsFp_eq]
    exact div_lt_div_of_pos_right (lt_sub_iff_add_lt.mpr (add_lt_iff_neg_left.mpr (div_neg_of_pos_of_neg hq12 hq))) two_pos
  · rw [tpsFp_symm f1 f2 f3 e1 e2 e3 (ne_of_lt h12) (ne_of_lt (h12.trans h23)) (ne_of_lt h23) (ne_of_lt hq)]
    exact div_lt_div_of_pos_right (sub_lt_self _ (div_pos_of_neg_of_neg hq23 hq)) two_pos

/-- hence the smooth peak period lies strictly between the reciprocals of the neighbouring frequencies -/
theorem tps_between_recip (f1 f2 f3 e1 e2 e3 : ℚ) (h0 : 0 < f1) (h12 : f1 < f2) (h23 : f2 < f3)
    (he1 : e1 < e2) (he3 : e3 < e2) :
    1 / f3 < 1 / tpsFp f1 f2 f3 e1 e2 e3 ∧ 1 / tpsFp f1 f2 f3 e1 e2 e3 < 1 / f1 := by
  obtain ⟨hl, hu⟩ := tpsFp_between f1 f2 f3 e1 e2 e3 h12 h23 he1 he3
  have hlo := (left_lt_add_div_two.mpr h12).trans hl
  exact ⟨one_div_lt_one_div_of_lt (h0.trans hlo) (hu.trans (add_div_two_lt_right.mpr h23)),
    one_div_lt_one_div_of_lt h0 hlo⟩

/-- T-tier bridge: the regenerated `npstats.tps` is `1/tpsFp` at the bins `p−1, p, p+1` -/
theorem gen_tps_eq (p : Nat) (S f : Vec) :
    Gen.tps p S f = if p = 0 then none else
      some (1 / tpsFp (getR f (p-1)) (getR f p) (getR f (p+1)) (getR S (p-1)) (getR S p) (getR S (p+1))) := by
  rfl

theorem gen_tp_eq (p : Nat) (S f : Vec) :
    Gen.tp p S f = if p = 0 then none else some (1 / getR f p) := by
  rfl

/-- the smooth peak period of the model at the detected peak is between the neighbours' reciprocals -/
theorem tp_smooth_between (f S : Vec) (hf : ∀ i, i + 1 < f.length → getR f i < getR f (i + 1))
    (hpos : 0 < getR f (peakIdx S - 1)) (hlen : S.length = f.length) (hp : peakIdx S ≠ 0) :
    ∃ fp, fpSmooth f S = some fp ∧
      1 / getR f (peakIdx S + 1) < 1 / fp ∧ 1 / fp < 1 / getR f (peakIdx S - 1) := by
  rcases peakIdx_spec S with h | ⟨⟨h0, h1, h2, h3⟩, _⟩
  · exact absurd h hp
  refine ⟨_, if_neg hp, ?_⟩
  have e : peakIdx S - 1 + 1 = peakIdx S := Nat.sub_add_cancel h0
  have h1' : peakIdx S + 1 < f.length := hlen ▸ h1
  have a := hf (peakIdx S - 1) (e.symm ▸ Nat.lt_of_succ_lt h1')
  rw [e] at a
  exact tps_between_recip _ _ _ _ _ _ hpos a (hf _ h1') h2 h3

/-- `dp` is the coordinate of the first maximum of the frequency-summed spectrum -/
theorem dp_is_argmax (m : Nat) (e : Mat) (hm : 0 < m) :
    dpIdx m e < m ∧ ∀ j < m, getR (colSums m e) j ≤ getR (colSums m e) (dpIdx m e) ∧
      (j < dpIdx m e → getR (colSums m e) j < getR (colSums m e) (dpIdx m e)) := by
  have hl : (colSums m e).length = m := by simp [colSums]
  have hne : colSums m e ≠ [] := List.ne_nil_of_length_pos (hl.symm ▸ hm)
  have := argmaxFirst_spec (colSums m e) hne
  rw [hl] at this
  exact this

/-- `dpm` and `dpspr` use the row of the detected peak and are NaN exactly when there is none -/
theorem dpm_at_peak (ddv : ℚ) (s c : Vec) (e : Mat) :
    (dpmVec ddv s c e = none ↔ peakIdx (oned ddv e) = 0) ∧
    (peakIdx (oned ddv e) ≠ 0 → dpmVec ddv s c e =
      some (getR (momdRow ddv s e) (peakIdx (oned ddv e)), getR (momdRow ddv c e) (peakIdx (oned ddv e)))) := by
  unfold dpmVec
  by_cases h : peakIdx (oned ddv e) = 0 <;> simp [h]

theorem dpspr_at_peak (ddv : ℚ) (s c f : Vec) (e : Mat) :
    (dpsprABE ddv s c f e = none ↔ peakIdx (oned ddv e) = 0) := by
  unfold dpsprABE
  by_cases h : peakIdx (oned ddv e) = 0 <;> simp [h]

theorem windowIdx_lt (lo hi fp : ℚ) (f : Vec) : ∀ i ∈ windowIdx lo hi fp f, i < f.length := by
  intro i hi'
  unfold windowIdx at hi'
  exact List.mem_range.mp (List.mem_filter.mp hi').1

/-- every index used by the tail fit is a valid frequency index (grids with ≥ 2 frequencies) -/
theorem alpha_window_indices_valid (lo hi fp : ℚ) (f : Vec) (h2 : 2 ≤ f.length) :
    ∀ i ∈ alphaPos lo hi fp f, i < f.length := by
  intro i hi'
  unfold alphaPos at hi'
  split at hi'
  · rcases List.mem_pair.mp hi' with rfl | rfl <;> omega
  · rename_i j hj
    have hjl : j < f.length := windowIdx_lt lo hi fp f j (hj ▸ List.mem_singleton_self j)
    split at hi' <;> rcases List.mem_pair.mp hi' with rfl | rfl <;> omega
  · exact windowIdx_lt lo hi fp f i hi'

/-- with two or more frequencies inside `(lo·fp, hi·fp)` the fit uses exactly those -/
theorem alpha_uses_window (lo hi fp : ℚ) (f : Vec) (h : 2 ≤ (windowIdx lo hi fp f).length) :
    alphaPos lo hi fp f = windowIdx lo hi fp f := by
  unfold alphaPos
  split
  · rename_i h0; rw [h0] at h; simp at h
  · rename_i j hj; rw [hj] at h; simp at h
  · rfl

theorem lits_alpha_window : (Gen.lits_npstats_alpha.take 2) = [Consts.alphaLo, Consts.alphaHi] := by
  decide +kernel

theorem lits_gamma : Gen.lits_specarray_gamma =
    [Consts.gammaA, 2, 4, 5, Consts.gammaB] ++
      (Consts.gammaPoly.reverse.map fun x => if x < 0 then -x else x) ++ [0, 1, 1, 1] := by
  decide +kernel

/-- full statement of the property for gamma: the numerator is the density at the detected peak -/
def GammaAtPeak : Prop :=
  ∀ (a b hsE fp : ℚ) (S : Vec), peakIdx S ≠ 0 →
    gammaRaw a b hsE fp S = (gammaRaw a b hsE fp [getR S (peakIdx S)])

/-- as coded, gamma uses the *global* maximum of `E(f)`; when that is the detected peak the property holds -/
theorem gamma_at_peak_partial (a b hsE fp : ℚ) (S : Vec) (hmax : maxD S 0 = getR S (peakIdx S))
    (hnn : 0 ≤ getR S (peakIdx S)) :
    gammaRaw a b hsE fp S = gammaRaw a b hsE fp [getR S (peakIdx S)] := by
  unfold gammaRaw
  have : maxD [getR S (peakIdx S)] 0 = getR S (peakIdx S) := (maxR_eq_max 0 _).trans (max_eq_right hnn)
  rw [hmax, this]

/-- … and it fails when a larger value sits on the boundary: `E = [10,1,2,5,2,1]` (peak at index 3) -/
theorem gamma_full_fails : ¬ GammaAtPeak := by
  intro h
  have := h (5/16) 1 1 1 [10, 1, 2, 5, 2, 1] (by decide +kernel)
  revert this
  decide +kernel

example : peakIdx [10, 1, 2, 5, 2, 1] = 3 := by decide +kernel
example : peakIdx [1, 2, 2, 1] = 0 := by decide +kernel   -- flat top: no strict peak
example : peakIdx [0, 3, 1, 3, 0] = 1 := by decide +kernel -- equal peaks: the first

/-! ## T-tier: regenerated kernels

`npstats.dpm`, `dp`, `dpspr`, `tp` (NaN rule `if not ipeak`) and `npstats.alpha` (window selection with
`np.where`, the three cases of `pos`, `term1`, `term2`) are regenerated in full into `Gen/NpKernels.lean` and
identified here with the `Peak` model for all inputs.  `np.arctan2` splits `dpm` into its argument pair and the
arithmetic after it; `np.exp(1.25·(fp/f)⁴)` is an oracle table whose argument function is regenerated. -/

theorem gen_dpm_eq (p : Nat) (ms mc : Vec) :
    Gen.npDpmVec p ms mc = atPeak p (getR ms p, getR mc p) := rfl

example : Gen.npDpmVec 0 [1, 2] [3, 4] = none ∧ Gen.npDpmVec 1 [1, 2] [3, 4] = some (2, 4) := by decide +kernel

/-- the model's `dpmVec` is the regenerated `dpm` applied at the detected peak to the model's moment rows -/
theorem gen_dpm_model_eq (ddv : ℚ) (s c : Vec) (e : Mat) :
    dpmVec ddv s c e = Gen.npDpmVec (peakIdx (oned ddv e)) (momdRow ddv s e) (momdRow ddv c e) := rfl

theorem gen_dpm_post_eq (pi a : ℚ) : Gen.npDpmPost pi a = Stats.dirOfAtan pi a := rfl

theorem gen_dp_eq (p : Nat) (dir : Vec) : Gen.npDp p dir = getR dir p := rfl

theorem gen_dpspr_eq (p : Nat) (v : Vec) : Gen.npDpspr p v = atPeak p (getR v p) := rfl

theorem gen_npTp_eq (p : Nat) (S f : Vec) : Gen.npTp p S f = Gen.tp p S f ∧ Gen.npTp p S f = atPeak p (1 / getR f p) :=
  ⟨rfl, rfl⟩

theorem gen_alpha_pos_eq (fp : ℚ) (f : Vec) :
    Gen.npAlphaPos f fp = alphaPos Consts.alphaLo Consts.alphaHi fp f := by
  unfold Gen.npAlphaPos alphaPos
  have := where_window_eq Consts.alphaLo Consts.alphaHi fp f
  unfold Consts.alphaLo Consts.alphaHi at this ⊢
  simp only [this]
  rcases windowIdx _ _ fp f with _ | ⟨i, _ | ⟨j, l⟩⟩ <;> simp

/-- non-vacuity: on `f = 0.1, 0.2, …, 0.6` with `fp = 0.2` the window `(0.27, 0.4)` holds the single bin 2 → `[2, 3]` -/
example : Gen.npAlphaPos [1/10, 1/5, 3/10, 2/5, 1/2, 3/5] (1/5) = [2, 3] := by decide +kernel

/-- `npstats.alpha` -/
theorem gen_alpha_val_eq (pi g fp : ℚ) (S f ex : Vec) :
    Gen.npAlpha pi g S f fp ((alphaPos Consts.alphaLo Consts.alphaHi fp f).map fun i => getR ex i) =
      alphaVal ((2 * pi) ^ 4 / g ^ 2) (alphaPos Consts.alphaLo Consts.alphaHi fp f) f S ex := by
  have h : Gen.npAlpha pi g S f fp ((alphaPos Consts.alphaLo Consts.alphaHi fp f).map fun i => getR ex i) =
      (let pos := Gen.npAlphaPos f fp
       (2 * pi) ^ 4 / g ^ 2 / (((pos.getLastD 0 : Nat) : ℚ) - ((pos.getD 0 0 : Nat) : ℚ) + 1) *
        (List.zipWith (fun a b => a * b) (List.zipWith (fun a b => a * b) (pos.map fun i => getR S i)
          (List.map (fun t => t ^ 5) (pos.map fun i => getR f i)))
          ((alphaPos Consts.alphaLo Consts.alphaHi fp f).map fun i => getR ex i)).sum) := rfl
  rw [h, gen_alpha_pos_eq]
  simp only [alphaVal, sum_zip3_map]
  congr 3
  cases alphaPos Consts.alphaLo Consts.alphaHi fp f <;> rfl

theorem gen_alpha_table :
    Gen.npAlpha_ex_fn = "np.exp(·)" ∧ ∀ fp f : ℚ, Gen.npAlpha_ex_arg fp f = alphaExpArg fp f :=
  ⟨by decide +kernel, fun _ _ => rfl⟩

end WS.C02
