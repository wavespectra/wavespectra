import WsVerif.Model.Stats
import WsVerif.Model.Consts
import WsVerif.Model.Regrid
import WsVerif.Model.XrTwins3
import WsVerif.Gen.XrKernels3
import WsVerif.Lemmas.XrBridge3
import WsVerif.Props.C01
import WsVerif.Props.C01xr
/-!
# C01 — T-tier, xarray level, part 3: the remaining derived statistics of `SpecArray` are the model

`Gen/XrKernels3.lean` is regenerated on every run by `harness/translate_xr3.py` from the bodies of `SpecArray.uss_x`, `uss_y`,
`uss`, `mss`, `rmse`, `celerity`, `wavelen`, `rotate` (wavespectra/specarray.py).  Each theorem below identifies one generated
definition with the hand-written model for ALL inputs: the Stokes-drift sums with `Stats.ussSum` on the weight table
`XrT3.fk` (`fk_i = 4π f_i k_i`, deep-water branch or `wavenuma`), `mss` with `Stats.mss` on `k²`, `rmse` with the two radicands
over `Stats.toEnergy`, the dispersion accessors with the regenerated (and separately bridged) `Gen.celerity / Gen.wavelen`, and
`rotate` with `Regrid.rotate`.
-/
namespace WS.C01
open WS WS.Stats

/-- signatures: `depth=None`, `theta=90.0`; accessor names of the dispersion accessors -/
theorem genxr3_defaults :
    Gen.xrUssX_depth_default = none ∧ Gen.xrUssY_depth_default = none ∧ Gen.xrUss_depth_default = none ∧
    Gen.xrMss_depth_default = none ∧ Gen.xrCelerity_depth_default = none ∧ Gen.xrWavelen_depth_default = none ∧
    Gen.xrUssX_theta_default = 90 ∧ Gen.xrUssY_theta_default = 90 ∧
    Gen.xrCelerity_name = "celerity" ∧ Gen.xrWavelen_name = "wavelength" :=
  ⟨rfl, rfl, rfl, rfl, rfl, rfl, rfl, rfl, rfl, rfl⟩

/-- the 1-D guard of `uss_x` / `uss_y` (both messages say `uss_x`, as coded) -/
theorem genxr3_uss_guards :
    Gen.xrUssX_guards = [("self.dir is None", "raise ValueError('Cannot calculate uss_x from 1d, frequency spectra.')")] ∧
    Gen.xrUssY_guards = [("self.dir is None", "raise ValueError('Cannot calculate uss_x from 1d, frequency spectra.')")] :=
  ⟨rfl, rfl⟩

/-- the element-wise divisions by a computed vector (read as total division) are exactly the two of the deep-water branch -/
theorem genxr3_divisions :
    Gen.xrUssX_divisions = ["1.0 / self.freq", "2.0 * np.pi / L"] ∧ Gen.xrUssY_divisions = ["1.0 / self.freq", "2.0 * np.pi / L"] ∧
    Gen.xrUss_divisions = ["1.0 / self.freq", "2.0 * np.pi / L"] ∧ Gen.xrMss_divisions = ["1.0 / self.freq", "2.0 * np.pi / L"] :=
  ⟨rfl, rfl, rfl, rfl⟩

/-- the tables of `uss_x` / `uss_y` are `cos / sin` of `D2R·(180 + θ − dir_j)` -/
theorem genxr3_uss_tables (pi theta d : ℚ) :
    Gen.xrUssX_cp_fn = "np.cos(D2R * ·)" ∧ Gen.xrUssY_sp_fn = "np.sin(D2R * ·)" ∧ Gen.xr_D2R pi = pi / 180 ∧
    Gen.xrUssX_cp_arg theta d = XrT3.ussArg theta d ∧ Gen.xrUssY_sp_arg theta d = XrT3.ussArg theta d :=
  ⟨rfl, rfl, rfl, rfl, rfl⟩

/-- with the default `theta = 90` the argument is the `270° − θ_j` of `momd` / `crsd` -/
theorem genxr3_uss_arg_default (d : ℚ) :
    Gen.xrUssX_cp_arg Gen.xrUssX_theta_default d = Stats.momArg d ∧
    Gen.xrUssY_sp_arg Gen.xrUssY_theta_default d = Stats.momArg d :=
  ⟨momArg_default d, momArg_default d⟩

/-- the twin wavenumber table in closed form: deep water `k_i = 2π / (1.56·(1/f_i)²)`, else the model's `wavenuma` -/
theorem genxr3_waveK_closed (pi : ℚ) (sqrt : ℚ → ℚ) (f : Vec) :
    XrT3.waveK pi sqrt f none = f.map (fun x => 2 * pi / (Consts.deep * (1 / x) ^ 2)) ∧
    ∀ h, XrT3.waveK pi sqrt f (some h) = f.map fun x => Dispersion.wavenuma pi sqrt x h := by
  refine ⟨?_, fun h => rfl⟩
  simp only [XrT3.waveK, List.map_map, Function.comp_def]

/-- the twin Stokes weight in closed form: `fk_i = 4π f_i k_i` -/
theorem genxr3_fk_closed (pi : ℚ) (sqrt : ℚ → ℚ) (f : Vec) (depth : Option ℚ) :
    XrT3.fk pi sqrt f depth = List.zipWith (fun x k => 4 * pi * x * k) f (XrT3.waveK pi sqrt f depth) := by
  simp only [XrT3.fk, List.zipWith_map_left]

/-- `uss_x = (dd·fk·cos·E·df).sum([freq, dir])` is the model's `ussSum` on the weight `fk_i = 4π f_i k_i` -/
theorem genxr3_uss_x_eq (pi : ℚ) (sqrt : ℚ → ℚ) (f d : Vec) (E : Mat) (ddv : ℚ) (depth : Option ℚ) (theta : ℚ) (cp : Vec) :
    Gen.xrUssX pi sqrt f d E (df f) ddv depth theta cp = ussSum ddv (XrT3.fk pi sqrt f depth) cp f E := by
  cases depth <;> simp only [Gen.xrUssX, gen_wavenuma_eq, uss_outer_eq, ussSum, XrT3.fk, XrT3.waveK, Consts.deep]

/-- `uss_y`: the same sum against the sin table -/
theorem genxr3_uss_y_eq (pi : ℚ) (sqrt : ℚ → ℚ) (f d : Vec) (E : Mat) (ddv : ℚ) (depth : Option ℚ) (theta : ℚ) (sp : Vec) :
    Gen.xrUssY pi sqrt f d E (df f) ddv depth theta sp = ussSum ddv (XrT3.fk pi sqrt f depth) sp f E := by
  cases depth <;> simp only [Gen.xrUssY, gen_wavenuma_eq, uss_outer_eq, ussSum, XrT3.fk, XrT3.waveK, Consts.deep]

/-- `uss` (no direction table) is `Σ_i fk_i·oned_i·Δf_i`: the shape of `mss` with `fk` in the place of `k²` — hypothesis-free -/
theorem genxr3_uss_eq_mss (pi : ℚ) (sqrt : ℚ → ℚ) (f d : Vec) (E : Mat) (ddv : ℚ) (depth : Option ℚ) :
    Gen.xrUss pi sqrt f d E (df f) ddv depth = mss (XrT3.fk pi sqrt f depth) f (oned ddv E) := by
  cases depth <;> simp only [Gen.xrUss, gen_wavenuma_eq, uss_plain_eq, mss, oned, XrT3.fk, XrT3.waveK, Consts.deep]

/-- `uss` is the model's `ussSum` against a table of ones (what the driver's `stats` operation computes), for a rectangular
    spectrum (every row as long as the direction axis) -/
theorem genxr3_uss_eq (pi : ℚ) (sqrt : ℚ → ℚ) (f d : Vec) (E : Mat) (ddv : ℚ) (depth : Option ℚ)
    (h : ∀ r ∈ E, r.length = d.length) :
    Gen.xrUss pi sqrt f d E (df f) ddv depth = ussSum ddv (XrT3.fk pi sqrt f depth) (d.map fun _ => (1 : ℚ)) f E := by
  rw [genxr3_uss_eq_mss, List.map_const']
  simp only [mss, oned, ussSum]
  exact uss_ones_eq ddv _ _ E d.length (fun r hr => le_of_eq (h r hr))

/-- the hypothesis of `genxr3_uss_eq` is satisfiable, and the value is the plain double sum -/
example : (∀ r ∈ ([[1, 2], [0, 3]] : Mat), r.length = ([350, 10] : Vec).length) ∧
    Gen.xrUss 3 (fun x => x) [1/2, 1] [350, 10] [[1, 2], [0, 3]] (df [1/2, 1]) 20 none =
      ussSum 20 (XrT3.fk 3 (fun x => x) [1/2, 1] none) [1, 1] [1/2, 1] [[1, 2], [0, 3]] := by decide +kernel

/-- `mss = (k²·Sf·df).sum(freq)` is the model's `mss` on the squared wavenumber table -/
theorem genxr3_mss_eq (pi : ℚ) (sqrt : ℚ → ℚ) (f d : Vec) (E : Mat) (ddv : ℚ) (depth : Option ℚ) :
    Gen.xrMss pi sqrt f d E (df f) ddv depth = mss (XrT3.waveK2 pi sqrt f depth) f (oned ddv E) := by
  cases depth <;> simp only [Gen.xrMss, gen_wavenuma_eq, genxr_oned_eq, mss, XrT3.waveK2, XrT3.waveK, Consts.deep]

/-- `mss_eq_spec` on the regenerated function: the published double sum `Σ_i Σ_j k_i² E_ij Δf_i Δθ` -/
theorem genxr3_mss_eq_spec (pi : ℚ) (sqrt : ℚ → ℚ) (f d : Vec) (E : Mat) (ddv : ℚ) (depth : Option ℚ) :
    Gen.xrMss pi sqrt f d E (df f) ddv depth =
      dsum ddv (List.zipWith (· * ·) (XrT3.waveK2 pi sqrt f depth) (df f)) E := by
  rw [genxr3_mss_eq, mss_eq_spec]

theorem genxr3_spec_dims_src :
    Gen.xrSpecDims_src = "(self) return [d for d in self._obj.dims if d in [attrs.FREQNAME, attrs.DIRNAME]]" := rfl

/-- `rmse = sqrt(Σ(e0−e1)²) / sqrt((Σ e0)²)` over `to_energy` of both spectra, guarded division -/
theorem genxr3_rmse_eq (sqrt : ℚ → ℚ) (f d : Vec) (E E' : Mat) (ddv : ℚ) :
    Gen.xrRmse sqrt f d E (df f) ddv E' = XrT3.rmse sqrt (toEnergy ddv f E) (toEnergy ddv f E') := by
  simp only [Gen.xrRmse, genxr_to_energy_eq, XrT3.rmse, XrT3.rmseNum, XrT3.rmseDen, XrT3.sumM]

/-- the two radicands, spelled out -/
theorem genxr3_rmse_radicands (sqrt : ℚ → ℚ) (f d : Vec) (E E' : Mat) (ddv : ℚ) :
    Gen.xrRmse sqrt f d E (df f) ddv E' =
      divOpt (sqrt (XrT3.rmseNum (toEnergy ddv f E) (toEnergy ddv f E'))) (sqrt (XrT3.sumM (toEnergy ddv f E) ^ 2)) := by
  rw [genxr3_rmse_eq]; rfl

/-- a spectrum against itself: the numerator's radicand is `0` -/
theorem genxr3_rmse_self_num (e : Mat) : XrT3.rmseNum e e = 0 := by
  unfold XrT3.rmseNum XrT3.sumM
  induction e with
  | nil => rfl
  | cons r e ih =>
    simp only [List.zipWith_cons_cons, List.map_cons, List.sum_cons, ih, add_zero]
    induction r with
    | nil => rfl
    | cons x r ihr => simp only [List.zipWith_cons_cons, List.map_cons, List.sum_cons, ihr]; ring

/-- `SpecArray.celerity(depth)` = the regenerated `utils.celerity` on every frequency, `depth` forwarded -/
theorem genxr3_celerity_eq (pi : ℚ) (sqrt : ℚ → ℚ) (f d : Vec) (E : Mat) (dfv : Vec) (ddv : ℚ) (depth : Option ℚ) :
    Gen.xrCelerity pi sqrt f d E dfv ddv depth = f.map fun x => Gen.celerity pi sqrt x depth := rfl

theorem genxr3_celerity_model (pi : ℚ) (sqrt : ℚ → ℚ) (f d : Vec) (E : Mat) (dfv : Vec) (ddv : ℚ) (depth : Option ℚ) :
    Gen.xrCelerity pi sqrt f d E dfv ddv depth = f.map fun x => Dispersion.celerity pi sqrt x depth := by
  simp only [Gen.xrCelerity, gen_celerity_eq]

/-- `SpecArray.wavelen(depth)` = the regenerated `utils.wavelen` on every frequency, `depth` forwarded -/
theorem genxr3_wavelen_eq (pi : ℚ) (sqrt : ℚ → ℚ) (f d : Vec) (E : Mat) (dfv : Vec) (ddv : ℚ) (depth : Option ℚ) :
    Gen.xrWavelen pi sqrt f d E dfv ddv depth = f.map fun x => Gen.wavelen pi sqrt x depth := rfl

theorem genxr3_wavelen_model (pi : ℚ) (sqrt : ℚ → ℚ) (f d : Vec) (E : Mat) (dfv : Vec) (ddv : ℚ) (depth : Option ℚ) :
    Gen.xrWavelen pi sqrt f d E dfv ddv depth = f.map fun x => Dispersion.wavelen pi sqrt x depth := by
  simp only [Gen.xrWavelen, gen_wavelen_eq]

/-- for EVERY reading `g` of `regrid_spec`: `rotate` relabels the directions with `Regrid.relabel` and calls
    `g` with no target frequencies, the ORIGINAL directions as target and `maintain_m0 = True` (the default read from
    `core/utils.py`) -/
theorem genxr3_rotate_call {α : Type} (g : Vec → Vec → Mat → Option Vec → Option Vec → Bool → α)
    (f d : Vec) (E : Mat) (dfv : Vec) (ddv angle : ℚ) :
    Gen.xrRotate g f d E dfv ddv angle = g f (Regrid.relabel d angle) E none (some d) true := by
  simp only [Gen.xrRotate, Regrid.relabel, List.map_map, Function.comp_def]

/-- with the model of `regrid_spec` it is the model's `Regrid.rotate` -/
theorem genxr3_rotate_eq (thr q : ℚ) (f d : Vec) (E : Mat) (dfv : Vec) (ddv angle : ℚ) :
    Gen.xrRotate (fun sf sd e tf td m => Regrid.regrid thr q sf (some sd) e tf td m) f d E dfv ddv angle =
      Regrid.rotate thr q f d E angle := by
  rw [genxr3_rotate_call]; rfl

/-- `uss_x` with the regenerated `df` / `dd` -/
theorem genxr3_uss_x_composed (pi : ℚ) (sqrt : ℚ → ℚ) (f d : Vec) (E : Mat) (depth : Option ℚ) (theta : ℚ) (cp : Vec)
    (h : f ≠ []) :
    Gen.xrUssX pi sqrt f d E (Gen.xrDf f) (Gen.xrDd d) depth theta cp =
      ussSum (Stats.dd (some d)) (XrT3.fk pi sqrt f depth) cp f E := by
  rw [genxr_df_eq f h, genxr_dd_eq, genxr3_uss_x_eq]

/-- non-vacuity: 2×2 spectrum, deep water, `pi := 3`: `k = 2·3/(1.56·(1/f)²)` -/
example : ([1/2, 1] : Vec) ≠ [] ∧
    Gen.xrUssX 3 (fun x => x) [1/2, 1] [350, 10] [[1, 2], [0, 3]] (Gen.xrDf [1/2, 1]) (Gen.xrDd [350, 10]) none 90 [1/2, -1] =
      20 * (4 * 3 * (1/2) * (6 / (Consts.deep * 4))) * (1/2) * ((1/2) * 1 + (-1) * 2)
        + 20 * (4 * 3 * 1 * (6 / Consts.deep)) * (1/2) * ((1/2) * 0 + (-1) * 3) := by decide +kernel

end WS.C01
