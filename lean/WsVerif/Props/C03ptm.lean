import WsVerif.Gen.PtmKernels
import WsVerif.Lemmas.PtmBridge
/-!
# C03 — the assembly model is the source, regenerated (T-tier, statement level)

`harness/translate_ptm.py` reads the bodies of `np_ptm1`, `np_ptm2`, `np_ptm3` (`wavespectra/partition/partition.py`)
statement by statement on every run and writes them as `Gen.np_ptm1/2/3` (`Gen/PtmKernels.lean`): folds over
`List.range nparts` carrying the tuple of re-assigned variables, in-place `+=` on list slots, `np.argsort` + fancy
indexing, `is None` as a `match`, the truncate / append-zeros branches.  The theorems below identify these generated
functions, **for all inputs**, with the hand-written model `Model/Assembly.lean` that every C03 theorem
(`Props/C03.lean`, `Props/C03chain.lean`) is about:

* `genptm_np_ptm3_eq`, `genptm_np_ptm1_eq`, `genptm_np_ptm2_eq`: on the three per-bin arrays of any list of bins
  (`bE` = spectrum, `bL` = watershed map, `bW` = wind-sea mask), any sort key, any cutoff, any requested count including
  `None`, whatever `spectrum_smooth` is, the generated function returns exactly the arrays (`Part.vals`) of
  `Assembly.ptm1/2/3`;  `…_eq_lists`: the same for any three lists of one length (they are the arrays of `mkBins`);
  `…_hs`: instantiated with the sort key of the source, `Assembly.npHsKey f dirs`;
* `genptm_*_sig/_defaults/_watershed_src/_windseamask_src/_key_src`, `genptm_bindings`: every default, the argument
  order, and the source text of what the translator turns into a parameter (the watershed call, the wind-sea mask, the
  sort-key call) are pinned.

`Props/C03ptmUse.lean` restates C03 theorems (lengths, conservation) as statements about the regenerated functions.

The structural differences (fold with slot update vs. `map` over labels, `argsort` + `take` vs. stable `mergeSort`,
append loop vs. `replicate`, select-then-sum vs. sum of `where`) are proved by induction in `Lemmas/PtmBridge.lean`.
-/
namespace WS.C03
open WS WS.Assembly WS.PtmBridge

/-! ## PTM3 -/

theorem genptm_np_ptm3_eq (key : Vec → Rat) (bins : List Bin) (smooth : List Rat) (parts : Option Nat) :
    Gen.np_ptm3 key (bE bins) smooth (bL bins) parts = vals (ptm3 key bins parts) := by
  unfold Gen.np_ptm3
  simp only [maxNat_bL, ← zeros_vals, foldl_append_map, range2_one, List.nil_append, ptm3_slots_bridge, sort_bridge]
  cases parts with
  | none => rfl
  | some s =>
    simp only [List.map_const', List.length_range, decide_eq_true_eq, fit_bridge]
    rfl

/-- any spectrum and label map of one length -/
theorem genptm_np_ptm3_eq_lists (key : Vec → Rat) (E smooth : List Rat) (labs : List Nat) (parts : Option Nat)
    (h : labs.length = E.length) :
    Gen.np_ptm3 key E smooth labs parts = vals (ptm3 key (mkBins E labs (E.map fun _ => false)) parts) := by
  have h2 : (E.map fun _ => false).length = E.length := by simp
  rw [← genptm_np_ptm3_eq, bE_mkBins E labs _ h h2, bL_mkBins E labs _ h h2]

/-- with the sort key of the source: `npstats.hs(swell, freq, dir)`, up to the monotone `4·sqrt` -/
theorem genptm_np_ptm3_hs (f dirs : Vec) (bins : List Bin) (smooth : List Rat) (parts : Option Nat) :
    Gen.np_ptm3 (npHsKey f dirs) (bE bins) smooth (bL bins) parts = vals (ptm3 (npHsKey f dirs) bins parts) :=
  genptm_np_ptm3_eq _ _ _ _

theorem genptm_np_ptm3_sig : Gen.np_ptm3_sig = ["spectrum", "spectrum_smooth", "freq", "dir", "parts", "ihmax"] := rfl

theorem genptm_np_ptm3_defaults : Gen.np_ptm3_default_parts = some 3 ∧ Gen.np_ptm3_default_ihmax = 100 := ⟨rfl, rfl⟩

theorem genptm_np_ptm3_watershed_src : Gen.np_ptm3_watershed_src
    = "specpart.partition(np.ascontiguousarray(spectrum_smooth, dtype=np.float32), ihmax)" := rfl

theorem genptm_np_ptm3_key_src : Gen.np_ptm3_key_src = ["npstats.hs(swell, freq, dir)"] := rfl

/-! ## PTM1 -/

theorem genptm_np_ptm1_eq (key : Vec → Rat) (wscut : Rat) (bins : List Bin) (smooth : List Rat) (swells : Option Nat) :
    Gen.np_ptm1 key (bE bins) smooth (bL bins) (bW bins) wscut swells = vals (ptm1 key wscut bins swells) := by
  unfold Gen.np_ptm1
  simp only [maxNat_bL, ← basin_vals, ← zeros_vals, windsea_test, List.map_const', List.length_range]
  rw [ptm1_loop_bridge wscut bins _ (by intro st i; cases isWindSea wscut bins (i + 1) <;> rfl)]
  simp only [sort_bridge]
  cases swells with
  | none =>
    simp only [dropNull_bridge]
    rfl
  | some s =>
    simp only [foldl_append_const, decide_eq_true_eq, fit_bridge]
    rfl

theorem genptm_np_ptm1_eq_lists (key : Vec → Rat) (wscut : Rat) (E smooth : List Rat) (labs : List Nat) (ws : List Bool)
    (swells : Option Nat) (h1 : labs.length = E.length) (h2 : ws.length = E.length) :
    Gen.np_ptm1 key E smooth labs ws wscut swells = vals (ptm1 key wscut (mkBins E labs ws) swells) := by
  rw [← genptm_np_ptm1_eq, bE_mkBins E labs ws h1 h2, bL_mkBins E labs ws h1 h2, bW_mkBins E labs ws h1 h2]

theorem genptm_np_ptm1_hs (f dirs : Vec) (wscut : Rat) (bins : List Bin) (smooth : List Rat) (swells : Option Nat) :
    Gen.np_ptm1 (npHsKey f dirs) (bE bins) smooth (bL bins) (bW bins) wscut swells
      = vals (ptm1 (npHsKey f dirs) wscut bins swells) :=
  genptm_np_ptm1_eq _ _ _ _ _

theorem genptm_np_ptm1_sig : Gen.np_ptm1_sig
    = ["spectrum", "spectrum_smooth", "freq", "dir", "wspd", "wdir", "dpt", "agefac", "wscut", "swells", "ihmax"] := rfl

/-- `agefac=1.7`, `wscut=0.3333` (the doubles, exactly), `swells=3`, `ihmax=100` -/
theorem genptm_np_ptm1_defaults :
    Gen.np_ptm1_default_agefac = (7656119366529843 : Rat) / 4503599627370496
    ∧ Gen.np_ptm1_default_wscut = (6004199023210345 : Rat) / 18014398509481984
    ∧ Gen.np_ptm1_default_swells = some 3 ∧ Gen.np_ptm1_default_ihmax = 100 := ⟨rfl, rfl, rfl, rfl⟩

theorem genptm_np_ptm1_watershed_src : Gen.np_ptm1_watershed_src
    = "specpart.partition(np.ascontiguousarray(spectrum_smooth, dtype=np.float32), ihmax)" := rfl

/-- the wave-age wind-sea mask (a parameter of the generated function): its source, and its literals -/
theorem genptm_np_ptm1_windseamask_src : Gen.np_ptm1_windseamask_src
    = ["up = np.tile(agefac * wspd * np.cos(D2R * (dir - wdir)), (freq.size, 1))",
       "windseamask = up > np.tile(celerity(freq, dpt)[:, np.newaxis], (1, dir.size))"]
    ∧ Gen.np_ptm1_windseamask_lits = [1, 1] := ⟨rfl, rfl⟩

theorem genptm_np_ptm1_key_src : Gen.np_ptm1_key_src = ["npstats.hs(swell, freq, dir)"] := rfl

/-! ## PTM2 -/

theorem genptm_np_ptm2_eq (key : Vec → Rat) (wscut : Rat) (bins : List Bin) (smooth : List Rat) (swells : Option Nat) :
    Gen.np_ptm2 key (bE bins) smooth (bL bins) (bW bins) wscut swells = vals (ptm2 key wscut bins swells) := by
  unfold Gen.np_ptm2
  simp only [maxNat_bL, ← basin_vals, ← zeros_vals, ← whereWs_vals, ← whereNotWs_vals, windsea_test, List.map_const',
    List.length_range]
  rw [ptm2_loop_bridge wscut bins _ (by intro st i; cases isWindSea wscut bins (i + 1) <;> rfl)]
  simp only [sort_bridge]
  cases swells with
  | none =>
    simp only [dropNull_bridge]
    rfl
  | some s =>
    simp only [foldl_append_const, decide_eq_true_eq, fit_bridge]
    rfl

theorem genptm_np_ptm2_eq_lists (key : Vec → Rat) (wscut : Rat) (E smooth : List Rat) (labs : List Nat) (ws : List Bool)
    (swells : Option Nat) (h1 : labs.length = E.length) (h2 : ws.length = E.length) :
    Gen.np_ptm2 key E smooth labs ws wscut swells = vals (ptm2 key wscut (mkBins E labs ws) swells) := by
  rw [← genptm_np_ptm2_eq, bE_mkBins E labs ws h1 h2, bL_mkBins E labs ws h1 h2, bW_mkBins E labs ws h1 h2]

theorem genptm_np_ptm2_hs (f dirs : Vec) (wscut : Rat) (bins : List Bin) (smooth : List Rat) (swells : Option Nat) :
    Gen.np_ptm2 (npHsKey f dirs) (bE bins) smooth (bL bins) (bW bins) wscut swells
      = vals (ptm2 (npHsKey f dirs) wscut bins swells) :=
  genptm_np_ptm2_eq _ _ _ _ _

theorem genptm_np_ptm2_sig : Gen.np_ptm2_sig
    = ["spectrum", "spectrum_smooth", "freq", "dir", "wspd", "wdir", "dpt", "agefac", "wscut", "swells", "ihmax"] := rfl

theorem genptm_np_ptm2_defaults :
    Gen.np_ptm2_default_agefac = (7656119366529843 : Rat) / 4503599627370496
    ∧ Gen.np_ptm2_default_wscut = (6004199023210345 : Rat) / 18014398509481984
    ∧ Gen.np_ptm2_default_swells = some 3 ∧ Gen.np_ptm2_default_ihmax = 100 := ⟨rfl, rfl, rfl, rfl⟩

theorem genptm_np_ptm2_watershed_src : Gen.np_ptm2_watershed_src
    = "specpart.partition(np.ascontiguousarray(spectrum_smooth, dtype=np.float32), ihmax)" := rfl

theorem genptm_np_ptm2_windseamask_src : Gen.np_ptm2_windseamask_src
    = ["up = np.tile(agefac * wspd * np.cos(D2R * (dir - wdir)), (freq.size, 1))",
       "windseamask = up > np.tile(celerity(freq, dpt)[:, np.newaxis], (1, dir.size))"]
    ∧ Gen.np_ptm2_windseamask_lits = [1, 1] := ⟨rfl, rfl⟩

theorem genptm_np_ptm2_key_src : Gen.np_ptm2_key_src = ["npstats.hs(swell, freq, dir)"] := rfl

/-! ## the free names of the three functions -/

/-- `np`, `specpart`, `npstats`, `D2R`, `celerity` are bound once, by these imports; `D2R = π/180` as written;
    `npstats.hs` takes `(spectrum, freq, dir, tail=True)`: the three-argument call of the sort key fits the tail -/
theorem genptm_bindings : Gen.ptm_bindings
    = ["np: import numpy as np", "specpart: from wavespectra.partition import specpart",
       "npstats: from wavespectra.core import npstats", "D2R: from wavespectra.core.utils import D2R",
       "celerity: from wavespectra.core.utils import celerity"]
    ∧ Gen.ptm_D2R_src = ["D2R = np.pi / 180.0"]
    ∧ Gen.ptm_hs_sig = ["hs(spectrum, freq, dir=None, tail=True)"] := ⟨rfl, rfl, rfl⟩

end WS.C03
