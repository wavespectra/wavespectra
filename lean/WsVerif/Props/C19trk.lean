import WsVerif.Props.C19
import WsVerif.Model.TrackNp
import WsVerif.Lemmas.TrkBridge
import WsVerif.Gen.TrackKernels
/-!
# C19, T-tier: the WHOLE tracking functions regenerated from `wavespectra/partition/tracking.py`

`harness/translate_trk.py` translates the complete bodies of `dfp_wsea`, `dfp_swell`, `match_consecutive_partitions`
and `np_track_partitions` into `Gen/TrackKernels.lean` on every run.  The theorems below identify each generated
definition with the hand-written model (`Model/Track.lean`, `Model/TrackNp.lean`) **for all inputs**: same arguments,
same result.  Every property theorem of `Props/C19.lean` is about that model, so with these bridges it is a theorem
about what the source says *now*; an edit of the source changes the generated text and a bridge stops compiling.

Conventions of the generated code: `Model/TrkRt.lean` (2-D arrays as lists of columns, NaN = `none`, `Int` ids).
-/
namespace WS.C19
open WS WS.Track WS.Trk WS.TrkBridge

/-- `dfp_wsea`: the generated kernel is the model's formula (`pow` = the same oracle on both sides) -/
theorem gentrk_dfp_wsea_eq (pow : ℚ → ℚ → ℚ) (g wspd fp dt scaling : ℚ) :
    Gen.trkDfpWsea pow g wspd fp dt scaling = Track.dfpWsea pow g wspd fp dt scaling := by
  have h : ((-7746191359077253 : ℚ) / 18014398509481984) = -wseaExpT := by decide +kernel
  unfold Gen.trkDfpWsea Track.dfpWsea
  rw [h]
  rfl

/-- `dfp_swell` -/
theorem gentrk_dfp_swell_eq (pi g dt distance : ℚ) :
    Gen.trkDfpSwell pi g dt distance = Track.dfpSwell pi g dt distance := rfl

/-- literals of `dfp_wsea` (`scaling=1.0`, `15.8`, `0.57`, `-1 / 0.43`, `-0.43`) and of `dfp_swell` (`1e6`, `4`) -/
theorem gentrk_lits_thresholds :
    Gen.trkDfpWsea_lits = [seaScalingDefault, wseaCoef, wseaExpU, 1, wseaExpT, wseaExpT] ∧
    Gen.trkDfpWsea_scaling_default = seaScalingDefault ∧
    Gen.trkDfpSwell_lits = [swellDistanceDefault, 4] ∧
    Gen.trkDfpSwell_distance_default = swellDistanceDefault ∧
    Gen.trkDfpWsea_strs = [] ∧ Gen.trkDfpSwell_strs = [] := ⟨rfl, rfl, rfl, rfl, rfl, rfl⟩

/-! ## `match_consecutive_partitions` -/

/-- the generated function is a fold of `TrkBridge.gStep` over `enumerate(fp[:, 1])` with the view `TrkBridge.pdGen`
    (both are verbatim restatements of generated text: this is `rfl`) -/
theorem gentrk_match_shape (fp dpm : List (List (Option ℚ))) (sea : Option ℚ) (swell ddSea ddSwell : ℚ) :
    Gen.trkMatch fp dpm sea swell ddSea ddSwell =
      (List.foldl (gStep (pdGen fp dpm sea swell ddSea ddSwell) (nrows dpm))
        (imulS (ionesLike (col fp 0)) (-999 : Int),
          List.filterMap (fun el : ℕ × Bool => if el.2 then some el.1 else none)
            (enum (List.map (fun b => !b) (List.map isnan (col fp 0)))))
        (enum (col fp 1))).1 := rfl

/-- a genuine distance is never the sentinel -/
theorem distOf_ne_sentinel (thr : Thr) (prev cur : Step) (c p : ℕ) (x : ℚ)
    (h : distOf thr prev cur c p = some x) : x ≠ 999 :=
  ((distEntry_lt_two thr p _ _ _ _ x h).2.trans (by decide)).ne

/-- hypothesis of `distOf_ne_sentinel` is satisfiable (the 355° → 5° case of `Props/C19.lean`) -/
example : ∃ x, distOf exThr exS0 exS1 0 0 = some x := Option.isSome_iff_exists.1 (by decide +kernel)

/-- **`match_consecutive_partitions` regenerated = the model's matching function**, for every `(P, 2)` pair of
    `fp`, `dpm` (given as `[previous, current]`, NaN = `none`) and every threshold (the sea threshold may be NaN):
    the same `matches` vector (`-999` empty, `-888` unmatched, else the predecessor's index). -/
theorem gentrk_match_eq (fp dpm : List (List (Option ℚ))) (sea : Option ℚ) (swell ddSea ddSwell : ℚ)
    (hfp : (col fp 1).length = (col fp 0).length) (hdpm : nrows dpm = nrows fp) :
    Gen.trkMatch fp dpm sea swell ddSea ddSwell = Track.npMatch fp dpm sea swell ddSea ddSwell := by
  rw [gentrk_match_shape, avail_gen]
  have hinit : imulS (ionesLike (col fp 0)) (-999 : Int) = [] ++ List.replicate (col fp 1).length emptyMarker := by
    rw [hfp, imulS, ionesLike, List.map_map]
    exact List.map_const' ..
  rw [hinit]
  unfold enum
  rw [gLoop_spec (pdGen fp dpm sea swell ddSea ddSwell)
    (distOf ⟨sea, swell, ddSea, ddSwell⟩ ⟨fp.getD 0 [], dpm.getD 0 []⟩ ⟨fp.getD 1 [], dpm.getD 1 []⟩) (nrows dpm)
    (fun c p hp => pdGen_eq fp dpm sea swell ddSea ddSwell hdpm c p hp)
    (fun c p x h => distOf_ne_sentinel _ _ _ c p x h) (col fp 1) 0 [] _ rfl]
  rw [hdpm, nrows, ← List.length_map (f := Option.isSome)]
  rfl

/-- hypotheses of `gentrk_match_eq` are satisfiable; the generated kernel on the 355° → 5° case of `Props/C19.lean` -/
example : (col [[some (13 / 125 : ℚ), none], [some (1 / 10), some (1 / 5)]] 1).length =
      (col [[some (13 / 125 : ℚ), none], [some (1 / 10), some (1 / 5)]] 0).length ∧
    nrows [[some (355 : ℚ), none], [some 5, some 90]] = nrows [[some (13 / 125 : ℚ), none], [some (1 / 10), some (1 / 5)]] ∧
    Gen.trkMatch [[some (13 / 125), none], [some (1 / 10), some (1 / 5)]] [[some 355, none], [some 5, some 90]]
      (some (-1 / 100)) (1 / 200) 30 20 = [0, -888] := by decide +kernel

/-- **uniqueness clause on the regenerated function itself**: in the `matches` vector computed by the source's
    `match_consecutive_partitions`, no predecessor index occurs twice, and every index that occurs names a non-NaN
    slot of the previous step. -/
theorem gentrk_match_injective (fp dpm : List (List (Option ℚ))) (sea : Option ℚ) (swell ddSea ddSwell : ℚ)
    (hfp : (col fp 1).length = (col fp 0).length) (hdpm : nrows dpm = nrows fp) :
    ((Gen.trkMatch fp dpm sea swell ddSea ddSwell).filter fun z => decide (0 ≤ z)).Nodup ∧
    ∀ z ∈ Gen.trkMatch fp dpm sea swell ddSea ddSwell, 0 ≤ z →
      ∃ p : ℕ, z = (p : Int) ∧ ∃ v, (col fp 0)[p]? = some (some v) := by
  rw [gentrk_match_eq fp dpm sea swell ddSea ddSwell hfp hdpm]
  unfold npMatch matchData
  obtain ⟨h1, h2⟩ := match_injective
    (distOf ⟨sea, swell, ddSea, ddSwell⟩ ⟨fp.getD 0 [], dpm.getD 0 []⟩ ⟨fp.getD 1 [], dpm.getD 1 []⟩)
    (slotsOf ⟨fp.getD 0 [], dpm.getD 0 []⟩) (slotsOf ⟨fp.getD 1 [], dpm.getD 1 []⟩)
  constructor
  · rw [matchCode_filter_nonneg]
    exact h1.map Int.ofNat_injective
  · intro z hz h0
    have : z ∈ (List.map matchCode _).filter fun z => decide (0 ≤ z) := List.mem_filter.2 ⟨hz, decide_eq_true h0⟩
    rw [matchCode_filter_nonneg] at this
    obtain ⟨p, hp, rfl⟩ := List.mem_map.1 this
    obtain ⟨a, ha, hs⟩ := Option.map_eq_some_iff.1 ((List.getElem?_map ..).symm.trans (h2 p hp))
    obtain ⟨v, rfl⟩ := Option.isSome_iff_exists.1 hs
    exact ⟨p, rfl, v, ha⟩

/-! ## `np_track_partitions` -/

/-- the generated function is: local matches of every step (calls of the generated `trkMatch` on two-column slices),
    stacked behind a `-999` column; then a fold of `TrkBridge.tStep1` over `enumerate(fp[:, 0])`; then a fold of
    `TrkBridge.tCol` over `range(1, times.size)` (verbatim restatements of generated text: this is `rfl`) -/
theorem gentrk_np_track_shape (pow : ℚ → ℚ → ℚ) (pi g : ℚ) (times : List ℚ) (fp dpm : List (List (Option ℚ)))
    (wspd : List (Option ℚ)) (ddSea ddSwell scaling distance : ℚ) :
    Gen.trkNpTrack pow pi g times fp dpm wspd ddSea ddSwell scaling distance =
      (let dt : ℚ := WS.getR (diff (List.take 2 times)) 0 / (1 : ℚ)
       let seaV : List (Option ℚ) :=
         List.zipWith (lift2 (fun w f => Gen.trkDfpWsea pow g w f dt scaling)) wspd (row fp 0)
       let swell : ℚ := Gen.trkDfpSwell pi g dt distance
       let ids0 : List (List Int) := hstack ([imulS (iones (nrows fp)) (-999 : Int)] ++
         List.map (fun it => Gen.trkMatch (cols fp (it - 1) (it + 1)) (cols dpm (it - 1) (it + 1)) (oat seaV (it - 1))
           swell ddSea ddSwell) (pyRange 1 times.length))
       List.foldl (tCol (nrows fp)) (List.foldl tStep1 (ids0, (0 : Int)) (enum (col fp 0))) (pyRange 1 times.length)) := rfl

theorem gentrk_dt_eq (times : List ℚ) : WS.getR (diff (List.take 2 times)) 0 / (1 : ℚ) = dtOf times := by
  rw [div_one]
  rcases times with _ | ⟨a, _ | ⟨b, r⟩⟩ <;> rfl

/-- `dfp_sea_max[i]` as generated is the model's sea threshold of step `i` -/
theorem gentrk_sea_thr (pow : ℚ → ℚ → ℚ) (g dt scaling : ℚ) (wspd : List (Option ℚ)) (fp : List (List (Option ℚ)))
    (i : ℕ) :
    oat (List.zipWith (lift2 (fun w f => Gen.trkDfpWsea pow g w f dt scaling)) wspd (row fp 0)) i =
      seaThr pow g dt scaling (wspd.getD i none) ((fp.getD i []).getD 0 none) := by
  rw [show (fun w f => Gen.trkDfpWsea pow g w f dt scaling) = fun w f => dfpWsea pow g w f dt scaling from
    funext fun w => funext fun f => gentrk_dfp_wsea_eq ..]
  exact (oat_zipWith_lift2 _ wspd (row fp 0) i).trans (by rw [lift2_eq_seaThr, oat_row]; rfl)

/-- the generated matcher on the two-column slice `[it - 1, it]` -/
theorem gentrk_match_slice (fp dpm : List (List (Option ℚ))) (it : ℕ) (h1 : 1 ≤ it)
    (hfp : (fp.getD it []).length = (fp.getD (it - 1) []).length)
    (hdpm : (dpm.getD (it - 1) []).length = (fp.getD (it - 1) []).length) (sea : Option ℚ) (swell ddSea ddSwell : ℚ) :
    Gen.trkMatch (cols fp (it - 1) (it + 1)) (cols dpm (it - 1) (it + 1)) sea swell ddSea ddSwell =
      (matchData ⟨sea, swell, ddSea, ddSwell⟩ (stepAt fp dpm (it - 1)) (stepAt fp dpm it)).map matchCode := by
  obtain ⟨f0, f1⟩ := cols_pair fp it h1
  obtain ⟨d0, d1⟩ := cols_pair dpm it h1
  rw [gentrk_match_eq _ _ _ _ _ _ (by rw [f0, f1, hfp]) (by rw [nrows, nrows, ← col, ← col, d0, f0, hdpm]),
    npMatch, ← col, ← col, ← col, ← col, f0, f1, d0, d1]
  rfl

/-- **`np_track_partitions` regenerated = the model's tracker**: for every series of time stamps, every `(P, T)`
    pair `fp`, `dpm` (lists of `T` columns of the same height `P`, NaN = `none`), every wind-speed series and every
    parameter value, the generated function returns the same identifier columns (`-999` = empty) and the same count
    as `Track.npTrack`, i.e. as `Track.trackData` on the thresholds `dfp_wsea(wspd[t], fp[0, t])`, `dfp_swell(dt, distance)`
    — the function all property theorems of `Props/C19.lean` are about. -/
theorem gentrk_np_track_eq (pow : ℚ → ℚ → ℚ) (pi g : ℚ) (times : List ℚ) (fp dpm : List (List (Option ℚ)))
    (wspd : List (Option ℚ)) (ddSea ddSwell scaling distance : ℚ)
    (hfp : ∀ t, t < times.length → (fp.getD t []).length = nrows fp)
    (hdpm : ∀ t, t < times.length → (dpm.getD t []).length = nrows fp) :
    Gen.trkNpTrack pow pi g times fp dpm wspd ddSea ddSwell scaling distance =
      Track.npTrack pow pi g times fp dpm wspd ddSea ddSwell scaling distance := by
  rw [gentrk_np_track_shape]
  simp only [gentrk_dt_eq]
  -- the local matches of step `i + 1` against step `i`
  let loc : ℕ → List Match := fun i =>
    matchData (thrAt pow pi g times fp wspd ddSea ddSwell scaling distance i) (stepAt fp dpm i) (stepAt fp dpm (i + 1))
  have hcol : ∀ it ∈ pyRange 1 times.length,
      Gen.trkMatch (cols fp (it - 1) (it + 1)) (cols dpm (it - 1) (it + 1))
        (oat (List.zipWith (lift2 (fun w f => Gen.trkDfpWsea pow g w f (dtOf times) scaling)) wspd (row fp 0)) (it - 1))
        (Gen.trkDfpSwell pi g (dtOf times) distance) ddSea ddSwell = (loc (it - 1)).map matchCode := by
    intro it hit
    obtain ⟨h1, hlt⟩ := mem_pyRange.1 hit
    have hlt' : it - 1 < times.length := Nat.lt_of_le_of_lt (Nat.sub_le ..) hlt
    rw [gentrk_match_slice fp dpm it h1 ((hfp it hlt).trans (hfp _ hlt').symm)
      ((hdpm _ hlt').trans (hfp _ hlt').symm), gentrk_sea_thr]
    exact congrArg (fun k => (matchData _ _ (stepAt fp dpm k)).map matchCode) (Nat.sub_add_cancel h1).symm
  have hms : ∀ ms ∈ (List.range' 0 (times.length - 1)).map loc, ms.length = nrows fp ∧ ∀ p, Match.prev p ∈ ms → p < nrows fp := by
    intro ms hms
    obtain ⟨i, hi, rfl⟩ := List.mem_map.1 hms
    obtain ⟨_, h2⟩ := List.mem_range'_1.1 hi
    obtain ⟨e1, e2⟩ := matchData_shape (thrAt pow pi g times fp wspd ddSea ddSwell scaling distance i) (stepAt fp dpm i)
      (stepAt fp dpm (i + 1))
    have hlt : i + 1 < times.length := Nat.add_lt_of_lt_sub (Nat.lt_of_lt_of_le h2 (Nat.zero_add _).le)
    exact ⟨e1.trans (hfp (i + 1) hlt), fun p hp => hfp i (Nat.lt_of_succ_lt hlt) ▸ e2 p hp⟩
  -- the columns are a `-999` column followed by the coded local matches; number the first, propagate through the rest
  have hinit : imulS (iones (nrows fp)) (-999 : Int) =
      List.map idCode ([] : List (Option ℕ)) ++ List.replicate (col fp 0).length emptyMarker := by
    rw [imulS, iones, List.map_replicate]
    rfl
  have hloop := tCol_loop (nrows fp) _ [] (firstStep ((col fp 0).map Option.isSome) 0).1
    (firstStep ((col fp 0).map Option.isSome) 0).2 ((firstStep_length ..).trans (List.length_map ..)) hms
  rw [List.length_map, List.length_range', List.map_map] at hloop
  rw [List.map_congr_left hcol, pyRange, (map_range'_pred (fun i => (loc i).map matchCode) _ 0 :),
    hstack, hinit, List.singleton_append, enum, show (0 : Int) = ((0 : ℕ) : Int) from rfl,
    tLoop1_spec _ (col fp 0) 0 [] 0 rfl]
  refine hloop.trans ?_
  rw [npTrack, trackData_propAll, List.range_eq_range', localMatchesData_range']
  rfl

/-- hypotheses of `gentrk_np_track_eq` are satisfiable, and the generated tracker evaluates: the two-partition,
    three-step history of `Props/C19.lean` (system 0 kept, system 1 lost at step 1, a new system at step 2),
    identifiers `[[0, 1], [0, -999], [0, 2]]`, count 3 (here `pow := fun _ _ => 0`, so the sea threshold is `-fp[0, t]`) -/
example : (∀ t, t < [0, 3600, 7200].length →
      (([[some (13 / 125), some (1 / 5)], [some (1 / 10), none], [some (1 / 10), some (3 / 10)]] :
        List (List (Option ℚ))).getD t []).length =
        nrows ([[some (13 / 125), some (1 / 5)], [some (1 / 10), none], [some (1 / 10), some (3 / 10)]] :
          List (List (Option ℚ)))) ∧
    Gen.trkNpTrack (fun _ _ => 0) 3 10 [0, 3600, 7200]
      [[some (13 / 125), some (1 / 5)], [some (1 / 10), none], [some (1 / 10), some (3 / 10)]]
      [[some 355, some 90], [some 5, none], [some 5, some 200]] [some 10, some 10, some 10] 30 20 1 1000000 =
      ([[0, 1], [0, -999], [0, 2]], 3) := by
  refine ⟨fun t ht => ?_, by decide +kernel⟩
  match t, ht with
  | 0, _ | 1, _ | 2, _ => rfl

/-- **uniqueness clause on the regenerated tracker itself**: in every column (time step) of the `part_ids` computed
    by the source's `np_track_partitions`, no identifier (`≥ 0`) occurs twice; and the count returned is the number of
    distinct identifiers: `k` occurs somewhere iff `0 ≤ k < part_id`. -/
theorem gentrk_np_track_unique (pow : ℚ → ℚ → ℚ) (pi g : ℚ) (times : List ℚ) (fp dpm : List (List (Option ℚ)))
    (wspd : List (Option ℚ)) (ddSea ddSwell scaling distance : ℚ)
    (hfp : ∀ t, t < times.length → (fp.getD t []).length = nrows fp)
    (hdpm : ∀ t, t < times.length → (dpm.getD t []).length = nrows fp) :
    (∀ c ∈ (Gen.trkNpTrack pow pi g times fp dpm wspd ddSea ddSwell scaling distance).1,
      (c.filter fun z => decide (0 ≤ z)).Nodup) ∧
    ∀ k : ℕ, (∃ c ∈ (Gen.trkNpTrack pow pi g times fp dpm wspd ddSea ddSwell scaling distance).1, (k : Int) ∈ c) ↔
      (k : Int) < (Gen.trkNpTrack pow pi g times fp dpm wspd ddSea ddSwell scaling distance).2 := by
  rw [gentrk_np_track_eq pow pi g times fp dpm wspd ddSea ddSwell scaling distance hfp hdpm]
  unfold npTrack trackData
  constructor
  · intro c hc
    obtain ⟨row, hrow, rfl⟩ := List.mem_map.1 hc
    rw [idCode_filter_nonneg]
    exact (ids_unique_per_step _ _ row hrow).map Int.ofNat_injective
  · intro k
    rw [Int.ofNat_lt, ← ids_mem_iff_lt_count]
    constructor
    · rintro ⟨c, hc, hk⟩
      obtain ⟨row, hrow, rfl⟩ := List.mem_map.1 hc
      obtain ⟨x, hx, hxk⟩ := List.mem_map.1 hk
      refine ⟨row, hrow, ?_⟩
      cases x with
      | none => cases hxk
      | some j => exact Int.ofNat.inj hxk ▸ hx
    · rintro ⟨row, hrow, hk⟩
      exact ⟨row.map idCode, List.mem_map.2 ⟨row, hrow, rfl⟩, List.mem_map.2 ⟨some k, hk, rfl⟩⟩

/-! ## literals, defaults and strings of `np_track_partitions` -/

/-- defaults `ddpm_sea_max=30`, `ddpm_swell_max=20`, `dfp_sea_scaling=1`, `dfp_swell_source_distance=1e6` -/
theorem gentrk_np_track_defaults :
    Gen.trkNpTrack_ddpm_sea_max_default = ddpmSeaDefault ∧ Gen.trkNpTrack_ddpm_swell_max_default = ddpmSwellDefault ∧
    Gen.trkNpTrack_dfp_sea_scaling_default = seaScalingDefault ∧
    Gen.trkNpTrack_dfp_swell_source_distance_default = swellDistanceDefault := ⟨rfl, rfl, rfl, rfl⟩

/-- every numeric literal (defaults first, then source order: `times[:2]`, `[0]`, `timedelta64(1, "s")`, `fp[0, :]`,
    the `-999` column, the slice offsets, the counter start `0`, the increments `1`, the marker tests `-888`, `-999`),
    the time unit and the integer dtype; no broadcast assumption is used -/
theorem gentrk_lits_np_track :
    Gen.trkNpTrack_lits = [ddpmSeaDefault, ddpmSwellDefault, seaScalingDefault, swellDistanceDefault, 2, 0, 1, 0, 0, 1,
      ((-emptyMarker : Int) : ℚ), 1, 1, 1, 1, 1, 1, 1, 1, 0, 0, 0, 0, 1, 1, 0, ((-unmatchedMarker : Int) : ℚ), 1,
      ((-emptyMarker : Int) : ℚ), 1] ∧
    Gen.trkNpTrack_strs = ["s", "int16"] ∧ Gen.trkNpTrack_shape_assumptions = [] := ⟨rfl, rfl, rfl⟩

/-! ## literals, markers, dtype strings and shape assumptions of `match_consecutive_partitions` -/

/-- every numeric literal of the function, in source order (index/shape literals included): the markers `-999`,
    `-888` (signs are part of the generated definition), the wrap constants `180`, `360`, the sentinel `999` (stored
    and tested) -/
theorem gentrk_lits_match :
    Gen.trkMatch_lits = [0, ((-emptyMarker : Int) : ℚ), 1, 1, 1, 0, 1, 0, 1, 1, 0, 0, halfTurn, fullTurn, halfTurn,
      1, 1, 1, 0, 1, 0, 1, 1, 0, 0, 0, 1, 0, 0, 1, farSentinel, 0, 1, farSentinel, 1, 0,
      ((-unmatchedMarker : Int) : ℚ), 0, 0, 0, 0] ∧
    Gen.trkMatch_strs = ["int16"] := ⟨rfl, rfl⟩

/-- the broadcast-compatibility conditions the translator relied on (numpy raises when they fail); all of them follow
    from `fp`, `dpm` both having `P` rows -/
theorem gentrk_match_shape_assumptions :
    Gen.trkMatch_shape_assumptions =
      ["(List.length (Trk.col dpm 1)) = (Trk.nrows dpm)", "(Trk.nrows dpm) = (List.length (Trk.col dpm 0))",
       "(List.length (Trk.col fp 1)) = (Trk.nrows fp)", "(Trk.nrows fp) = (List.length (Trk.col fp 0))",
       "(Trk.nrows dpm) = (List.length ddpm_max)", "(Trk.nrows fp) = (List.length dfp_max)",
       "(Trk.nrows fp) = (List.length dfp_min)", "(List.length (Trk.col dpm 1)) = (List.length (Trk.col fp 1))",
       "(Trk.nrows dpm) = (Trk.nrows fp)",
       "(Trk.nrows fp) = (List.length (List.zipWith (fun a b => (Trk.omax a b)) dfp_max (List.map (fun a => (Trk.oabs a)) dfp_min)))"] := rfl

/-- the integer codes of the model are the markers of the source -/
theorem gentrk_match_codes : matchCode Match.empty = -999 ∧ matchCode Match.fresh = -888 ∧
    (∀ p : ℕ, matchCode (Match.prev p) = (p : Int)) ∧ idCode none = -999 ∧ (∀ k : ℕ, idCode (some k) = (k : Int)) :=
  ⟨rfl, rfl, fun _ => rfl, rfl, fun _ => rfl⟩

end WS.C19
