import WsVerif.Model.Stats
import WsVerif.Model.Peak
import WsVerif.Lemmas.Sums
import WsVerif.Lemmas.Moments
import WsVerif.Props.C01
import WsVerif.Props.C02
import WsVerif.Props.C20py
import Mathlib.Data.Rat.Floor
import Mathlib.Tactic.NormNum
/-!
# C10 — statistics obey energy scaling, rotation symmetry and physical bounds

On the C01/C02 models (`Stats.*`, `Peak.*`).  Square roots and `atan2` are
outside the model (DESIGN §1.1): "heights scale by √k" is stated as "the radicand scales by k",
"directions shift by a" as "the moment vector is rotated by a".  Every statement holds for every
number of frequencies and directions.
-/
namespace WS.C10
open WS WS.Stats WS.Peak

/-- scaling a 2-D spectrum -/
def scaleM (k : ℚ) (e : Mat) : Mat := e.map (scaleV k)

/-! ## A. multiplying the spectrum by `k` -/

/-! ### quantities linear in the spectrum -/

/-- every frequency moment is linear in the spectrum -/
theorem momf_smul (n : Nat) (k : ℚ) (f S : Vec) : momf n f (scaleV k S) = k * momf n f S := by
  unfold momf scaleV
  exact sum_zipWith_map_right (· * ·) (k * ·) k (fun a b => by ring) _ S

theorem m0E_smul (k : ℚ) (f S : Vec) : m0E f (scaleV k S) = k * m0E f S := by
  unfold m0E; exact dot_scaleV_left k S (df f)

/-- the radicand of `hs`/`hrms` (tail included) is linear in the spectrum: heights scale by `√k` -/
theorem hsE_smul (thr q : ℚ) (tail : Bool) (k : ℚ) (f S : Vec) :
    hsE thr q tail f (scaleV k S) = k * hsE thr q tail f S := by
  unfold hsE
  rw [m0E_smul, lastD_scaleV]
  split <;> ring

theorem map_scaleM (g : Vec → ℚ) (k : ℚ) (hg : ∀ r, g (scaleV k r) = k * g r) (e : Mat) :
    (scaleM k e).map g = scaleV k (e.map g) := by
  rw [scaleM, scaleV, List.map_map, List.map_map]
  exact List.map_congr_left fun r _ => hg r

/-- direction-integrated spectrum -/
theorem oned_smul (ddv k : ℚ) (e : Mat) : oned ddv (scaleM k e) = scaleV k (oned ddv e) :=
  map_scaleM _ k (fun r => by rw [sum_scaleV, mul_left_comm]) e

theorem momdRow_smul (ddv k : ℚ) (t : Vec) (e : Mat) :
    momdRow ddv t (scaleM k e) = scaleV k (momdRow ddv t e) :=
  map_scaleM _ k
    (fun r => sum_zipWith_map_left (fun x y => ddv * x * y) (k * ·) k (fun a b => by ring) r t) e

/-- `dm`'s moment vector: both components are multiplied by `k` (so its direction is unchanged) -/
theorem dmVec_smul (ddv k : ℚ) (s c : Vec) (e : Mat) :
    dmVec ddv s c (scaleM k e) = (k * (dmVec ddv s c e).1, k * (dmVec ddv s c e).2) := by
  unfold dmVec
  simp only [momdRow_smul, sum_scaleV]

theorem dsprABE_smul (ddv k : ℚ) (s c f : Vec) (e : Mat) :
    dsprABE ddv s c f (scaleM k e) =
      (k * (dsprABE ddv s c f e).1, k * (dsprABE ddv s c f e).2.1, k * (dsprABE ddv s c f e).2.2) := by
  unfold dsprABE
  simp only [momdRow_smul, oned_smul, dot_scaleV_left]

/-- Stokes drift sums (`uss`, `uss_x`, `uss_y`) are linear in the spectrum -/
theorem ussSum_smul (ddv k : ℚ) (fk t f : Vec) (e : Mat) :
    ussSum ddv fk t f (scaleM k e) = k * ussSum ddv fk t f e := by
  unfold ussSum scaleM
  apply sum_zipWith_map_right
  intro p r
  exact sum_zipWith_map_left (fun x y => ddv * p.1 * y * x * p.2) (k * ·) k (fun a b => by ring) r t

/-- mean square slope is linear in the spectrum -/
theorem mss_smul (k : ℚ) (k2 f S : Vec) : mss k2 f (scaleV k S) = k * mss k2 f S := by
  unfold mss
  rw [zipWith_scaleV_right (· * ·) k (fun x y => by ring)]
  exact sum_zipWith_map_left (· * ·) (k * ·) k (fun a b => by ring) _ (df f)

theorem toEnergy_map (ddv : ℚ) (f : Vec) (e : Mat) (P : Vec → Vec)
    (hP : ∀ d r, P (r.map fun x => x * d * ddv) = (P r).map fun x => x * d * ddv) :
    toEnergy ddv f (e.map P) = (toEnergy ddv f e).map P := by
  unfold toEnergy
  rw [List.zipWith_map_left, List.map_zipWith]
  congr 1
  funext r d
  exact (hP d r).symm

/-- `to_energy` is linear in the spectrum -/
theorem toEnergy_smul (ddv k : ℚ) (f : Vec) (e : Mat) :
    toEnergy ddv f (scaleM k e) = scaleM k (toEnergy ddv f e) :=
  toEnergy_map ddv f e (scaleV k) fun d r => by
    simp only [scaleV, List.map_map]
    exact List.map_congr_left fun x _ => by simp only [Function.comp]; ring

/-- `alpha`'s tail-fit value is linear in the spectrum (an energy scale, not claimed scale-free);
    its window `alphaPos` depends on `fp` and the grid only -/
theorem alphaVal_smul (c0 k : ℚ) (pos : List Nat) (f S ex : Vec) :
    alphaVal c0 pos f (scaleV k S) ex = k * alphaVal c0 pos f S ex := by
  unfold alphaVal
  rw [mul_left_comm, ← sum_map_const_mul _ k, List.map_map]
  congr 2
  refine List.map_congr_left fun i _ => ?_
  simp only [Function.comp, getR_scaleV, mul_assoc]

/-! ### scale-free quantities (`k ≠ 0`) -/

/-- mean period `tm01 = m0/m1` (NaN status included) -/
theorem tm01_smul_inv (k : ℚ) (hk : k ≠ 0) (f S : Vec) : tm01 f (scaleV k S) = tm01 f S := by
  unfold tm01; rw [momf_smul, momf_smul, divOpt_mul_left _ _ _ hk]

/-- `tm02² = m0/m2` -/
theorem tm02Sq_smul_inv (k : ℚ) (hk : k ≠ 0) (f S : Vec) : tm02Sq f (scaleV k S) = tm02Sq f S := by
  unfold tm02Sq; rw [momf_smul, momf_smul, divOpt_mul_left _ _ _ hk]

/-- radicand of `swe` -/
theorem sweSq_smul_inv (k : ℚ) (hk : k ≠ 0) (f S : Vec) : sweSq f (scaleV k S) = sweSq f S := by
  unfold sweSq
  rw [momf_smul, momf_smul, momf_smul, mul_pow, mul_mul_mul_comm, ← sq,
    divOpt_mul_left _ _ _ (pow_ne_zero 2 hk)]

/-- radicand of `sw` -/
theorem swSq_smul_inv (k : ℚ) (hk : k ≠ 0) (f S : Vec) : swSq f (scaleV k S) = swSq f S := by
  unfold swSq
  rw [momf_smul, momf_smul, momf_smul, mul_pow, mul_mul_mul_comm, ← sq,
    divOpt_mul_left _ _ _ (pow_ne_zero 2 hk)]

theorem goda_eq_divOpt (f S : Vec) :
    goda f S = divOpt (2 * (List.zipWith (· * ·) (List.zipWith (fun s x => s ^ 2 * x) S f) (df f)).sum)
      (m0E f S ^ 2) := by
  unfold goda divOpt
  simp only [div_mul_eq_mul_div]

/-- Goda peakedness: numerator and denominator are both of degree two -/
theorem goda_smul_inv (k : ℚ) (hk : k ≠ 0) (f S : Vec) : goda f (scaleV k S) = goda f S := by
  have hnum : List.zipWith (fun s x => s ^ 2 * x) (scaleV k S) f =
      (List.zipWith (fun s x => s ^ 2 * x) S f).map (k ^ 2 * ·) := by
    rw [scaleV, List.zipWith_map_left, List.map_zipWith]
    congr 1; funext s x; ring
  rw [goda_eq_divOpt, goda_eq_divOpt, m0E_smul, mul_pow, hnum,
    sum_zipWith_map_left (· * ·) (k ^ 2 * ·) (k ^ 2) (fun a b => mul_assoc _ a b), mul_left_comm,
    divOpt_mul_left _ _ _ (pow_ne_zero 2 hk)]

/-- directional spread: the ratio `(a² + b²)/e²` that `dspr` is a function of is unchanged -/
theorem dsprSq_smul_inv (ddv k : ℚ) (hk : k ≠ 0) (s c f : Vec) (e : Mat) :
    ((dsprABE ddv s c f (scaleM k e)).1 ^ 2 + (dsprABE ddv s c f (scaleM k e)).2.1 ^ 2) /
        (dsprABE ddv s c f (scaleM k e)).2.2 ^ 2 =
      ((dsprABE ddv s c f e).1 ^ 2 + (dsprABE ddv s c f e).2.1 ^ 2) / (dsprABE ddv s c f e).2.2 ^ 2 := by
  rw [dsprABE_smul]
  simp only [mul_pow]
  rw [← mul_add, mul_div_mul_left _ _ (pow_ne_zero 2 hk)]

/-- `gw` as coded (`sqrt(m0h/tm02² − m0h²/tm01²)`) is of mixed degree in the spectrum -/
def GwScaleFree : Prop :=
  ∀ (thr q k : ℚ) (f S : Vec), 0 < k → gwSq thr q f (scaleV k S) = gwSq thr q f S

/-- … so it is *not* scale-free (observation recorded in DESIGN, not an alarm): doubling `[1,3,2]` -/
theorem gwSq_scale_free_fails : ¬ GwScaleFree := by
  intro h
  have := h (333/1000) (1/4) 2 [1/10, 1/5, 2/5] [1, 3, 2] (by norm_num)
  revert this
  decide +kernel

/-- the parabolic-fit peak frequency only depends on the ratios of the three densities -/
theorem tpsFp_smul_inv (k : ℚ) (hk : k ≠ 0) (f1 f2 f3 e1 e2 e3 : ℚ) :
    tpsFp f1 f2 f3 (k * e1) (k * e2) (k * e3) = tpsFp f1 f2 f3 e1 e2 e3 := by
  unfold tpsFp
  simp only [← mul_sub, mul_div_assoc, mul_div_mul_left _ _ hk]

/-! ### peak detection (`k > 0`) -/

theorem isPeak_smul (k : ℚ) (hk : 0 < k) (a : Vec) (i : Nat) : isPeak (scaleV k a) i = isPeak a i := by
  unfold isPeak
  simp only [getR_scaleV, scaleV_length, mul_lt_mul_iff_right₀ hk]

theorem masked_smul (k : ℚ) (hk : 0 < k) (a : Vec) : masked (scaleV k a) = scaleV k (masked a) := by
  unfold masked
  rw [scaleV_length]
  refine Eq.trans (List.map_congr_left fun i _ => ?_) List.map_map.symm
  simp only [Function.comp, isPeak_smul k hk, getR_scaleV, mul_ite, mul_zero]

/-- the detected peak bin is unchanged -/
theorem peakIdx_smul (k : ℚ) (hk : 0 < k) (a : Vec) : peakIdx (scaleV k a) = peakIdx a := by
  unfold peakIdx; rw [masked_smul k hk, argmaxFirst_scaleV k hk]

/-- smooth peak frequency (hence `tp` smooth) is unchanged -/
theorem fpSmooth_smul_inv (k : ℚ) (hk : 0 < k) (f S : Vec) : fpSmooth f (scaleV k S) = fpSmooth f S := by
  unfold fpSmooth
  simp only [peakIdx_smul k hk, getR_scaleV, tpsFp_smul_inv k (ne_of_gt hk)]

/-- discrete peak frequency is unchanged -/
theorem fpDiscrete_smul_inv (k : ℚ) (hk : 0 < k) (f S : Vec) :
    fpDiscrete f (scaleV k S) = fpDiscrete f S := by
  unfold fpDiscrete
  simp only [peakIdx_smul k hk]

theorem colSums_smul (m : Nat) (k : ℚ) (e : Mat) : colSums m (scaleM k e) = scaleV k (colSums m e) := by
  unfold colSums
  rw [scaleV, List.map_map]
  refine List.map_congr_left fun j _ => ?_
  rw [map_scaleM (·.getD j 0) k (getR_scaleV k · j)]
  exact sum_scaleV k _

/-- peak direction index is unchanged -/
theorem dpIdx_smul (m : Nat) (k : ℚ) (hk : 0 < k) (e : Mat) : dpIdx m (scaleM k e) = dpIdx m e := by
  unfold dpIdx; rw [colSums_smul, argmaxFirst_scaleV k hk]

/-- `dpm`'s vector at the peak row is multiplied by `k` (direction unchanged, NaN status unchanged) -/
theorem dpmVec_smul (ddv k : ℚ) (hk : 0 < k) (s c : Vec) (e : Mat) :
    dpmVec ddv s c (scaleM k e) = (dpmVec ddv s c e).map fun p => (k * p.1, k * p.2) := by
  unfold dpmVec
  simp only [oned_smul, peakIdx_smul k hk, momdRow_smul, getR_scaleV]
  split <;> rfl

/-- `dpspr`'s ingredients at the peak row are multiplied by `k` -/
theorem dpsprABE_smul (ddv k : ℚ) (hk : 0 < k) (s c f : Vec) (e : Mat) :
    dpsprABE ddv s c f (scaleM k e) =
      (dpsprABE ddv s c f e).map fun p => (k * p.1, k * p.2.1, k * p.2.2) := by
  unfold dpsprABE
  simp only [oned_smul, peakIdx_smul k hk, momdRow_smul, getR_scaleV, mul_assoc]
  split <;> rfl

/-- JONSWAP `gamma` before the polynomial is unchanged (its `hs²` input scales with the spectrum) -/
theorem gammaRaw_smul_inv (a b H fp k : ℚ) (hk : 0 < k) (S : Vec) :
    gammaRaw a b (k * H) fp (scaleV k S) = gammaRaw a b H fp S := by
  unfold gammaRaw
  -- both the maximum and `epm` carry the factor `k`; move it to the front of each product
  simp only [maxD_scaleV_zero k hk.le, mul_assoc, mul_left_comm _ k, mul_eq_zero, hk.ne', false_or,
    mul_div_mul_left _ _ hk.ne']

/-! ## D. `scale_by_hs` -/

/-- `scale_by_hs` for one spectrum: where the condition holds the spectrum is multiplied by
    `k = (t/hs)² = t²/(16·hsE)`, elsewhere it is kept -/
def scaleByHs (thr q : ℚ) (tail : Bool) (t : ℚ) (cond : Bool) (f S : Vec) : Vec :=
  if cond then scaleV (t ^ 2 / (16 * hsE thr q tail f S)) S else S

/-- where the condition holds the rescaled spectrum has exactly `hs² = t²` (radicand `t²/16`) -/
theorem scale_by_hs (thr q : ℚ) (tail : Bool) (t : ℚ) (f S : Vec) (hH : hsE thr q tail f S ≠ 0) :
    hsE thr q tail f (scaleByHs thr q tail t true f S) = t ^ 2 / 16 := by
  rw [scaleByHs, if_pos rfl, hsE_smul, div_mul_eq_mul_div, mul_div_mul_right _ _ hH]

/-- … and every other spectrum is untouched -/
theorem scale_by_hs_else (thr q : ℚ) (tail : Bool) (t : ℚ) (f S : Vec) :
    scaleByHs thr q tail t false f S = S := if_neg Bool.false_ne_true

/-! ## C. physical bounds

Standing hypotheses: a non-negative 1-D spectrum `S` on a strictly increasing frequency grid with a
positive first frequency, and positive variance `m0 > 0`.  (No length hypothesis is needed: every sum
in the model runs over the common prefix of its arguments.) -/

theorem weights_nonneg (f S : Vec) (hS : ∀ x ∈ S, 0 ≤ x) (hf : f.Pairwise (· < ·)) :
    ∀ v ∈ List.zipWith (· * ·) (df f) S, 0 ≤ v :=
  zipWith_mul_nonneg (df f) S (fun v hv => le_of_lt (C01.df_pos f hf v hv)) hS

theorem momf_cauchy (q : Nat) (f S : Vec) (hS : ∀ x ∈ S, 0 ≤ x) (hf : f.Pairwise (· < ·))
    (h0 : 0 < momf 0 f S) : momf q f S ^ 2 ≤ momf 0 f S * momf (2 * q) f S := by
  simp only [momf_eq_wmom] at h0 ⊢
  exact wmom_cauchy q _ f (weights_nonneg f S hS hf) h0

theorem momf_succ_bounds (n : Nat) (f S : Vec) (hS : ∀ x ∈ S, 0 ≤ x) (hf : f.Pairwise (· < ·))
    (hpos : 0 < f.headD 0) :
    f.headD 0 * momf n f S ≤ momf (n + 1) f S ∧ momf (n + 1) f S ≤ lastD f * momf n f S := by
  simp only [momf_eq_wmom]
  exact wmom_succ_bounds n _ _ (le_of_lt hpos) _ f (weights_nonneg f S hS hf) (pairwise_lt_bounds f hf)

theorem momf_pos (n : Nat) (f S : Vec) (hS : ∀ x ∈ S, 0 ≤ x) (hf : f.Pairwise (· < ·))
    (hpos : 0 < f.headD 0) (h0 : 0 < momf 0 f S) : 0 < momf n f S := by
  induction n with
  | zero => exact h0
  | succ n ih => exact lt_of_lt_of_le (mul_pos hpos ih) (momf_succ_bounds n f S hS hf hpos).1

/-- `1/f_max² ≤ Tm02² ≤ Tm01²` and `Tm01 ≤ 1/f_min`, on the moment ratios -/
theorem tm_order (f S : Vec) (hS : ∀ x ∈ S, 0 ≤ x) (hf : f.Pairwise (· < ·))
    (hpos : 0 < f.headD 0) (h0 : 0 < momf 0 f S) :
    momf 0 f S / momf 2 f S ≤ (momf 0 f S / momf 1 f S) ^ 2 ∧
    momf 0 f S / momf 1 f S ≤ 1 / f.headD 0 ∧
    1 / (lastD f) ^ 2 ≤ momf 0 f S / momf 2 f S := by
  have h1 := momf_pos 1 f S hS hf hpos h0
  have h2 := momf_pos 2 f S hS hf hpos h0
  have hc := momf_cauchy 1 f S hS hf h0
  obtain ⟨b1, b1'⟩ := momf_succ_bounds 0 f S hS hf hpos
  obtain ⟨_, b2'⟩ := momf_succ_bounds 1 f S hS hf hpos
  have hlast : 0 < lastD f := (mul_pos_iff_of_pos_right h0).mp (lt_of_lt_of_le h1 b1')
  refine ⟨?_, ?_, ?_⟩
  · rw [div_pow, div_le_div_iff₀ h2 (pow_pos h1 2), sq (momf 0 f S), mul_assoc]
    exact mul_le_mul_of_nonneg_left hc h0.le
  · rw [div_le_div_iff₀ h1 hpos, one_mul, mul_comm]
    exact b1
  · -- `m2 ≤ f_max · m1 ≤ f_max · (f_max · m0)`
    rw [div_le_div_iff₀ (pow_pos hlast 2) h2, one_mul, mul_comm, sq, mul_assoc]
    exact b2'.trans (mul_le_mul_of_nonneg_left b1' hlast.le)

/-- the same on the model's outputs: both periods are defined (not NaN), positive and ordered -/
theorem tm_order_opt (f S : Vec) (hS : ∀ x ∈ S, 0 ≤ x) (hf : f.Pairwise (· < ·))
    (hpos : 0 < f.headD 0) (h0 : 0 < momf 0 f S) :
    ∃ t1 t2, tm01 f S = some t1 ∧ tm02Sq f S = some t2 ∧ 0 < t1 ∧ 0 < t2 ∧
      t2 ≤ t1 ^ 2 ∧ t1 ≤ 1 / f.headD 0 ∧ 1 / (lastD f) ^ 2 ≤ t2 := by
  have h1 := momf_pos 1 f S hS hf hpos h0
  have h2 := momf_pos 2 f S hS hf hpos h0
  obtain ⟨a, b, c⟩ := tm_order f S hS hf hpos h0
  exact ⟨_, _, divOpt_of_ne_zero _ h1.ne', divOpt_of_ne_zero _ h2.ne', div_pos h0 h1, div_pos h0 h2, a, b, c⟩

/-- `swe² = 1 − m2²/(m0 m4)` is defined and lies in `[0, 1]` (so `swe` is real and `≤ 1`) -/
theorem sweSq_range (f S : Vec) (hS : ∀ x ∈ S, 0 ≤ x) (hf : f.Pairwise (· < ·))
    (hpos : 0 < f.headD 0) (h0 : 0 < momf 0 f S) :
    ∃ v, sweSq f S = some v ∧ 0 ≤ v ∧ v ≤ 1 := by
  have hd : 0 < momf 0 f S * momf 4 f S := mul_pos h0 (momf_pos 4 f S hS hf hpos h0)
  refine ⟨_, congrArg _ (divOpt_of_ne_zero _ hd.ne'), sub_nonneg.mpr ?_, sub_le_self 1 ?_⟩
  · exact (div_le_one hd).mpr (momf_cauchy 2 f S hS hf h0)
  · exact div_nonneg (sq_nonneg _) hd.le

/-- `sw² = m0 m2/m1² − 1` is defined and non-negative (so `sw` is real) -/
theorem swSq_nonneg (f S : Vec) (hS : ∀ x ∈ S, 0 ≤ x) (hf : f.Pairwise (· < ·))
    (hpos : 0 < f.headD 0) (h0 : 0 < momf 0 f S) :
    ∃ v, swSq f S = some v ∧ 0 ≤ v := by
  have hd : 0 < momf 1 f S ^ 2 := pow_pos (momf_pos 1 f S hS hf hpos h0) 2
  exact ⟨_, congrArg _ (divOpt_of_ne_zero _ hd.ne'),
    sub_nonneg.mpr ((one_le_div hd).mpr (momf_cauchy 1 f S hS hf h0))⟩

/-- directional spread: with unit vectors `(c_j, s_j)`, non-negative densities, `Δθ ≥ 0`, `Δf_i ≥ 0`
    the ingredients `(a, b, e)` of `dspr` satisfy `a² + b² ≤ e²`, `e ≥ 0` -/
theorem dspr_range (ddv : ℚ) (s c f : Vec) (e : Mat) (hdd : 0 ≤ ddv) (hlen : c.length = s.length)
    (hunit : ∀ p ∈ c.zip s, p.1 ^ 2 + p.2 ^ 2 = 1) (he : ∀ r ∈ e, ∀ x ∈ r, 0 ≤ x)
    (hdf : ∀ d ∈ df f, 0 ≤ d) :
    0 ≤ (dsprABE ddv s c f e).2.2 ∧
      (dsprABE ddv s c f e).1 ^ 2 + (dsprABE ddv s c f e).2.1 ^ 2 ≤ (dsprABE ddv s c f e).2.2 ^ 2 :=
  dot_inDisk ddv hdd c s hlen hunit e he (df f) hdf

/-- hence, for the value `r = √(a²+b²)` supplied by the square-root oracle, the radicand
    `2(1 − r/e)` of `dspr` lies in `[0, 2]`, i.e. `dspr ∈ [0, √2·180/π] = [0, 81.03°]` -/
theorem dsprSq_range (a b e r : ℚ) (he : 0 < e) (hab : a ^ 2 + b ^ 2 ≤ e ^ 2) (hr : 0 ≤ r)
    (hr2 : r ^ 2 = a ^ 2 + b ^ 2) : 0 ≤ 2 * (1 - r / e) ∧ 2 * (1 - r / e) ≤ 2 := by
  have hre : r ≤ e := le_of_sq_le_sq (hr2.trans_le hab) he.le
  exact ⟨mul_nonneg zero_le_two (sub_nonneg.mpr ((div_le_one he).mpr hre)),
    mul_le_of_le_one_right zero_le_two (sub_le_self 1 (div_nonneg hr he.le))⟩

/-- Python's `%` with a positive modulus lands in `[0, m)` -/
theorem pmod_range (x m : ℚ) (hm : 0 < m) : 0 ≤ pmod x m ∧ pmod x m < m := ⟨pmod_nonneg x hm, pmod_lt x hm⟩

/-- every direction statistic `(270 − x) % 360` lies in `[0, 360)` -/
theorem dir_range (x : ℚ) : 0 ≤ pmod x 360 ∧ pmod x 360 < 360 := pmod_range x 360 (by norm_num)

/-- the modulo is taken *after* the offset: shifting a reduced direction by `a` and reducing again is
    the same as reducing the shifted raw angle -/
theorem pmod_add_pmod (x a m : ℚ) (hm : 0 < m) : pmod (pmod x m + a) m = pmod (x + a) m :=
  WS.pmod_add_pmod x a m hm.ne'

/-- `dm`/`dpm`/`dp` after relabelling by `+a`: if the `atan2` angle of the moment vector moves from `θ`
    to `θ − a`, the reported direction moves from `d` to `(d + a) % 360` -/
theorem dir_shift (θ a : ℚ) : pmod (270 - (θ - a)) 360 = pmod (pmod (270 - θ) 360 + a) 360 := by
  rw [pmod_add_pmod _ _ _ (by norm_num)]; congr 1; ring

/-- the peak direction is one of the direction coordinates -/
theorem dp_mem_coords (m : Nat) (e : Mat) (hm : 0 < m) : dpIdx m e < m := (C02.dp_is_argmax m e hm).1

/-- the discrete peak frequency is one of the frequency coordinates of the grid -/
theorem fp_mem_coords (f S : Vec) (hlen : S.length = f.length) (hp : peakIdx S ≠ 0) :
    peakIdx S < f.length ∧ fpDiscrete f S = some (getR f (peakIdx S)) := by
  have := (C20py.peak_indices_valid S hp).2
  exact ⟨by omega, (C02.fp_none_iff f S).2.2 hp⟩

/-- the same bound for `dpspr`: its ingredients at the peak row -/
theorem dpspr_range (ddv : ℚ) (s c f : Vec) (e : Mat) (hdd : 0 ≤ ddv) (hlen : c.length = s.length)
    (hunit : ∀ p ∈ c.zip s, p.1 ^ 2 + p.2 ^ 2 = 1) (he : ∀ r ∈ e, ∀ x ∈ r, 0 ≤ x)
    (hdf : ∀ d ∈ df f, 0 ≤ d) (abe : ℚ × ℚ × ℚ) (h : dpsprABE ddv s c f e = some abe) :
    0 ≤ abe.2.2 ∧ abe.1 ^ 2 + abe.2.1 ^ 2 ≤ abe.2.2 ^ 2 := by
  unfold dpsprABE at h
  simp only at h
  split at h
  · cases h
  · simp only [Option.some.injEq] at h
    subst h
    simp only
    have hd := getR_forall (df f) le_rfl hdf (peakIdx (oned ddv e))
    have key : InDisk (getR (momdRow ddv s e) (peakIdx (oned ddv e)))
        (getR (momdRow ddv c e) (peakIdx (oned ddv e))) (getR (oned ddv e) (peakIdx (oned ddv e))) := by
      unfold momdRow oned
      rcases getR_map_mem_or_zero e (fun r => ddv * r.sum) (peakIdx (e.map fun r => ddv * r.sum)) with
        ⟨r, hr, _, hall⟩ | hall
      · rw [hall, hall, hall]
        exact row_inDisk ddv hdd r c s hlen hunit (he r hr)
      · rw [hall, hall, hall]; exact InDisk.zero (le_refl _)
    have := InDisk.smul _ hd key
    simp only [mul_comm (getR (df f) _)] at this
    exact this

/-! ## B. relabelling all directions by `+a`

`C, S'` stand for `cos a, sin a` (any rationals with `C² + S'² = 1`); the tables of the relabelled
dataset are `c' = c·C + s·S'`, `s' = s·C − c·S'`. Everything that does not take the tables as an argument
(`oned`, `hsE`, `momf`, `tm01`, `tm02Sq`, `sweSq`, `swSq`, `goda`, `peakIdx`, `fpSmooth`, `fpDiscrete`,
`dpIdx`, `gammaRaw`, `ussSum` with the all-ones table, `mss`) is unchanged by construction: its model is
a function of `(Δθ, f, E)` only.  `Δθ` itself: see `dd_shift_inv` / `dd_relabel_inv` below. -/

def rotC (C S' : ℚ) (c s : Vec) : Vec := List.zipWith (fun cj sj => cj * C + sj * S') c s
def rotS (C S' : ℚ) (c s : Vec) : Vec := List.zipWith (fun cj sj => sj * C - cj * S') c s

theorem rowS_rot (ddv C S' : ℚ) (c s r : Vec) (hlen : c.length = s.length) :
    (List.zipWith (fun x y => ddv * x * y) r (rotS C S' c s)).sum =
      C * (List.zipWith (fun x y => ddv * x * y) r s).sum +
        (-S') * (List.zipWith (fun x y => ddv * x * y) r c).sum := by
  rw [← row_zipWith_lin ddv C (-S') r c s hlen]
  unfold rotS
  have : (fun cj sj : ℚ => sj * C - cj * S') = (fun cj sj => C * sj + -S' * cj) := by
    funext cj sj; ring
  rw [this]

theorem rowC_rot (ddv C S' : ℚ) (c s r : Vec) (hlen : c.length = s.length) :
    (List.zipWith (fun x y => ddv * x * y) r (rotC C S' c s)).sum =
      S' * (List.zipWith (fun x y => ddv * x * y) r s).sum +
        C * (List.zipWith (fun x y => ddv * x * y) r c).sum := by
  rw [← row_zipWith_lin ddv S' C r c s hlen]
  unfold rotC
  have : (fun cj sj : ℚ => cj * C + sj * S') = (fun cj sj => S' * sj + C * cj) := by
    funext cj sj; ring
  rw [this]

theorem momd_rot (ddv C S' : ℚ) (c s : Vec) (e : Mat) (hlen : c.length = s.length) (i : Nat) :
    getR (momdRow ddv (rotS C S' c s) e) i =
        C * getR (momdRow ddv s e) i - S' * getR (momdRow ddv c e) i ∧
    getR (momdRow ddv (rotC C S' c s) e) i =
        C * getR (momdRow ddv c e) i + S' * getR (momdRow ddv s e) i := by
  unfold momdRow
  constructor
  · rw [getR_map_lin e _ _ _ C (-S') (fun r => rowS_rot ddv C S' c s r hlen) i]; ring
  · rw [getR_map_lin e _ _ _ S' C (fun r => rowC_rot ddv C S' c s r hlen) i]; ring

theorem dmVec_rot (ddv C S' : ℚ) (c s : Vec) (e : Mat) (hlen : c.length = s.length) :
    dmVec ddv (rotS C S' c s) (rotC C S' c s) e =
      (C * (dmVec ddv s c e).1 - S' * (dmVec ddv s c e).2,
       C * (dmVec ddv s c e).2 + S' * (dmVec ddv s c e).1) := by
  unfold dmVec momdRow
  simp only [Prod.mk.injEq]
  constructor
  · rw [sum_map_lin e _ _ _ C (-S') (fun r => rowS_rot ddv C S' c s r hlen)]; ring
  · rw [sum_map_lin e _ _ _ S' C (fun r => rowC_rot ddv C S' c s r hlen)]; ring

theorem dsprABE_rot (ddv C S' : ℚ) (c s f : Vec) (e : Mat) (hlen : c.length = s.length) :
    dsprABE ddv (rotS C S' c s) (rotC C S' c s) f e =
      (C * (dsprABE ddv s c f e).1 - S' * (dsprABE ddv s c f e).2.1,
       C * (dsprABE ddv s c f e).2.1 + S' * (dsprABE ddv s c f e).1,
       (dsprABE ddv s c f e).2.2) := by
  unfold dsprABE momdRow
  simp only [Prod.mk.injEq, and_true]
  constructor
  · rw [dot_map_lin e _ _ _ C (-S') (fun r => rowS_rot ddv C S' c s r hlen)]; ring
  · rw [dot_map_lin e _ _ _ S' C (fun r => rowC_rot ddv C S' c s r hlen)]; ring

theorem rot_sq_add_sq {C S' : ℚ} (hrot : C ^ 2 + S' ^ 2 = 1) (a b : ℚ) :
    (C * a - S' * b) ^ 2 + (C * b + S' * a) ^ 2 = a ^ 2 + b ^ 2 := by
  rw [← one_mul (a ^ 2 + b ^ 2), ← hrot]; ring

/-- hence `a² + b²` and `e` — all that `dspr` depends on — are unchanged -/
theorem dsprSq_rot_inv (ddv C S' : ℚ) (c s f : Vec) (e : Mat) (hlen : c.length = s.length)
    (hrot : C ^ 2 + S' ^ 2 = 1) :
    (dsprABE ddv (rotS C S' c s) (rotC C S' c s) f e).1 ^ 2 +
        (dsprABE ddv (rotS C S' c s) (rotC C S' c s) f e).2.1 ^ 2 =
      (dsprABE ddv s c f e).1 ^ 2 + (dsprABE ddv s c f e).2.1 ^ 2 ∧
    (dsprABE ddv (rotS C S' c s) (rotC C S' c s) f e).2.2 = (dsprABE ddv s c f e).2.2 := by
  rw [dsprABE_rot ddv C S' c s f e hlen]
  exact ⟨rot_sq_add_sq hrot _ _, rfl⟩

/-- the length of `dm`'s vector is unchanged too -/
theorem dmVec_rot_norm (ddv C S' : ℚ) (c s : Vec) (e : Mat) (hlen : c.length = s.length)
    (hrot : C ^ 2 + S' ^ 2 = 1) :
    (dmVec ddv (rotS C S' c s) (rotC C S' c s) e).1 ^ 2 + (dmVec ddv (rotS C S' c s) (rotC C S' c s) e).2 ^ 2 =
      (dmVec ddv s c e).1 ^ 2 + (dmVec ddv s c e).2 ^ 2 := by
  rw [dmVec_rot ddv C S' c s e hlen]
  exact rot_sq_add_sq hrot _ _

/-- `dpm`: same peak row (it does not depend on the tables), rotated vector, same NaN status -/
theorem dpmVec_rot (ddv C S' : ℚ) (c s : Vec) (e : Mat) (hlen : c.length = s.length) :
    dpmVec ddv (rotS C S' c s) (rotC C S' c s) e =
      (dpmVec ddv s c e).map fun p => (C * p.1 - S' * p.2, C * p.2 + S' * p.1) := by
  unfold dpmVec
  simp only
  split
  · rfl
  · simp only [Option.map_some, (momd_rot ddv C S' c s e hlen _).1, (momd_rot ddv C S' c s e hlen _).2]

/-- `dpspr`: `(a, b)` at the peak row rotates, `e` unchanged -/
theorem dpsprABE_rot (ddv C S' : ℚ) (c s f : Vec) (e : Mat) (hlen : c.length = s.length) :
    dpsprABE ddv (rotS C S' c s) (rotC C S' c s) f e =
      (dpsprABE ddv s c f e).map fun p => (C * p.1 - S' * p.2.1, C * p.2.1 + S' * p.1, p.2.2) := by
  unfold dpsprABE
  simp only
  split
  · rfl
  · simp only [Option.map_some, (momd_rot ddv C S' c s e hlen _).1, (momd_rot ddv C S' c s e hlen _).2,
      Option.some.injEq, Prod.mk.injEq, and_true]
    exact ⟨by ring, by ring⟩

/-- a rotated vector is reported `a` further round the circle: two rotations compose by angle addition
    (the tables of `θ + a + b` are the tables of `θ + a` rotated by `b`) -/
theorem rot_compose (C1 S1 C2 S2 x y : ℚ) :
    (C2 * (C1 * x - S1 * y) - S2 * (C1 * y + S1 * x), C2 * (C1 * y + S1 * x) + S2 * (C1 * x - S1 * y)) =
      ((C1 * C2 - S1 * S2) * x - (S1 * C2 + C1 * S2) * y, (C1 * C2 - S1 * S2) * y + (S1 * C2 + C1 * S2) * x) := by
  simp only [Prod.mk.injEq]; constructor <;> ring

/-- `Δθ` under a pure shift of the coordinate values (no wrap): unchanged -/
theorem dd_shift_inv (a : ℚ) (dirs : Vec) : dd (some (dirs.map (· + a))) = dd (some dirs) := by
  match dirs with
  | [] => rfl
  | [_] => rfl
  | x :: y :: rest =>
    simp only [List.map_cons, dd, add_sub_add_right_eq_sub]

/-- distance to the nearest multiple of 360 as coded by `min(dd, 360 − dd)`, `dd = |Δ|` -/
def wrapDist (D : ℚ) : ℚ := minR (absR D) (360 - absR D)

theorem wrapDist_eq (D : ℚ) : wrapDist D = min |D| (360 - |D|) := by
  rw [wrapDist, minR_eq_min, absR_eq_abs]

theorem wrapDist_neg (D : ℚ) : wrapDist (-D) = wrapDist D := by
  rw [wrapDist_eq, wrapDist_eq, abs_neg]

theorem wrapDist_of_le {δ : ℚ} (hδ : 0 ≤ δ) (hδ2 : δ ≤ 180) : wrapDist δ = δ := by
  rw [wrapDist_eq, abs_of_nonneg hδ]
  exact min_eq_left (by linarith)

theorem abs_lt_of_wrapDist_pos {D : ℚ} (h : 0 < wrapDist D) : absR D < 360 := by
  rw [wrapDist_eq] at h
  rw [absR_eq_abs]
  linarith [min_le_right |D| (360 - |D|)]

/-- one step across the seam: for `−360 < D < 0`, `|D + 360| = 360 − |D|`, so the two arguments of
    `min` swap -/
theorem wrapDist_add_360 {D : ℚ} (h1 : -360 < D) (h2 : D < 0) : wrapDist (D + 360) = wrapDist D := by
  rw [wrapDist_eq, wrapDist_eq, abs_of_neg h2, abs_of_pos (by linarith), min_comm]
  congr 1 <;> ring

theorem wrapDist_360_sub {D : ℚ} (h1 : 0 < D) (h2 : D < 360) : wrapDist (360 - D) = wrapDist D := by
  rw [← wrapDist_neg D, ← wrapDist_add_360 (neg_lt_neg h2) (neg_neg_of_pos h1), neg_add_eq_sub]

/-- within one turn the circular distance is a function of the label difference reduced to `[0, 360)` -/
theorem wrapDist_eq_pmod {D : ℚ} (h : absR D < 360) :
    wrapDist D = min (pmod D 360) (360 - pmod D 360) := by
  rw [absR_eq_abs, abs_lt] at h
  rcases le_or_gt 0 D with h0 | h0
  · rw [pmod_eq_self h0 h.2, wrapDist_eq, abs_of_nonneg h0]
  · have hp : 0 < D + 360 := neg_lt_iff_pos_add.mp h.1
    rw [← wrapDist_add_360 h.1 h0, ← pmod_add_period D 360 (by norm_num),
      pmod_eq_self hp.le (add_lt_of_neg_left 360 h0), wrapDist_eq, abs_of_pos hp]

/-- `min(|Δ|, 360 − |Δ|)` does not see a 0/360 wrap between the first two directions -/
theorem wrapDist_wrap (D : ℚ) (n : ℤ) (h1 : absR D < 360) (h2 : absR (D + 360 * n) < 360) :
    wrapDist (D + 360 * n) = wrapDist D := by
  rw [wrapDist_eq_pmod h1, wrapDist_eq_pmod h2, pmod_add_mul_int D 360 n (by norm_num)]

/-- reducing both labels to `[0, 360)` keeps their circular distance -/
theorem wrapDist_pmod_sub_pmod {x y : ℚ} (h : absR (y - x) < 360) :
    wrapDist (pmod y 360 - pmod x 360) = wrapDist (y - x) := by
  have h360 : (0 : ℚ) < 360 := by norm_num
  have hx := pmod_range x 360 h360
  have hy := pmod_range y 360 h360
  rw [wrapDist_eq_pmod (absR_eq_abs _ ▸ abs_sub_lt_of_nonneg_of_lt hy.1 hy.2 hx.1 hx.2), wrapDist_eq_pmod h,
    pmod_sub_pmod _ x 360 h360.ne', sub_eq_add_neg, pmod_add_pmod y _ 360 h360, ← sub_eq_add_neg]

/-- `Δθ` after relabelling by `(θ + a) % 360`: the first two stored directions become
    `x + a − 360·n0`, `y + a − 360·n1` (whatever multiples of 360 the `%` removes), and the repaired
    `dd = min(|Δ|, 360 − |Δ|)` is unchanged — also when 0/360 now falls between them -/
theorem dd_relabel_inv (x y a : ℚ) (n0 n1 : ℤ) (rest rest' : Vec)
    (h1 : absR (y - x) < 360) (h2 : absR ((y + a - 360 * n1) - (x + a - 360 * n0)) < 360) :
    dd (some ((x + a - 360 * n0) :: (y + a - 360 * n1) :: rest')) = dd (some (x :: y :: rest)) := by
  have e : (y + a - 360 * (n1 : ℚ)) - (x + a - 360 * n0) = (y - x) + 360 * ((n0 - n1 : ℤ) : ℚ) := by
    push_cast; ring
  rw [e] at h2
  exact (congrArg wrapDist e).trans (wrapDist_wrap (y - x) (n0 - n1) h1 h2)

/-- the smooth peak period lies strictly inside the period range of the grid -/
theorem tp_in_range (f S : Vec) (hf : f.Pairwise (· < ·)) (hpos : 0 < f.headD 0)
    (hlen : S.length = f.length) (hp : peakIdx S ≠ 0) :
    ∃ fp, fpSmooth f S = some fp ∧ 1 / lastD f < 1 / fp ∧ 1 / fp < 1 / f.headD 0 := by
  have hb := pairwise_lt_bounds f hf
  obtain ⟨h0, h1⟩ := C20py.peak_indices_valid S hp
  have hm1 := hb _ (getR_mem f (peakIdx S - 1) (by omega))
  have hp1 := hb _ (getR_mem f (peakIdx S + 1) (by omega))
  have hposm : 0 < getR f (peakIdx S - 1) := lt_of_lt_of_le hpos hm1.1
  have hposp : 0 < getR f (peakIdx S + 1) := lt_of_lt_of_le hpos hp1.1
  obtain ⟨fp, hfp, a, b⟩ := C02.tp_smooth_between f S (pairwise_getR_lt f hf) hposm hlen hp
  refine ⟨fp, hfp, ?_, ?_⟩
  · exact lt_of_le_of_lt (one_div_le_one_div_of_le hposp hp1.2) a
  · exact lt_of_lt_of_le b (one_div_le_one_div_of_le hpos hm1.1)

/-! ## non-vacuity: the hypotheses are satisfiable on concrete, non-trivial inputs -/

section Examples

/-- irregular grid (the last frequency is above the tail threshold 0.333) -/
private def fE : Vec := [1/10, 1/5, 2/5]
private def sE : Vec := [1, 3, 2]
/-- a 3×4 spectrum whose direction-integrated form peaks at the middle frequency -/
private def eE : Mat := [[1, 2, 0, 1], [0, 3, 1, 1], [2, 1, 1, 0]]
/-- exact rational points of the unit circle -/
private def cE : Vec := [1, 3/5, -4/5, 0]
private def sE' : Vec := [0, 4/5, 3/5, -1]

theorem sE_nonneg : ∀ x ∈ sE, 0 ≤ x := by decide +kernel
theorem fE_sorted : fE.Pairwise (· < ·) := by decide +kernel
theorem fE_pos : 0 < fE.headD 0 := by decide +kernel
theorem m0_pos : 0 < momf 0 fE sE := by decide +kernel
example : (∀ x ∈ sE, 0 ≤ x) ∧ fE.Pairwise (· < ·) ∧ 0 < fE.headD 0 ∧ 0 < momf 0 fE sE ∧
    sE.length = fE.length := ⟨sE_nonneg, fE_sorted, fE_pos, m0_pos, rfl⟩
example : momf 1 fE sE ^ 2 ≤ momf 0 fE sE * momf 2 fE sE := momf_cauchy 1 fE sE sE_nonneg fE_sorted m0_pos
example : momf 2 fE sE ^ 2 ≤ momf 0 fE sE * momf 4 fE sE := momf_cauchy 2 fE sE sE_nonneg fE_sorted m0_pos
example := momf_succ_bounds 3 fE sE sE_nonneg fE_sorted fE_pos
example := momf_pos 4 fE sE sE_nonneg fE_sorted fE_pos m0_pos
example := tm_order fE sE sE_nonneg fE_sorted fE_pos m0_pos
example := tm_order_opt fE sE sE_nonneg fE_sorted fE_pos m0_pos
example := sweSq_range fE sE sE_nonneg fE_sorted fE_pos m0_pos
example := swSq_nonneg fE sE sE_nonneg fE_sorted fE_pos m0_pos
example := weights_nonneg fE sE sE_nonneg fE_sorted
-- strict inequalities on this input: the bounds are not attained trivially
example : sweSq fE sE = some (7065/20843) ∧ swSq fE sE = some (225/1352) := by decide +kernel

theorem unitE : ∀ p ∈ cE.zip sE', p.1 ^ 2 + p.2 ^ 2 = 1 := by decide +kernel
theorem eE_nonneg : ∀ r ∈ eE, ∀ x ∈ r, 0 ≤ x := by decide +kernel
theorem dfE_nonneg : ∀ d ∈ df fE, 0 ≤ d := by decide +kernel
theorem ddE_nonneg : (0:ℚ) ≤ 90 := by norm_num
example : (0:ℚ) ≤ 90 ∧ cE.length = sE'.length ∧ (∀ p ∈ cE.zip sE', p.1 ^ 2 + p.2 ^ 2 = 1) ∧
    (∀ r ∈ eE, ∀ x ∈ r, 0 ≤ x) ∧ (∀ d ∈ df fE, 0 ≤ d) := ⟨ddE_nonneg, rfl, unitE, eE_nonneg, dfE_nonneg⟩
example := dspr_range 90 sE' cE fE eE ddE_nonneg rfl unitE eE_nonneg dfE_nonneg
theorem dpsprE : dpsprABE 90 sE' cE fE eE = some (27, 27/2, 135/2) := by decide +kernel
example : dpsprABE 90 sE' cE fE eE = some (27, 27/2, 135/2) := dpsprE
example := dpspr_range 90 sE' cE fE eE ddE_nonneg rfl unitE eE_nonneg dfE_nonneg (27, 27/2, 135/2) dpsprE
example : dsprABE 90 sE' cE fE eE = (288/5, 657/10, 351/2) := by decide +kernel
example := dsprSq_range 3 4 10 5 (by norm_num) (by norm_num) (by norm_num) (by norm_num)

example := pmod_range (-725/2) 360 (by norm_num)
example : pmod (-725/2) 360 = 715/2 := by decide +kernel
example := pmod_add_pmod (-725/2) 100 360 (by norm_num)
example := wrapDist_wrap (-10) 1 (by decide +kernel) (by decide +kernel)
example := dd_relabel_inv 0 10 355 0 1 [20] [15] (by decide +kernel) (by decide +kernel)

theorem peakE : peakIdx sE ≠ 0 := by decide +kernel
example := dp_mem_coords 4 eE (by decide)
example : peakIdx sE ≠ 0 := peakE
example := fp_mem_coords fE sE rfl peakE
example := tp_in_range fE sE fE_sorted fE_pos rfl peakE

theorem kE_pos : (0 : ℚ) < 7/2 := by norm_num
example := tm01_smul_inv (7/2) kE_pos.ne' fE sE
example := tm02Sq_smul_inv (7/2) kE_pos.ne' fE sE
example := sweSq_smul_inv (7/2) kE_pos.ne' fE sE
example := swSq_smul_inv (7/2) kE_pos.ne' fE sE
example := goda_smul_inv (7/2) kE_pos.ne' fE sE
example := dsprSq_smul_inv 90 (7/2) kE_pos.ne' sE' cE fE eE
example := tpsFp_smul_inv (7/2) kE_pos.ne' (1/10) (1/5) (2/5) 1 3 2
example := isPeak_smul (7/2) kE_pos sE 1
example := masked_smul (7/2) kE_pos sE
example := peakIdx_smul (7/2) kE_pos sE
example := fpSmooth_smul_inv (7/2) kE_pos fE sE
example := fpDiscrete_smul_inv (7/2) kE_pos fE sE
example := dpIdx_smul 4 (7/2) kE_pos eE
example := dpmVec_smul 90 (7/2) kE_pos sE' cE eE
example := dpsprABE_smul 90 (7/2) kE_pos sE' cE fE eE
example := gammaRaw_smul_inv (5/16) 1 2 (1/5) (7/2) kE_pos sE
example : tm01 fE (scaleV (7/2) sE) = some (95/26) ∧ tm01 fE sE = some (95/26) := by decide +kernel
theorem hsE_ne : hsE (333/1000) (1/4) true fE sE ≠ 0 := by decide +kernel
example : hsE (333/1000) (1/4) true fE sE ≠ 0 := hsE_ne
example := scale_by_hs (333/1000) (1/4) true 3 fE sE hsE_ne
example : hsE (333/1000) (1/4) true fE (scaleByHs (333/1000) (1/4) true 3 true fE sE) = 9/16 := by
  decide +kernel

theorem rotE : ((3:ℚ)/5) ^ 2 + (4/5) ^ 2 = 1 := by decide +kernel
example : ((3:ℚ)/5) ^ 2 + (4/5) ^ 2 = 1 ∧ cE.length = sE'.length := ⟨rotE, rfl⟩
example := momd_rot 90 (3/5) (4/5) cE sE' eE rfl 1
example := dmVec_rot 90 (3/5) (4/5) cE sE' eE rfl
example := dsprABE_rot 90 (3/5) (4/5) cE sE' fE eE rfl
example := dsprSq_rot_inv 90 (3/5) (4/5) cE sE' fE eE rfl rotE
example := dmVec_rot_norm 90 (3/5) (4/5) cE sE' eE rfl rotE
example := dpmVec_rot 90 (3/5) (4/5) cE sE' eE rfl
example := dpsprABE_rot 90 (3/5) (4/5) cE sE' fE eE rfl
example := rowS_rot 90 (3/5) (4/5) cE sE' [1, 2, 0, 1] rfl
example := rowC_rot 90 (3/5) (4/5) cE sE' [1, 2, 0, 1] rfl

end Examples

end WS.C10
