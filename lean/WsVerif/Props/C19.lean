import WsVerif.Model.Track
import WsVerif.Lemmas.Track
import WsVerif.Lemmas.Basic
import WsVerif.Gen.Lits
import Mathlib.Tactic.Linarith
import Mathlib.Algebra.Order.Field.Basic
import Mathlib.Algebra.Order.Field.Rat
import WsVerif.Gen.NpKernels
/-!
# C19 — partition tracking assigns consistent wave-system identifiers over time

Property theorems only.  `WS.Track.track s0 steps` is the model of `np_track_partitions` on abstract inputs:
`s0` = which slots of step 0 are non-empty, and for every later step its thresholded distance matrix
`dist cur prev : Option ℚ` (`none` = the 999 sentinel = outside the sea/swell thresholds or NaN) and its
slots.  Every statement below holds for **every** number of time steps `T ≥ 1` (`steps` is any list),
every number of partitions (rows may even be ragged) and every distance matrix — hence for every threshold
parameter, wind speed, frequency and direction value.  `trackData` instantiates the matrices with the
code's own threshold computation; the `_data` theorems restate the threshold clause on the raw numbers.

Rows of `(track s0 steps).1` are time steps; entries are `none` (the `-999` marker) or `some id`.
-/
namespace WS.C19
open WS WS.Track

/-- **marker**: at every step, exactly the non-empty partitions carry an identifier (`some k`, i.e. `≥ 0`);
    the empty ones carry the missing marker (`none`, i.e. `-999`). -/
theorem ids_marker (s0 : List Slot) (steps : List (Dist × List Slot)) :
    (track s0 steps).1.map (fun row => row.map Option.isSome) = s0 :: steps.map (·.2) := by
  refine (List.map_map ..).trans (Eq.trans (List.map_congr_left fun a ha => ?_) (allStates_slots steps (init s0)))
  exact (allStates_inv (inv_init s0).1 ha).marker

/-- **marker, pointwise**: slot `i` of step `t` has an identifier iff it is non-empty. -/
theorem ids_marker_get (s0 : List Slot) (steps : List (Dist × List Slot)) (t i : Nat) :
    (((track s0 steps).1[t]?).bind (·[i]?)).map Option.isSome = ((s0 :: steps.map (·.2))[t]?).bind (·[i]?) := by
  rw [← ids_marker s0 steps, List.getElem?_map]
  cases (track s0 steps).1[t]? with
  | none => rfl
  | some row => exact (List.getElem?_map ..).symm

/-- **unique per step**: within a time step no identifier is used twice. -/
theorem ids_unique_per_step (s0 : List Slot) (steps : List (Dist × List Slot)) :
    ∀ row ∈ (track s0 steps).1, (present row).Nodup := by
  intro row hrow
  obtain ⟨t, ht⟩ := List.mem_iff_getElem?.1 hrow
  obtain ⟨a, _, rfl, hI⟩ := rows_get ht
  exact hI.nodup

/-- **issued in order**: scanning the result in time order, then partition index, every identifier met is
    either one already issued or exactly the next unused integer; the scan ends at the reported count. -/
theorem ids_issued_in_order (s0 : List Slot) (steps : List (Dist × List Slot)) :
    InOrder 0 ((track s0 steps).1.flatMap present) (track s0 steps).2 := by
  rw [track, List.flatMap_map]
  exact allStates_inOrder steps (init s0) 0 (inv_init s0).1 (inv_init s0).2

/-- **exact range**: the identifiers in use, listed in order of first appearance (time, then partition
    index), are exactly `0, 1, …, N-1` with `N` the reported count. -/
theorem ids_exact_range (s0 : List Slot) (steps : List (Dist × List Slot)) :
    firstOcc ((track s0 steps).1.flatMap present) = List.range (track s0 steps).2 := by
  have h := (ids_issued_in_order s0 steps).firstOcc
  simp only [Nat.zero_le, decide_true, List.filter_true, Nat.sub_zero] at h
  rw [h, List.range_eq_range']

/-- **exact range, membership form**: `k` is used somewhere iff `k < N`. -/
theorem ids_mem_iff_lt_count (s0 : List Slot) (steps : List (Dist × List Slot)) (k : Nat) :
    (∃ row ∈ (track s0 steps).1, some k ∈ row) ↔ k < (track s0 steps).2 := by
  have h := ids_issued_in_order s0 steps
  constructor
  · rintro ⟨row, hrow, hk⟩
    exact h.lt_of_mem (List.mem_flatMap.2 ⟨row, hrow, mem_present.2 hk⟩)
  · intro hk
    obtain ⟨row, hrow, hk'⟩ := List.mem_flatMap.1 (h.mem_of_lt (Nat.zero_le _) hk)
    exact ⟨row, hrow, mem_present.1 hk'⟩

/-- **carried only within thresholds**: if identifier `k` sits in slot `p` at step `t` and in slot `c` at
    step `t+1`, then the entry `(c, p)` of the distance matrix of step `t+1` is inside the thresholds. -/
theorem carry_within_thresholds (s0 : List Slot) (steps : List (Dist × List Slot)) (t c p k : Nat)
    (rowPrev rowCur : List (Option Nat)) (d : Dist) (s : List Slot)
    (hprev : (track s0 steps).1[t]? = some rowPrev) (hcur : (track s0 steps).1[t + 1]? = some rowCur)
    (hstep : steps[t]? = some (d, s))
    (hp : rowPrev[p]? = some (some k)) (hc : rowCur[c]? = some (some k)) :
    ∃ x, d c p = some x := by
  obtain ⟨a, ha, rfl, hIa⟩ := rows_get hprev
  obtain ⟨b, hb, rfl, _⟩ := rows_get hcur
  obtain ⟨d', s', hds, rfl⟩ := allStates_consec steps _ t a b ha hb
  cases hstep.symm.trans hds
  rcases (step_spec d a s hIa).2.origin c k hc with h | ⟨p', hp', hx⟩
  · exact absurd (hIa.bound k (mem_present.2 (List.mem_of_getElem? hp))) (Nat.not_lt.2 h)
  · exact present_nodup_inj hIa.nodup hp' hp ▸ hx

/-- **a new identifier is really new**: an identifier of step `t+1` that was not in use at step `t` had never
    been issued before (it is `≥` every identifier seen up to step `t`). -/
theorem fresh_is_new (s0 : List Slot) (steps : List (Dist × List Slot)) (t t0 c k j : Nat)
    (rowPrev rowCur row0 : List (Option Nat))
    (hprev : (track s0 steps).1[t]? = some rowPrev) (hcur : (track s0 steps).1[t + 1]? = some rowCur)
    (h0 : (track s0 steps).1[t0]? = some row0) (ht0 : t0 ≤ t)
    (hc : rowCur[c]? = some (some k)) (hnot : some k ∉ rowPrev) (hj : some j ∈ row0) : j < k := by
  obtain ⟨a, ha, rfl, hIa⟩ := rows_get hprev
  obtain ⟨b, hb, rfl, _⟩ := rows_get hcur
  obtain ⟨a0, ha0, rfl, hI0⟩ := rows_get h0
  obtain ⟨d, s, _, rfl⟩ := allStates_consec steps _ t a b ha hb
  rcases (step_spec d a s hIa).2.origin c k hc with h | ⟨p', hp', _⟩
  · exact Nat.lt_of_lt_of_le (hI0.bound j (mem_present.2 hj))
      (Nat.le_trans (next_mono hI0 (allStates_mem_drop steps _ t0 t a0 a ha0 ha ht0)) h)
  · exact absurd (List.mem_of_getElem? hp') hnot

/-- **each previous partition is continued at most once** (match level): the local matches of a step never
    name the same predecessor twice, and only name non-empty slots of the previous step. -/
theorem match_injective (dist : Dist) (prev cur : List Slot) :
    (prevs (matchConsecutive dist prev cur)).Nodup ∧
    ∀ p ∈ prevs (matchConsecutive dist prev cur), prev[p]? = some true := by
  obtain ⟨h1, h2⟩ := matchLoop_prevs dist prev.length cur 0 (availOf prev) (availOf_nodup prev)
  exact ⟨h1, fun p hp => mem_availOf.1 (h2 p hp)⟩

/-- **each previous partition is continued at most once** (identifier level): an identifier of step `t` is
    found in at most one slot of step `t+1`. -/
theorem prev_continued_at_most_once (s0 : List Slot) (steps : List (Dist × List Slot)) (t c₁ c₂ p k : Nat)
    (rowPrev rowCur : List (Option Nat))
    (_hprev : (track s0 steps).1[t]? = some rowPrev) (hcur : (track s0 steps).1[t + 1]? = some rowCur)
    (_hp : rowPrev[p]? = some (some k))
    (h1 : rowCur[c₁]? = some (some k)) (h2 : rowCur[c₂]? = some (some k)) : c₁ = c₂ := by
  obtain ⟨b, _, rfl, hIb⟩ := rows_get hcur
  exact present_nodup_inj hIb.nodup h1 h2

/-- **no resurrection**: an identifier that was in use at some step `t0 ≤ t` and is not in use at step `t`
    is not in use at any later step `t' ≥ t`. -/
theorem no_resurrection (s0 : List Slot) (steps : List (Dist × List Slot)) (t0 t t' k : Nat)
    (r0 r r' : List (Option Nat))
    (h0 : (track s0 steps).1[t0]? = some r0) (h : (track s0 steps).1[t]? = some r)
    (h' : (track s0 steps).1[t']? = some r')
    (h01 : t0 ≤ t) (h12 : t ≤ t') (hin : some k ∈ r0) (hout : some k ∉ r) : some k ∉ r' := by
  obtain ⟨a0, ha0, rfl, hI0⟩ := rows_get h0
  obtain ⟨a, ha, rfl, hIa⟩ := rows_get h
  obtain ⟨a', ha', rfl, _⟩ := rows_get h'
  have hk : k < a.next := Nat.lt_of_lt_of_le (hI0.bound k (mem_present.2 hin))
    (next_mono hI0 (allStates_mem_drop steps _ t0 t a0 a ha0 ha h01))
  exact fun hh => absent_persists hIa hk (fun hh => hout (mem_present.1 hh))
    (allStates_mem_drop steps _ t t' a a' ha ha' h12) (mem_present.2 hh)

/-- **greedy rule**, at every slot: if the non-empty current slot `i` has a non-empty predecessor `q` within the
    thresholds, then an earlier current slot has taken `q`, or slot `i` is matched to a predecessor at least as
    near.  The three statements after this one are its readings for the first slot and for an unmatched slot. -/
theorem match_greedy (dist : Dist) (prev cur : List Slot) (i q : Nat) (d' : Rat)
    (hi : cur[i]? = some true) (hq : prev[q]? = some true) (hd : dist i q = some d') :
    (∃ j, j < i ∧ (matchConsecutive dist prev cur)[j]? = some (Match.prev q)) ∨
      ∃ p d, (matchConsecutive dist prev cur)[i]? = some (Match.prev p) ∧ dist i p = some d ∧ d ≤ d' := by
  have h := matchLoop_greedy dist prev.length cur 0 (availOf prev) i q d' hi (List.getElem?_eq_some_iff.1 hq).1
    (mem_availOf.2 hq)
  rw [Nat.zero_add] at h
  exact h hd

/-- **greedy choice**: the first non-empty current slot is matched to the nearest available in-threshold
    predecessor (and, the sort being stable, to the first of the equally near ones — `argminFirst`). -/
theorem first_match_is_nearest (dist : Dist) (prev : List Slot) (rest : List Slot) (p : Nat)
    (h : (matchConsecutive dist prev (true :: rest))[0]? = some (Match.prev p)) :
    ∃ d, dist 0 p = some d ∧
      ∀ q d', prev[q]? = some true → dist 0 q = some d' → d ≤ d' := by
  obtain ⟨d, hd⟩ := matchLoop_get dist prev.length _ 0 _ 0 p h
  refine ⟨d, hd, fun q d' hq hd' => ?_⟩
  rcases match_greedy dist prev (true :: rest) 0 q d' rfl hq hd' with ⟨j, hj, _⟩ | ⟨p', d'', hp', hd'', hle⟩
  · cases hj
  · cases h.symm.trans hp'
    cases hd.symm.trans hd''
    exact hle

/-- a slot that gets a fresh identifier although a predecessor is non-empty: no non-empty predecessor was
    within the thresholds for the *first* current slot (later slots may also lose predecessors to earlier ones) -/
theorem first_unmatched_has_no_candidate (dist : Dist) (prev : List Slot) (rest : List Slot)
    (h : (matchConsecutive dist prev (true :: rest))[0]? = some Match.fresh) :
    ∀ q, prev[q]? = some true → dist 0 q = none := by
  intro q hq
  cases hd : dist 0 q with
  | none => rfl
  | some d' =>
    rcases match_greedy dist prev (true :: rest) 0 q d' rfl hq hd with ⟨j, hj, _⟩ | ⟨p, d, hp, _⟩
    · cases hj
    · cases h.symm.trans hp

/-- **a new identifier is started only when nothing is left to continue**: a current slot is left unmatched
    (and so receives a fresh identifier) only if every non-empty in-threshold predecessor has been taken by an
    earlier current slot (docstring: "partitions are matched with the closest partition of the previous step"). -/
theorem unmatched_only_if_candidates_taken (dist : Dist) (prev cur : List Slot) (i : Nat)
    (h : (matchConsecutive dist prev cur)[i]? = some Match.fresh) (q : Nat) (d : Rat)
    (hq : prev[q]? = some true) (hd : dist i q = some d) :
    ∃ j, j < i ∧ (matchConsecutive dist prev cur)[j]? = some (Match.prev q) := by
  have hi : cur[i]? = some true := by
    rw [← matchLoop_nonempty dist prev.length cur 0 (availOf prev), List.getElem?_map, ← matchConsecutive, h]
    rfl
  rcases match_greedy dist prev cur i q d hi hq hd with h' | ⟨p, _, hp, _⟩
  · exact h'
  · cases h.symm.trans hp

/-- **sites are independent**: the result at site `i` is the single-site result on site `i`'s own data. -/
theorem sites_independent (sites : List (Step × List (Thr × Step))) (i : Nat) :
    (trackSites sites)[i]? = (sites[i]?).map fun s => trackData s.1 s.2 := List.getElem?_map ..

/-- changing, adding or removing *other* sites does not change the result at a site -/
theorem sites_unaffected_by_other_sites (sites sites' : List (Step × List (Thr × Step))) (i j : Nat)
    (h : sites[i]? = sites'[j]?) : (trackSites sites)[i]? = (trackSites sites')[j]? := by
  rw [sites_independent, sites_independent, h]

/-! ## the threshold clause on the raw numbers (`trackData`) -/

/-- an entry of the code's distance matrix is not the sentinel only if all four statistics and the
    frequency threshold are numbers (not NaN) and the three strict inequalities hold, with the sea/swell
    thresholds selected by the index `p` of the previous partition -/
theorem distEntry_some (thr : Thr) (p : Nat) (fcur dcur fprev dprev : Option Rat) (x : Rat)
    (h : distEntry thr p fcur dcur fprev dprev = some x) :
    ∃ fc dc fp dp lo, fcur = some fc ∧ dcur = some dc ∧ fprev = some fp ∧ dprev = some dp ∧
      dfpMin thr p = some lo ∧
      ddpmOf dc dp < ddpmMax thr p ∧ fc - fp < dfpMax thr p ∧ lo < fc - fp ∧
      x = distVal thr p lo (ddpmOf dc dp) (fc - fp) := by
  unfold distEntry at h
  split at h
  · rename_i fc dc fp dp lo hlo
    split at h
    · rename_i hw
      simp only [Option.some.injEq] at h
      exact ⟨fc, dc, fp, dp, lo, rfl, rfl, rfl, rfl, hlo, hw.1, hw.2.1, hw.2.2, h.symm⟩
    · simp at h
  · simp at h

/-- **carried only within thresholds, on the data**: if identifier `k` goes from slot `p` of step `t` to slot
    `c` of step `t+1`, both partitions have a peak frequency and direction, and their changes satisfy
    `Δdir < ddpm_max[p]`, `dfp_min[p] < Δfp < dfp_max[p]` (strict), where
    `Δdir = |((d_cur − d_prev + 180) mod 360) − 180|` and the sea thresholds apply iff `p = 0`. -/
theorem carry_within_thresholds_data (s0 : Step) (rest : List (Thr × Step)) (t c p k : Nat)
    (rowPrev rowCur : List (Option Nat)) (thr : Thr) (prevStep cur : Step)
    (hprev : (trackData s0 rest).1[t]? = some rowPrev) (hcur : (trackData s0 rest).1[t + 1]? = some rowCur)
    (hstep : rest[t]? = some (thr, cur)) (hps : (s0 :: rest.map (·.2))[t]? = some prevStep)
    (hp : rowPrev[p]? = some (some k)) (hc : rowCur[c]? = some (some k)) :
    ∃ fc dc fp dp lo, cur.fp[c]? = some (some fc) ∧ cur.dpm[c]? = some (some dc) ∧
      prevStep.fp[p]? = some (some fp) ∧ prevStep.dpm[p]? = some (some dp) ∧ dfpMin thr p = some lo ∧
      ddpmOf dc dp < ddpmMax thr p ∧ fc - fp < dfpMax thr p ∧ lo < fc - fp := by
  obtain ⟨x, hx⟩ := carry_within_thresholds (slotsOf s0) (mkSteps s0 rest) t c p k rowPrev rowCur _ _
    hprev hcur (mkSteps_get rest s0 t thr prevStep cur hstep hps) hp hc
  obtain ⟨fc, dc, fp, dp, lo, h1, h2, h3, h4, h5, h6, h7, h8, _⟩ := distEntry_some _ _ _ _ _ _ _ hx
  exact ⟨fc, dc, fp, dp, lo, getD_eq_some_iff.1 h1, getD_eq_some_iff.1 h2, getD_eq_some_iff.1 h3,
    getD_eq_some_iff.1 h4, h5, h6, h7, h8⟩

/-! ## the `999` sentinel and the guarded divisions

The model represents "outside the thresholds" by `none` where the code stores the number 999 and later tests
`d != 999`.  This is faithful because a genuine distance is always in `[0, 2)`; and the two divisions of the
distance formula are never by zero where the condition holds (`x/0` is never evaluated). -/

/-- the direction change is never negative -/
theorem ddpmOf_nonneg (dcur dprev : ℚ) : 0 ≤ ddpmOf dcur dprev := absR_nonneg _

/-- inside the thresholds both denominators are positive and the distance lies in `[0, 2)`, so it can
    never be mistaken for the sentinel 999 -/
theorem dist_lt_two (thr : Thr) (p : Nat) (lo ddpm dfp : ℚ) (hdd : 0 ≤ ddpm) (h : within thr p lo ddpm dfp) :
    0 < maxR (dfpMax thr p) (absR lo) ∧ 0 < ddpmMax thr p ∧
    0 ≤ distVal thr p lo ddpm dfp ∧ distVal thr p lo ddpm dfp < 2 := by
  obtain ⟨h1, h2, h3⟩ := h
  unfold distVal
  rw [maxR_eq_max, absR_eq_abs, absR_eq_abs]
  -- `-|lo| ≤ lo < dfp < dfpMax`, so `|dfp|` is below the larger of `dfpMax` and `|lo|`: both quotients are in `[0, 1)`
  have habs : |dfp| < max (dfpMax thr p) |lo| :=
    abs_lt.2 ⟨lt_of_le_of_lt (neg_le.1 ((neg_le_abs lo).trans (le_max_right _ _))) h3,
      lt_of_lt_of_le h2 (le_max_left _ _)⟩
  have hM := lt_of_le_of_lt (abs_nonneg dfp) habs
  have hD := lt_of_le_of_lt hdd h1
  exact ⟨hM, hD, add_nonneg (div_nonneg (abs_nonneg _) hM.le) (div_nonneg hdd hD.le),
    one_add_one_eq_two (R := ℚ) ▸ add_lt_add ((div_lt_one hM).2 habs) ((div_lt_one hD).2 h1)⟩

/-- every non-sentinel entry of the code's distance matrix lies in `[0, 2)` -/
theorem distEntry_lt_two (thr : Thr) (p : Nat) (fcur dcur fprev dprev : Option Rat) (x : Rat)
    (h : distEntry thr p fcur dcur fprev dprev = some x) : 0 ≤ x ∧ x < 2 := by
  obtain ⟨fc, dc, fp, dp, lo, _, _, _, _, _, h6, h7, h8, rfl⟩ := distEntry_some _ _ _ _ _ _ _ h
  exact (dist_lt_two thr p lo _ _ (ddpmOf_nonneg dc dp) ⟨h6, h7, h8⟩).2.2

/-! ## tie to the source text (T-tier): numeric literals regenerated from `tracking.py` on every run

`Gen.lits_*` list the numeric literals of the functions in source order; index/shape literals `0`, `1` are
dropped.  What remains are the markers, the wrap constants, the sentinel and the defaults; a changed
literal in the repository breaks these obligations. -/

theorem lits_match_consecutive :
    Gen.lits_tracking_match.filter (fun x => decide (1 < x)) =
      [((-emptyMarker : Int) : ℚ), halfTurn, fullTurn, halfTurn, farSentinel, farSentinel,
       ((-unmatchedMarker : Int) : ℚ)] := by decide +kernel

/-- defaults `ddpm_sea_max=30, ddpm_swell_max=20, dfp_swell_source_distance=1e6`, `times[:2]`, markers -/
theorem lits_np_track :
    Gen.lits_tracking_np_track.filter (fun x => decide (1 < x)) =
      [30, 20, 1000000, 2, ((-emptyMarker : Int) : ℚ), ((-unmatchedMarker : Int) : ℚ),
       ((-emptyMarker : Int) : ℚ)] := by decide +kernel

/-- `dfp_swell = dt·g / (4·π·distance)`, default distance `1e6` -/
theorem lits_dfp_swell : Gen.lits_tracking_dfp_swell = [1000000, 4] := rfl

/-! ## non-vacuity: the hypotheses of the theorems above are satisfiable on a concrete history

Two partitions, three steps.  Step 1 keeps system 0 (slot 0 → slot 0) and loses system 1; at step 2 a
new system appears in slot 1: ids `[[0,1],[0,-],[0,2]]`, `N = 3`. -/

/-- same slot index ⇒ distance 0; different slots are outside the thresholds -/
def exDist : Dist := fun c p => if c = p then some 0 else none
def exSteps : List (Dist × List Slot) := [(exDist, [true, false]), (exDist, [true, true])]

example : (track [true, true] exSteps).1 = [[some 0, some 1], [some 0, none], [some 0, some 2]] ∧
    (track [true, true] exSteps).2 = 3 := ⟨rfl, rfl⟩

/-- hypotheses of `carry_within_thresholds` / `prev_continued_at_most_once` (id 0, slot 0 → slot 0, t = 0) -/
example : ∃ rowPrev rowCur d s, (track [true, true] exSteps).1[0]? = some rowPrev ∧
    (track [true, true] exSteps).1[0 + 1]? = some rowCur ∧ exSteps[0]? = some (d, s) ∧
    rowPrev[0]? = some (some 0) ∧ rowCur[0]? = some (some 0) :=
  ⟨[some 0, some 1], [some 0, none], exDist, [true, false], rfl, rfl, rfl, rfl, rfl⟩

/-- hypotheses of `no_resurrection` (id 1: present at t0 = 0, absent at t = 1, t' = 2) and of `fresh_is_new` -/
example : ∃ r0 r r', (track [true, true] exSteps).1[0]? = some r0 ∧ (track [true, true] exSteps).1[1]? = some r ∧
    (track [true, true] exSteps).1[2]? = some r' ∧ 0 ≤ 1 ∧ 1 ≤ 2 ∧ some 1 ∈ r0 ∧ some 1 ∉ r :=
  ⟨[some 0, some 1], [some 0, none], [some 0, some 2], rfl, rfl, rfl, by decide, by decide, by decide, by decide⟩

example : ∃ rowPrev rowCur row0, (track [true, true] exSteps).1[1]? = some rowPrev ∧
    (track [true, true] exSteps).1[1 + 1]? = some rowCur ∧ (track [true, true] exSteps).1[0]? = some row0 ∧ 0 ≤ 1 ∧
    rowCur[1]? = some (some 2) ∧ some 2 ∉ rowPrev ∧ some 1 ∈ row0 :=
  ⟨[some 0, none], [some 0, some 2], [some 0, some 1], rfl, rfl, rfl, by decide, rfl, by decide, by decide⟩

/-- hypotheses of `first_match_is_nearest` and `first_unmatched_has_no_candidate` -/
example : (matchConsecutive exDist [true, true] (true :: [false]))[0]? = some (Match.prev 0) := rfl
example : (matchConsecutive (fun _ _ => none) [true, true] (true :: [false]))[0]? = some Match.fresh := rfl

/-- hypotheses of `unmatched_only_if_candidates_taken`: both current slots are near predecessor 0 only -/
example : (matchConsecutive (fun _ p => if p = 0 then some 0 else none) [true, false] [true, true])[1]? = some Match.fresh ∧
    ([true, false] : List Slot)[0]? = some true := ⟨rfl, rfl⟩

/-- hypotheses of `distEntry_some`: sea thresholds (-1/100, 1/200), 30°/20°; 355° → 5° is a 10° change -/
def exThr : Thr := ⟨some (-1 / 100), 1 / 200, 30, 20⟩
example : ∃ x, distEntry exThr 0 (some (1 / 10)) (some 5) (some (13 / 125)) (some 355) = some x :=
  Option.isSome_iff_exists.1 (by decide +kernel)

/-- hypotheses of `dist_lt_two` -/
example : (0 : ℚ) ≤ 10 ∧ within exThr 0 (-1 / 100) 10 (1 / 10 - 13 / 125) := by decide +kernel

/-- hypotheses of `carry_within_thresholds_data` on a two-step data history -/
def exS0 : Step := ⟨[some (13 / 125), none], [some 355, none]⟩
def exS1 : Step := ⟨[some (1 / 10), some (1 / 5)], [some 5, some 90]⟩
example : ∃ rowPrev rowCur, (trackData exS0 [(exThr, exS1)]).1[0]? = some rowPrev ∧
    (trackData exS0 [(exThr, exS1)]).1[0 + 1]? = some rowCur ∧
    [(exThr, exS1)][0]? = some (exThr, exS1) ∧ (exS0 :: [(exThr, exS1)].map (·.2))[0]? = some exS0 ∧
    rowPrev[0]? = some (some 0) ∧ rowCur[0]? = some (some 0) :=
  ⟨[some 0, none], [some 0, some 1], by decide +kernel, by decide +kernel, rfl, rfl, rfl, rfl⟩

/-- hypothesis of `sites_unaffected_by_other_sites` -/
example : ([(exS0, [(exThr, exS1)]), (exS1, [])] : List (Step × List (Thr × Step)))[0]? =
    ([(exS1, []), (exS0, [(exThr, exS1)])] : List (Step × List (Thr × Step)))[1]? := rfl

/-! ## T-tier: regenerated kernels

`tracking.dfp_swell` and the arithmetic of the thresholded distance matrix of `match_consecutive_partitions`
(`ddpm` wrap, `dfp`, the three threshold vectors, the `np.where` condition and value, the sentinel that the
candidate filter tests) are regenerated entry by entry into `Gen/NpKernels.lean` (`Gen.matchDist`) and identified
with `distEntry` for all finite operands. -/

theorem gen_dfp_swell_eq (pi g dt distance : ℚ) :
    Gen.dfpSwell pi g dt distance = Track.dfpSwell pi g dt distance ∧
    Gen.dfpSwell_distance_default = Track.swellDistanceDefault := ⟨rfl, rfl⟩

/-- the regenerated entry is `distEntry` on finite operands; the sea threshold is read for `p = 0` only -/
theorem gen_dist_eq_of (thr : Thr) (lo : ℚ) (p : Nat) (hlo : p = 0 → thr.dfpSea = some lo) (fc dc fp dp : ℚ) :
    Gen.matchDist lo thr.dfpSwell thr.ddpmSea thr.ddpmSwell p fc dc fp dp =
      distEntry thr p (some fc) (some dc) (some fp) (some dp) := by
  unfold Gen.matchDist distEntry
  by_cases hp : p = 0 <;>
    simp only [dfpMin, hp, hlo, if_true, if_false, within, distVal, ddpmMax, dfpMax, ddpmOf, halfTurn, fullTurn, gt_iff_lt,
      Bool.and_eq_true, decide_eq_true_eq]

/-- `partition_distance[c, p]` of `match_consecutive_partitions`, regenerated entry by entry, is `distEntry` on
    finite operands -/
theorem gen_dist_eq (thr : Thr) (lo : ℚ) (hlo : thr.dfpSea = some lo) (p : Nat) (fc dc fp dp : ℚ) :
    Gen.matchDist lo thr.dfpSwell thr.ddpmSea thr.ddpmSwell p fc dc fp dp =
      distEntry thr p (some fc) (some dc) (some fp) (some dp) :=
  gen_dist_eq_of thr lo p (fun _ => hlo) fc dc fp dp

theorem gen_dist_sentinel : Gen.matchDist_sentinel = farSentinel := rfl

/-- swell predecessors (`p ≠ 0`) do not read the sea threshold at all (it may be NaN) -/
theorem gen_dist_swell_eq (thr : Thr) (lo : ℚ) (p : Nat) (hp : p ≠ 0) (fc dc fp dp : ℚ) :
    Gen.matchDist lo thr.dfpSwell thr.ddpmSea thr.ddpmSwell p fc dc fp dp =
      distEntry thr p (some fc) (some dc) (some fp) (some dp) :=
  gen_dist_eq_of thr lo p (fun h => absurd h hp) fc dc fp dp

/-- hypotheses of `gen_dist_eq` / `gen_dist_swell_eq` are satisfiable; the generated kernel on the 355° → 5° case -/
example : exThr.dfpSea = some (-1 / 100) ∧ (1 : Nat) ≠ 0 ∧
    (Gen.matchDist (-1 / 100) (1 / 200) 30 20 0 (1 / 10) 5 (13 / 125) 355).isSome = true := by decide +kernel

end WS.C19
