import WsVerif.Model.History
import Mathlib.Tactic.Linarith
/-!
# C18 — results reflect the object's current contents, not earlier calls

Refinement of the history machine to the stateless specification "compute from the current contents".
`stepNew` is the code after the repairs made in this task, `stepOld` the code as found; the refutations
for `stepOld` are the three defects that were repaired (F15a, F15b, F22).
-/
namespace WS.C18
open WS.History

/-- one step of the repaired semantics observes the same thing from a fresh object -/
theorem stepNew_obs_fresh (s : State) (op : Op) : (stepNew s op).2 = (stepNew (fresh s) op).2 := by
  cases op <;> rfl

/-- **observation_fresh**: after *every* history, the last operation returns what it returns on a freshly
    constructed object with the same contents -/
theorem observation_fresh (h : List Op) (op : Op) : lastObs stepNew h op = freshObs stepNew h op := by
  unfold lastObs freshObs
  exact stepNew_obs_fresh _ op

/-- the Dataset accessor always agrees with the accessor of its `efth` variable -/
theorem dataset_eq_dataarray (s : State) (n : String) :
    (stepNew s (.statDs n)).2 = (stepNew s (.statDa n)).2 := rfl

/-- a reader call returns the same thing whatever ran before it — other reader calls on datasets with other sets of
    optional variables included: its result is a function of the dataset it is given -/
theorem reader_history_irrelevant (h : List Op) (v : Nat) : lastObs stepNew h (.readObs v) = some (.reader v) := rfl

/-- number of in-place edits of each kind in a history -/
def nEdits (h : List Op) : Nat := (h.filter (· == Op.editEfth)).length
def nAssign (h : List Op) : Nat := (h.filter (· == Op.assignDir)).length
def nAssignF (h : List Op) : Nat := (h.filter (· == Op.assignFreq)).length

/-- a field that every step raises by one exactly on the operations satisfying `p` counts them -/
theorem run_count (step : State → Op → State × Option Obs) (f : State → Nat) (p : Op → Bool)
    (hstep : ∀ s op, f (step s op).1 = f s + if p op then 1 else 0) (s : State) (h : List Op) :
    f (run step s h).1 = f s + (h.filter p).length := by
  induction h generalizing s with
  | nil => rfl
  | cons op ops ih =>
    show f (run step (step s op).1 ops).1 = _
    rw [ih, hstep, List.filter_cons]
    split
    · rw [List.length_cons]; omega
    · rfl

theorem run_versions (s : State) (h : List Op) :
    (run stepNew s h).1.efthVer = s.efthVer + nEdits h ∧ (run stepNew s h).1.dirVer = s.dirVer + nAssign h ∧
      (run stepNew s h).1.freqVer = s.freqVer + nAssignF h :=
  ⟨run_count stepNew (·.efthVer) _ (fun _ op => by cases op <;> rfl) s h,
   run_count stepNew (·.dirVer) _ (fun _ op => by cases op <;> rfl) s h,
   run_count stepNew (·.freqVer) _ (fun _ op => by cases op <;> rfl) s h⟩

/-- the observation depends on the history only through the contents it produced: two histories with the same
    edits give the same result for every observed operation, whatever else they contain (other accessor calls,
    partition calls on other shapes, attribute look-ups, failing calls, reader calls) -/
theorem history_irrelevant (h1 h2 : List Op) (op : Op)
    (he : nEdits h1 = nEdits h2) (ha : nAssign h1 = nAssign h2) (hf : nAssignF h1 = nAssignF h2) :
    lastObs stepNew h1 op = lastObs stepNew h2 op := by
  rw [observation_fresh, observation_fresh]
  unfold freshObs fresh
  have a := run_versions {} h1
  have b := run_versions {} h2
  simp only at a b
  rw [a.1, a.2.1, a.2.2, b.1, b.2.1, b.2.2, he, ha, hf]

/-- observations never depend on which grid shape the C routine last saw -/
theorem cshape_irrelevant (s : State) (sh : Option (Nat × Nat)) (op : Op) :
    (stepNew { s with cshape := sh } op).2 = (stepNew s op).2 := by
  cases op <;> rfl

/-! ### the code as found (before the repairs) -/

/-- full statement for a step semantics -/
def ObservationFresh (step : State → Op → State × Option Obs) : Prop :=
  ∀ (h : List Op) (op : Op), lastObs step h op = freshObs step h op

theorem new_observation_fresh : ObservationFresh stepNew := observation_fresh

/-- F15a: `ds.spec.hs(); ds['efth'] = …; ds.spec.hs()` answered for the old `efth` -/
theorem old_stale_efth_fails : ¬ ObservationFresh stepOld := by
  intro h
  have := h [.statDs "hs", .editEfth] (.statDs "hs")
  revert this
  decide +kernel

/-- F15b: `da.spec.hs(); da['dir'] = …; da.spec.hs()` used the memoised direction width -/
theorem old_stale_dd_witness :
    lastObs stepOld [.statDa "hs", .assignDir] (.statDa "hs") ≠
      freshObs stepOld [.statDa "hs", .assignDir] (.statDa "hs") := by decide +kernel

/-- F22: a look-up of an unknown attribute name changed what later calls see for that name -/
theorem old_attr_autoviv_witness :
    lastObs stepOld [.attrLookup "crsd"] (.statDa "crsd") ≠ freshObs stepOld [.attrLookup "crsd"] (.statDa "crsd") := by
  decide +kernel

/-- histories without in-place edits and attribute look-ups -/
def Quiet (h : List Op) : Prop :=
  ∀ op ∈ h, op ≠ Op.editEfth ∧ op ≠ Op.assignDir ∧ op ≠ Op.assignFreq ∧ ∀ k, op ≠ Op.attrLookup k

def OldInv (s : State) : Prop :=
  s.efthVer = 0 ∧ s.dirVer = 0 ∧ s.freqVer = 0 ∧ (s.bound = none ∨ s.bound = some 0) ∧
    (s.ddMemo = none ∨ s.ddMemo = some (0, 0)) ∧ s.inserted = []

theorem oldInv_step (s : State) (op : Op) (hi : OldInv s)
    (hq : op ≠ Op.editEfth ∧ op ≠ Op.assignDir ∧ op ≠ Op.assignFreq ∧ ∀ k, op ≠ Op.attrLookup k) :
    OldInv (stepOld s op).1 ∧ (stepOld s op).2 = (stepNew {} op).2 := by
  cases op with
  | statDs n => obtain ⟨h1, h2, h2f, h3 | h3, h4 | h4, h5⟩ := hi <;> simp [stepOld, stepNew, OldInv, *]
  | statDa n => obtain ⟨h1, h2, h2f, h3, h4 | h4, h5⟩ := hi <;> simp [stepOld, stepNew, OldInv, *]
  | editEfth => exact absurd rfl hq.1
  | assignDir => exact absurd rfl hq.2.1
  | assignFreq => exact absurd rfl hq.2.2.1
  | attrLookup k => exact absurd rfl (hq.2.2.2 k)
  | partition _ _ | unknownStat | read | readObs _ | foreign _ => exact ⟨hi, rfl⟩

theorem oldInv_run (s : State) (h : List Op) (hi : OldInv s) (hq : Quiet h) : OldInv (run stepOld s h).1 := by
  induction h generalizing s with
  | nil => exact hi
  | cons op ops ih =>
    simp only [run]
    exact ih _ (oldInv_step s op hi (hq op (by simp))).1 (fun o ho => hq o (by simp [ho]))

theorem quiet_counts {h : List Op} (hq : Quiet h) : nEdits h = 0 ∧ nAssign h = 0 ∧ nAssignF h = 0 := by
  have z : ∀ o : Op, (∀ op ∈ h, op ≠ o) → (h.filter (· == o)).length = 0 := fun o ho =>
    List.length_eq_zero_iff.mpr (List.filter_eq_nil_iff.mpr fun op hop => by simpa using ho op hop)
  exact ⟨z _ fun op hop => (hq op hop).1, z _ fun op hop => (hq op hop).2.1, z _ fun op hop => (hq op hop).2.2.1⟩

/-- the code as found was already correct on histories without in-place edits or attribute look-ups -/
theorem old_observation_fresh_partial (h : List Op) (op : Op) (hq : Quiet h)
    (hop : op ≠ Op.editEfth ∧ op ≠ Op.assignDir ∧ op ≠ Op.assignFreq ∧ ∀ k, op ≠ Op.attrLookup k) :
    lastObs stepOld h op = freshObs stepOld h op := by
  unfold lastObs freshObs
  have hi := oldInv_run {} h ⟨rfl, rfl, rfl, Or.inl rfl, Or.inl rfl, rfl⟩ hq
  rw [(oldInv_step _ op hi hop).2]
  have hf : OldInv (fresh (run stepNew {} h).1) := by
    obtain ⟨a, b, c⟩ := run_versions {} h
    obtain ⟨ha, hb, hc⟩ := quiet_counts hq
    exact ⟨a.trans (by rw [ha]), b.trans (by rw [hb]), c.trans (by rw [hc]), Or.inl rfl, Or.inl rfl, rfl⟩
  rw [(oldInv_step _ op hf hop).2]

example : Quiet [.statDs "hs", .partition 3 4, .unknownStat, .read, .statDa "tp", .readObs 0, .foreign "to_ww3"] := by
  intro op hop
  simp at hop
  rcases hop with rfl | rfl | rfl | rfl | rfl | rfl | rfl <;> simp

example : lastObs stepNew [.statDs "hs", .editEfth, .assignDir, .partition 2 2] (.statDs "hs") = some (.stat 1 1 0 true) := by
  decide +kernel

end WS.C18
