import WsVerif.Model.Neigh
import WsVerif.Model.Flood
import WsVerif.Model.Specpart
import WsVerif.Lemmas.Neigh
import WsVerif.Lemmas.Flood
/-!
# C04 — watershed gives one connected basin per spectral peak on the circular grid

Property theorems only (helpers: `Lemmas/Neigh.lean`, `Lemmas/Flood.lean`).  Everything here holds for **all**
grid sizes `mk, mth ≥ 1`, all level counts, all graphs and all traces.

**Proved for all inputs**
* neighbour table of `ptnghb` (`Model/Neigh.lean`, a line-by-line transliteration): `neigh_spec` (row of `i+mk·j`
  = in slot order, the cylinder 8-neighbourhood filtered by the frequency bounds, direction `j∓1 mod mth`),
  `neigh_lt`, `neigh_count_le_8`, `neigh_symm`, `neigh_is_cylinder_8adjacency`, `neigh_shift` (as lists);
* level discretisation `levelOf`: `levels_range`, `levels_zmax`, `levels_zmin`, `levels_antitone`;
* counting sort specification: `ptsort_perm`, `ptsort_sorted` (about `ptsortSpec`; the executable `ptsort`
  is compared with it on every explored input);
* abstract flooding machine (`Model/Flood.lean`, any finite graph, any level map): `flood_sound` /
  `flood_sound_full` — for every trace, `Valid` + `Complete` imply (a) every vertex carries exactly one label
  `basin k`, `1 ≤ k ≤ K`; (b) every label `1..K` is in use and each basin contains its seed (`Post.allUsed`);
  every seed sits on a regional minimum of the level map whose whole plateau lies in its basin
  (`seeds_are_regional_minima`), every regional minimum holds a seed (`regional_minimum_has_seed`) and different
  basins hold different minima (`seeds_on_distinct_minima`) — one basin per regional maximum of the discretised
  spectrum, each containing exactly one; (c) every basin is connected (`basin_connected`).  Proof by the
  invariants of `Lemmas/Flood.lean`, each preserved by every guarded step (`step_inv`, `step_inv2`, `step_inv3`):
  (I1) final basin pixels are linked to their seed through final pixels of the same basin, (I2) pixels below the
  current level are final and labelled, (I3) seeds occur on whole plateaus whose outside neighbours are strictly
  higher, once per plateau, (I4) labels in use are `1..K`, (I5) labels of final pixels never change.
  `cylinder_wf`: the `ptnghb` table is a symmetric closed graph for every grid size, so the theorems apply to it.
* `five_sweeps_complete_fails`: a concrete 8×4 spectrum on which the transliterated `pt_fld` emits a valid trace
  but is **not** `Complete` after its five sweeps (kernel evaluation of the model) — the witness of F04-thick-wshed.

**Proved elsewhere for all inputs**: the concrete transliteration of `pt_fld` (`Model/Specpart.lean`, tied to the real C by
exact equality of label maps) always emits a `Valid` trace whose final abstract labels are the concrete label map
(`Props/C20fld.lean`: `partition_trace_valid`, `partition_abstract_final`); `Props/C04sound.lean` composes this with
`flood_sound_full` into `partition_sound`, a statement about the returned label array.

**Checked per input, not proved** (exploration; `harness/checks/c04.py`)
* that the five clean-up sweeps leave no watershed pixel (`Complete`).  This is **false** of the code in general:
  finding F04-thick-wshed (a 16×4 corridor spectrum keeps 36 bins at label 0); `Complete` therefore stays a
  hypothesis of `flood_sound`;
* bin-for-bin shift equivariance of the label maps on watershed-line pixels.
-/
namespace WS.C04
open WS.Neigh WS.NeighL WS.Flood WS.FloodL WS.SP

/-- The row of pixel `i + mk·j` computed by `ptnghb` is, in slot order, left, right, down (wrapping), up (wrapping),
    down-left, down-right, up-left, up-right — the frequency neighbours kept only inside `0 ≤ i±1 < mk`, the
    direction neighbours taken modulo `mth` (`dn_eq_mod`, `up_eq_mod`). -/
theorem neigh_spec (mk mth i j : Nat) (hi : i < mk) (hj : j < mth) :
    neighLin mk mth (i + mk * j) = (neighIJ mk mth i j).map (lin mk) :=
  NeighL.neigh_spec mk mth i j hi hj

/-- the wrapped direction indices are `j∓1 mod mth` -/
theorem neigh_wrap_mod (mth j : Nat) (hj : j < mth) :
    dn mth j = (j + mth - 1) % mth ∧ up mth j = (j + 1) % mth :=
  ⟨dn_eq_mod hj, up_eq_mod hj⟩

/-- every entry of the table is a valid pixel index -/
theorem neigh_lt (mk mth n : Nat) (hn : n < mk * mth) : ∀ x ∈ neighLin mk mth n, x < mk * mth :=
  neighLin_lt hn

/-- at most 8 neighbours, so slot 8 of the 9-int row is free for the count -/
theorem neigh_count_le_8 (mk mth n : Nat) (hn : n < mk * mth) : (neighLin mk mth n).length ≤ 8 :=
  neighLin_length_le hn

/-- the table is the 8-adjacency of the cylinder: frequency bounded, direction circular -/
theorem neigh_is_cylinder_8adjacency (mk mth i j a b : Nat) (hi : i < mk) :
    (a, b) ∈ neighIJ mk mth i j ↔
      a < mk ∧ (((a + 1 = i ∨ a = i + 1) ∧ b = j) ∨
                ((a = i ∨ a + 1 = i ∨ a = i + 1) ∧ (b = dn mth j ∨ b = up mth j))) :=
  mem_neighIJ mk mth i j a b hi

/-- the adjacency is symmetric -/
theorem neigh_symm (mk mth n m : Nat) (hn : n < mk * mth) (hm : m ∈ neighLin mk mth n) : n ∈ neighLin mk mth m := by
  obtain ⟨hi, hj, e⟩ := decomp hn
  rw [neighLin_eq hn] at hm
  obtain ⟨⟨a, b⟩, hp, rfl⟩ := List.mem_map.mp hm
  have hb := neighIJ_bounds hi hj hp
  have hs := neighIJ_symm hi hj hp
  show n ∈ neighLin mk mth (a + mk * b)
  rw [NeighL.neigh_spec mk mth a b hb.1 hb.2]
  exact List.mem_map.mpr ⟨(n % mk, n / mk), hs, e.symm⟩

/-- shifting a pixel by `s` direction bins shifts its whole row, slot by slot (in (i,j) coordinates) -/
theorem neigh_shift_ij (mk mth i j s : Nat) (hj : j < mth) :
    neighIJ mk mth i (rot mth s j) = (neighIJ mk mth i j).map fun p => (p.1, rot mth s p.2) :=
  neighIJ_shift hj s

/-- the direction shift by `s` bins on linear indices -/
def shiftLin (mk mth s x : Nat) : Nat := x % mk + mk * rot mth s (x / mk)

/-- `neigh_shift`: the table row of the shifted pixel is the shifted row **as lists**, so the relative slot order
    (which decides ties in step 2 of `pt_fld`) is shift-invariant; `rot mth s j = (j+s) % mth` -/
theorem neigh_shift (mk mth i j s : Nat) (hi : i < mk) (hj : j < mth) :
    neighLin mk mth (shiftLin mk mth s (i + mk * j)) = (neighLin mk mth (i + mk * j)).map (shiftLin mk mth s) := by
  have e0 : shiftLin mk mth s (i + mk * j) = i + mk * rot mth s j := by
    unfold shiftLin; rw [lin_mod mk i j hi, lin_div mk i j hi]
  rw [e0, NeighL.neigh_spec mk mth i _ hi (rot_lt hj s), NeighL.neigh_spec mk mth i j hi hj, neighIJ_shift hj s,
    List.map_map, List.map_map]
  apply List.map_congr_left
  intro p hp
  have hb := neighIJ_bounds hi hj hp
  show p.1 + mk * rot mth s p.2 = shiftLin mk mth s (p.1 + mk * p.2)
  unfold shiftLin; rw [lin_mod mk p.1 p.2 hb.1, lin_div mk p.1 p.2 hb.1]

theorem rot_is_mod (mth j s : Nat) (hj : j < mth) : rot mth s j = (j + s) % mth := rot_eq_mod hj s

example : neighLin 3 4 0 = [1, 9, 3, 10, 4] := by decide
example : neighLin 1 1 0 = [0, 0] := by decide

/-- every level is `≤ ihmax-1` (so `< ihmax` for `ihmax ≥ 1`) -/
theorem levels_range (ihmax : Nat) (zmin zmax z : Int) : levelOf ihmax zmin zmax z ≤ ihmax - 1 := by
  unfold levelOf; exact Nat.min_le_right _ _

/-- the maximum of the spectrum is discretised to level 0 -/
theorem levels_zmax (ihmax : Nat) (zmin zmax : Int) (h : zmin < zmax) : levelOf ihmax zmin zmax zmax = 0 := by
  unfold levelOf roundHalfAway
  have hd : 0 < zmax - zmin := by omega
  have : (2 * ((zmax - zmax) * ((ihmax : Int) - 1)) + (zmax - zmin)) / (2 * (zmax - zmin)) = 0 := by
    rw [Int.sub_self, Int.zero_mul, Int.mul_zero, Int.zero_add]
    exact Int.ediv_eq_zero_of_lt (by omega) (by omega)
  rw [this]; simp

/-- the minimum of the spectrum is discretised to the last level `ihmax-1` -/
theorem levels_zmin (ihmax : Nat) (zmin zmax : Int) (h : zmin < zmax) (hi : 1 ≤ ihmax) :
    levelOf ihmax zmin zmax zmin = ihmax - 1 := by
  unfold levelOf roundHalfAway
  have hd : 0 < zmax - zmin := by omega
  generalize zmax - zmin = d at hd
  have e : (2 * (d * ((ihmax : Int) - 1)) + d) / (2 * d) = (ihmax : Int) - 1 := by
    rw [← Int.mul_assoc, Int.add_comm, Int.add_mul_ediv_left _ _ (by omega), Int.ediv_eq_zero_of_lt (by omega) (by omega)]
    omega
  rw [e]
  omega

/-- larger spectral values get lower (or equal) levels -/
theorem levels_antitone (ihmax : Nat) (zmin zmax z z' : Int) (h : zmin < zmax) (hi : 1 ≤ ihmax) (hz : z ≤ z') :
    levelOf ihmax zmin zmax z' ≤ levelOf ihmax zmin zmax z := by
  unfold levelOf roundHalfAway
  have hm : (zmax - z') * ((ihmax : Int) - 1) ≤ (zmax - z) * ((ihmax : Int) - 1) :=
    Int.mul_le_mul_of_nonneg_right (by omega) (by omega)
  have := Int.toNat_le_toNat (Int.ediv_le_ediv (c := 2 * (zmax - zmin)) (by omega)
    (Int.add_le_add_right (Int.mul_le_mul_of_nonneg_left hm (by decide : (0 : Int) ≤ 2)) (zmax - zmin)))
  omega

example : levelOf 100 0 2 1 = 50 := by decide
example : (levelOf 3 0 5 5, levelOf 3 0 5 3, levelOf 3 0 5 0) = (0, 1, 2) := by decide

/-! ## counting sort (specification of `ptsort`) -/

theorem flatMap_filter_perm (l : List Nat) (f : Nat → Nat) (m : Nat) :
    ((List.range m).flatMap fun v => l.filter fun p => f p == v).Perm (l.filter fun p => decide (f p < m)) := by
  induction m with
  | zero => simp
  | succ m ih =>
    rw [List.range_succ, List.flatMap_append]
    simp only [List.flatMap_cons, List.flatMap_nil, List.append_nil]
    have h1 : l.filter (fun p => decide (f p < m)) = (l.filter fun p => decide (f p < m + 1)).filter (fun p => decide (f p < m)) := by
      rw [List.filter_filter]; congr 1; funext p; simp; omega
    have h2 : l.filter (fun p => f p == m) = (l.filter fun p => decide (f p < m + 1)).filter (fun p => !decide (f p < m)) := by
      rw [List.filter_filter]; congr 1; funext p
      by_cases h : f p = m
      · simp [h]
      · have : (f p == m) = false := by simpa using h
        rw [this]; simp; omega
    refine (List.Perm.append_right _ ih).trans ?_
    rw [h1, h2]
    exact List.filter_append_perm _ _

/-- `ptsort` (specification): `ind` is a permutation of the pixels … -/
theorem ptsort_perm (ihmax nspec : Nat) (imi : Nat → Nat) (h : ∀ p, p < nspec → imi p < ihmax) :
    (ptsortSpec ihmax nspec imi).Perm (List.range nspec) := by
  unfold ptsortSpec
  refine (flatMap_filter_perm (List.range nspec) imi ihmax).trans ?_
  rw [List.filter_eq_self.mpr]
  intro p hp
  simpa using h p (List.mem_range.mp hp)

/-- … sorted by level, pixels of equal level in increasing index order (stable counting sort) -/
theorem ptsort_sorted (ihmax nspec : Nat) (imi : Nat → Nat) :
    (ptsortSpec ihmax nspec imi).Pairwise fun a b => imi a < imi b ∨ (imi a = imi b ∧ a < b) := by
  unfold ptsortSpec
  rw [List.pairwise_flatMap]
  constructor
  · intro v _
    have : (List.range nspec).Pairwise (· < ·) := List.pairwise_lt_range
    refine (this.filter _).imp_of_mem ?_
    intro a b ha hb hab
    right
    simp only [List.mem_filter, beq_iff_eq] at ha hb
    exact ⟨by rw [ha.2, hb.2], hab⟩
  · have : (List.range ihmax).Pairwise (· < ·) := List.pairwise_lt_range
    refine this.imp ?_
    intro v1 v2 hv x hx y hy
    simp only [List.mem_filter, beq_iff_eq] at hx hy
    left; omega
example : ptsortSpec 3 5 (fun p => [2, 0, 1, 0, 2].getD p 0) = [1, 3, 2, 0, 4] := by decide

/-- Invariants (I1), (I2), (I4), (I5) and the seed bookkeeping hold in every state reached by a valid trace
    (`Lemmas/Flood.Inv`; preserved by every guarded step: `FloodL.step_inv`). -/
theorem flood_invariants (g : Graph) (t : List Step) (s : St) (h : run g t = some s) : Inv g s := run_inv h

/-- postcondition of a complete flooding, clauses (a), (b: labels exactly `1..K`, each basin holds its seed), (c) -/
structure Post (g : Graph) (s : St) : Prop where
  /-- (a) every vertex carries exactly one label, a basin number in `1..K` (never `init/mask/wshed`) -/
  labelled : ∀ p, p < g.n → ∃ k, 1 ≤ k ∧ k ≤ s.K ∧ s.labOf p = .basin k
  /-- (b) every number `1..K` is in use: basin `k` contains its seed pixel -/
  allUsed : ∀ k, 1 ≤ k → k ≤ s.K → ∃ p, p < g.n ∧ seedOf s k = some p ∧ s.labOf p = .basin k
  /-- (c) every pixel of basin `k` is linked to the seed of `k` by a chain of adjacent basin-`k` pixels -/
  linked : ∀ p k, s.labOf p = .basin k → Linked g s k p

/-- **flood_sound (label/connectivity part)**: for every graph, every level map and every trace, if all guards
    hold (`Valid`) and the run is `Complete` (all levels processed, no watershed pixel left) then (a), (b), (c). -/
theorem flood_sound (g : Graph) (t : List Step) (s : St) (hrun : run g t = some s) (hc : Complete g s) :
    Post g s := by
  have I := run_inv hrun
  unfold Complete completeB at hc
  rw [Bool.and_eq_true, List.all_eq_true] at hc
  have hbasin : ∀ x, x < g.n → s.finOf x = true ∧ ∃ k, s.labOf x = .basin k := by
    intro x hx
    have h1 : g.level x < s.h ∧ s.labOf x ≠ .wshed := by simpa using hc.2 x (List.mem_range.mpr hx)
    have h2 := I.done x hx h1.1
    refine ⟨h2.1, ?_⟩
    cases hl : s.labOf x with
    | wshed => exact absurd hl h1.2
    | basin k => exact ⟨k, rfl⟩
    | _ => rw [hl] at h2; cases h2.2
  refine ⟨fun p hp => ?_, fun k h1 hK => ?_, fun p k hl => ?_⟩
  · obtain ⟨_, k, hk⟩ := hbasin p hp
    exact ⟨k, (I.range p k hk).1, (I.range p k hk).2, hk⟩
  · have hlt : k - 1 < s.seeds.size := by rw [I.seedsSz]; omega
    have hs : seedOf s k = some (s.seeds[k - 1]) := by
      unfold seedOf; rw [if_pos h1, Array.getElem?_eq_getElem hlt]
    have hfb := I.seedFB k _ hs
    exact ⟨_, labOf_lt I (by rw [hfb.2]; intro hc; cases hc), hs, hfb.2⟩
  · exact I.link p k ⟨(hbasin p (labOf_lt I (by rw [hl]; intro hc; cases hc))).1, hl⟩

/-- `Valid` form of `flood_sound` -/
theorem flood_sound_valid (g : Graph) (t : List Step) (hv : Valid g t) :
    ∃ s, run g t = some s ∧ (Complete g s → Post g s) := by
  unfold Valid at hv
  cases h : run g t with
  | none => rw [h] at hv; cases hv
  | some s => exact ⟨s, rfl, flood_sound g t s h⟩

theorem linked_conn {g : Graph} {s : St} {k p : Nat} (h : Linked g s k p) :
    ∃ sp, seedOf s k = some sp ∧ Conn g (fun x => s.labOf x = .basin k) p sp := by
  induction h with
  | seed hs hf => exact ⟨_, hs, .refl hf.2⟩
  | step hf ha _ ih =>
    obtain ⟨sp, hs, hc⟩ := ih
    exact ⟨sp, hs, .step hf.2 ha hc⟩

/-- (c) every basin is connected: any two pixels with the same label are joined by a path of adjacent pixels
    carrying that label (adjacency symmetric, as `neigh_symm` shows for the cylinder table) -/
theorem basin_connected (g : Graph) (hsym : ∀ a b, b ∈ g.adj a → a ∈ g.adj b) (t : List Step) (s : St)
    (hrun : run g t = some s) (hc : Complete g s) (p p' k : Nat)
    (hp : s.labOf p = .basin k) (hp' : s.labOf p' = .basin k) :
    Conn g (fun x => s.labOf x = .basin k) p p' := by
  have P := flood_sound g t s hrun hc
  obtain ⟨sp, hs, c1⟩ := linked_conn (P.linked p k hp)
  obtain ⟨sp', hs', c2⟩ := linked_conn (P.linked p' k hp')
  rw [hs] at hs'; injection hs' with hs'; subst hs'
  exact c1.trans (c2.symm hsym)

/-- a tiny valid complete run (two adjacent vertices, levels 0 and 1): hypotheses are satisfiable -/
example :
    let g : Graph := { n := 2, adj := fun p => if p = 0 then [1] else [0], level := fun p => p }
    let t : List Step := [.level 0, .mark 0, .endqueue, .seed 0 1, .closed 0, .endlevel,
                          .level 1, .mark 1, .inherit 1 0, .finalize 1, .endqueue, .endlevel, .sweep]
    (match run g t with
     | some s => completeB g s && s.labOf 0 == .basin 1 && s.labOf 1 == .basin 1
     | none => false) = true := by decide

/-! ### seeds ↔ regional minima (graph symmetric and closed: `WF`, which `neigh_symm`/`neigh_lt` give for the cylinder) -/

/-- (b) every seed sits on a regional minimum of the level map (= regional maximum of the discretised spectrum),
    and the whole plateau of that minimum lies in the seed's basin -/
theorem seeds_are_regional_minima (g : Graph) (wf : WF g) (t : List Step) (s : St) (hrun : run g t = some s)
    (hc : Complete g s) (k p : Nat) (hs : seedOf s k = some p) :
    RegMin g p ∧ ∀ x, Plateau g p x → s.labOf x = .basin k := by
  have K3 := run_inv3 wf hrun
  have P := flood_sound g t s hrun hc
  refine ⟨K3.rm k p hs, ?_⟩
  intro x hx
  rcases K3.dyn k p hs x hx with ⟨a, _⟩ | ⟨a, _⟩
  · exact a
  · obtain ⟨k', _, _, hk'⟩ := P.labelled x hx.level.1
    rw [hk'] at a; cases a

/-- (b) every regional minimum of the level map holds a seed, and its whole plateau lies in that seed's basin:
    one basin per regional minimum -/
theorem regional_minimum_has_seed (g : Graph) (wf : WF g) (t : List Step) (s : St) (hrun : run g t = some s)
    (hc : Complete g s) (x0 : Nat) (hr : RegMin g x0) :
    ∃ k p, seedOf s k = some p ∧ Plateau g x0 p ∧ ∀ x, Plateau g x0 x → s.labOf x = .basin k := by
  have J := run_inv2 hrun
  have P := flood_sound g t s hrun hc
  rcases J.nl x0 hr with ⟨k, p, hs, hp⟩ | hh
  · refine ⟨k, p, hs, hp, ?_⟩
    intro x hx
    exact (seeds_are_regional_minima g wf t s hrun hc k p hs).2 x ((hp.swap wf).trans hx)
  · exfalso
    obtain ⟨k', _, _, hk'⟩ := P.labelled x0 hr.1
    rcases hh x0 (.refl ⟨hr.1, rfl⟩) with h' | h' <;> rw [hk'] at h' <;> cases h'

/-- (b) different basins hold different regional minima: the seed of `k'` is not on the plateau of the seed of `k` -/
theorem seeds_on_distinct_minima (g : Graph) (wf : WF g) (t : List Step) (s : St) (hrun : run g t = some s)
    (hc : Complete g s) (k k' p p' : Nat) (hs : seedOf s k = some p) (hs' : seedOf s k' = some p')
    (hne : k ≠ k') : ¬ Plateau g p p' := by
  intro hpl
  have h1 := (seeds_are_regional_minima g wf t s hrun hc k p hs).2 p' hpl
  have I := run_inv hrun
  have h2 := (I.seedFB k' p' hs').2
  rw [h1] at h2; injection h2 with h2; exact hne h2

/-- the full statement of Appendix C, as one proposition -/
def FloodSoundFull (g : Graph) (s : St) : Prop :=
  Post g s ∧
  (∀ k p, seedOf s k = some p → RegMin g p ∧ ∀ x, Plateau g p x → s.labOf x = .basin k) ∧
  (∀ x0, RegMin g x0 → ∃ k p, seedOf s k = some p ∧ Plateau g x0 p ∧ ∀ x, Plateau g x0 x → s.labOf x = .basin k)

/-- **flood_sound, full**: for every symmetric finite graph, every level map and every trace: `Valid` and `Complete`
    imply (a) one label `1..K` per vertex, (b) labels exactly `1..K`, one basin per regional minimum of the level map,
    each basin containing exactly one of them, (c) every basin connected. -/
theorem flood_sound_full (g : Graph) (wf : WF g) (t : List Step) (s : St) (hrun : run g t = some s)
    (hc : Complete g s) : FloodSoundFull g s :=
  ⟨flood_sound g t s hrun hc, fun k p hs => seeds_are_regional_minima g wf t s hrun hc k p hs,
   fun x0 hr => regional_minimum_has_seed g wf t s hrun hc x0 hr⟩

/-- the cylinder table is a well-formed symmetric graph, for every grid size and every level map -/
theorem cylinder_wf (mk mth : Nat) (level : Nat → Nat) :
    WF { n := mk * mth, adj := fun p => if p < mk * mth then neighLin mk mth p else [], level := level } := by
  constructor
  · intro x y hy
    simp only at hy
    split at hy
    · rename_i hx; exact neigh_lt mk mth x hx y hy
    · cases hy
  · intro x y hy
    simp only at hy ⊢
    split at hy
    · rename_i hx
      have hyn := neigh_lt mk mth x hx y hy
      rw [if_pos hyn]; exact neigh_symm mk mth x y hx hy
    · cases hy

/-! ## `Complete` is not a theorem of the code: five sweeps do not always suffice (finding F04-thick-wshed) -/

/-- levels: two peaks (8) diagonal to the head of a one-pixel corridor 7,6,…,1 inside a constant background 0 -/
def thickWshedGrid : Array Int :=
  #[8,0,8,0, 0,7,0,0, 0,6,0,0, 0,5,0,0, 0,4,0,0, 0,3,0,0, 0,2,0,0, 0,1,0,0]

/-- On this 8×4 spectrum (`ihmax = 9`) the transliteration of `pt_fld` emits a trace whose every guard holds, its
    abstract labels are the concrete label map, and watershed pixels remain after the five clean-up sweeps
    (the last row keeps label 0): `Valid` but not `Complete`. The real C returns the same label map. -/
theorem five_sweeps_complete_fails :
    let r := SP.partition 8 4 9 (Neigh.table 8 4) thickWshedGrid 0 true
    let v := SP.verdict 8 4 9 (Neigh.rows 8 4) r
    v.valid = true ∧ v.labelsOk = true ∧ v.complete = false ∧ r.labels.toList.drop 28 = [0, 0, 0, 0] := by
  decide +kernel

end WS.C04
