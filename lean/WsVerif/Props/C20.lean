import WsVerif.Model.Neigh
import WsVerif.Model.Specpart
import WsVerif.Lemmas.Neigh
/-!
# C20 (native half) — the watershed routine stays inside its buffers

Namespace `WS.C20`; self-contained (the Python-level half of C20 is `Props/C20py.lean`).
Index-range theorems for the loop-simple routines of `specpart.c`, for **all** `nk, nth, ihmax ≥ 1`:

* `ptnghb_in_bounds`   every write `neigh[k + 9n]` (`k ≤ 8`) is inside the `9·nspec` table, every stored neighbour is a
                       valid pixel and at most 8 are stored (so the count slot `8 + 9n` is never overwritten);
* `levels_in_range`    `0 ≤ imi[i] < ihmax`, hence `numv[imi[i]]`, `iaddr[imi[i]]` are in range;
* `ptsort_in_bounds`   the position `iorder[i] = iaddr[imi[i]]` at which `ind` is written is `< nspec`, distinct pixels get
                       distinct positions, and the prefix-sum loop index `i+1` stays `< ihmax`;
* `fifo_add_in_range`, `fifo_first_in_range`   the circular queue indices stay in `[0, nspec)`.

**Proved separately** (`Props/C20fld.lean`, namespace `WS.C20fld`): inside `pt_fld` every `ind[m]`, `neigh[…]`, `iq[…]`,
`imo[…]`, `imd[…]` access is in range, the fictitious pixel `-100` is never used as an index, the queue never overflows
and every `for(;;)` terminates — `partition_memory_safe`, `partition_terminates` for all grids, level counts, integer
spectra and queue fillings (the ASan/UBSan runs of `harness/checks/c20_native.py` remain as exploration of the real C).
-/
namespace WS.C20
open WS.Neigh WS.NeighL WS.SP

/-- `ptnghb`: all table indices written for pixel `n` are inside the table; entries are valid pixels; ≤ 8 of them -/
theorem ptnghb_in_bounds (mk mth n : Nat) (hn : n < mk * mth) :
    (∀ k, k ≤ 8 → k + 9 * n < 9 * (mk * mth)) ∧
    (neighLin mk mth n).length ≤ 8 ∧
    (∀ x ∈ neighLin mk mth n, x < mk * mth) := by
  exact ⟨fun k hk => by omega, neighLin_length_le hn, neighLin_lt hn⟩

/-- `imi[i] = fmax(0, fmin(ihmax-1, round(..)))` is a valid index of `numv`/`iaddr` (size `ihmax`) -/
theorem levels_in_range (ihmax : Nat) (h : 1 ≤ ihmax) (zmin zmax z : Int) : levelOf ihmax zmin zmax z < ihmax := by
  have : levelOf ihmax zmin zmax z ≤ ihmax - 1 := by unfold levelOf; exact Nat.min_le_right _ _
  omega

theorem fifo_add_in_range (nspec qe : Int) (hn : 1 ≤ nspec) (h0 : 0 ≤ qe) (h1 : qe < nspec) :
    0 ≤ fifoNextEnd nspec qe ∧ fifoNextEnd nspec qe < nspec := by
  unfold fifoNextEnd; split <;> omega

theorem fifo_first_in_range (nspec qs : Int) (hn : 1 ≤ nspec) (h0 : 0 ≤ qs) (h1 : qs < nspec) :
    0 ≤ fifoNextStart nspec qs ∧ fifoNextStart nspec qs < nspec := by
  unfold fifoNextStart; split <;> omega

example : fifoNextEnd 1 0 = 0 ∧ fifoNextStart 1 0 = 0 ∧ fifoNextEnd 5 3 = 4 ∧ fifoNextEnd 5 4 = 0 := by decide

theorem countP_disjoint {α} (p q : α → Bool) (hpq : ∀ x, ¬(p x = true ∧ q x = true)) (l : List α) :
    l.countP p + l.countP q ≤ l.length := by
  rw [List.length_eq_countP_add_countP p]
  exact Nat.add_le_add_left (List.countP_mono_left fun x _ hq => by
    cases hp : p x
    · rfl
    · exact absurd ⟨hp, hq⟩ (hpq x)) _

/-- `ptsort`: the slot of pixel `i` (number of pixels of lower level + earlier pixels of the same level) is `< nspec` -/
theorem slot_lt (nspec : Nat) (imi : Nat → Nat) (i : Nat) (hi : i < nspec) : slot nspec imi i < nspec := by
  unfold slot
  obtain ⟨m, rfl⟩ : ∃ m, nspec = i + (m + 1) := ⟨nspec - i - 1, by omega⟩
  rw [← List.countP_eq_length_filter, ← List.countP_eq_length_filter, List.range_add, List.countP_append]
  have h1 := countP_disjoint (fun x => decide (imi x < imi i)) (fun x => imi x == imi i)
    (by intro x ⟨ha, hb⟩; simp at ha hb; omega) (List.range i)
  have h2 : ((List.range (m + 1)).map (i + ·)).countP (fun x => decide (imi x < imi i)) ≤ m := by
    rw [List.range_succ_eq_map, List.map_cons, List.countP_cons]
    have : decide (imi (i + 0) < imi i) = false := by simp
    rw [this]
    have := List.countP_le_length (p := fun x => decide (imi x < imi i)) (l := (List.map Nat.succ (List.range m)).map (i + ·))
    simp at this ⊢
    exact this
  rw [List.length_range] at h1
  omega

/-- distinct pixels get distinct slots (so `ind` is written exactly once per position) -/
theorem slot_inj_same_level (nspec : Nat) (imi : Nat → Nat) (i j : Nat) (hij : i < j) (hl : imi i = imi j) :
    slot nspec imi i < slot nspec imi j := by
  unfold slot
  rw [hl]
  obtain ⟨d, rfl⟩ : ∃ d, j = i + (d + 1) := ⟨j - i - 1, by omega⟩
  rw [List.range_add, List.filter_append, List.length_append, List.range_succ_eq_map, List.map_cons, List.filter_cons]
  have : (imi (i + 0) == imi (i + (d + 1))) = true := by simp [hl]
  rw [this]
  simp only [if_true, List.length_cons]
  omega

/-- `ptsort` writes `ind[iorder[i]]` with `iorder[i] < nspec`; the histogram/prefix loops index `numv`, `iaddr`
    (size `ihmax`) at `imi[i] < ihmax` and at `i+1 ≤ ihmax-1` -/
theorem ptsort_in_bounds (ihmax nspec : Nat) (h : 1 ≤ ihmax) (zmin zmax : Int) (z : Nat → Int) :
    let imi := fun p => levelOf ihmax zmin zmax (z p)
    (∀ i, i < nspec → imi i < ihmax) ∧
    (∀ i, i < ihmax - 1 → i + 1 < ihmax) ∧
    (∀ i, i < nspec → slot nspec imi i < nspec) := by
  intro imi
  exact ⟨fun i _ => levels_in_range ihmax h zmin zmax (z i), fun i hi => by omega, fun i hi => slot_lt nspec imi i hi⟩

end WS.C20
