import WsVerif.Model.Split
import WsVerif.Lemmas.Split
import WsVerif.Gen.IsOverlap
import WsVerif.Gen.BboxDefaults
import WsVerif.Gen.Lits
import WsVerif.Model.Consts
import Mathlib.Tactic.Ring
import Mathlib.Tactic.FieldSimp
/-!
# C09 — threshold, wave-age and box splits assign every bin by the stated rule

All statements are about the model `WS.Split` (which mirrors `Partition.ptm4/ptm5/bbox`,
`SpecArray.split/_interp_freq/stats` as coded) for every grid size, every spectrum and every parameter value.
Methods that start with `sortby("dir")` return their bins in sorted direction order: output column `j` is the
stored column `src dirs j`, and `src` is a bijection of the column indices (`src_perm`).
-/
namespace WS.C09
open WS WS.Split

/-- stored column index of output column `j` after `sortby("dir")` -/
def src (dirs : Vec) (j : Nat) : Nat := (sortIdx dirs).getD j 0

theorem pickV_sortIdx_length (dirs v : Vec) : (pickV (sortIdx dirs) v).length = dirs.length := by
  rw [pickV_length, sortIdx_length]

theorem getR_sorted (dirs v : Vec) (j : Nat) (hj : j < dirs.length) :
    getR (pickV (sortIdx dirs) v) j = getR v (src dirs j) :=
  getR_pickV _ _ j ((sortIdx_length dirs).symm ▸ hj)

theorem get2_sorted (dirs : Vec) (e : Mat) (i j : Nat) (hj : j < dirs.length) :
    get2 (pickCols (sortIdx dirs) e) i j = get2 e i (src dirs j) :=
  get2_pickCols _ _ i j ((sortIdx_length dirs).symm ▸ hj)

/-- entry of `where(mask)` on the spectrum sorted by direction, `ck` being the keys of the sorted columns -/
theorem get2_whereM_sorted (p : Rat → Rat → Bool) (rk ck dirs : Vec) (e : Mat) (i j : Nat)
    (hi : i < rk.length) (hj : j < dirs.length) (hck : ck.length = dirs.length) :
    get2 (whereM p rk ck (pickCols (sortIdx dirs) e)) i j =
      if p (getR rk i) (getR ck j) then get2 e i (src dirs j) else 0 := by
  rw [get2_whereM _ _ _ _ i j hi (hck ▸ hj), get2_sorted dirs e i j hj]

/-- `sortby("dir")` only relabels: the picked column indices are a permutation of all column indices, and the
    picked labels are the stored labels in non-decreasing order -/
theorem src_perm (dirs : Vec) :
    (sortIdx dirs).Perm (List.range dirs.length) ∧ (pickV (sortIdx dirs) dirs).Pairwise (· ≤ ·) ∧
    (pickV (sortIdx dirs) dirs).Perm dirs ∧
    ∀ j, j < dirs.length → getR (pickV (sortIdx dirs) dirs) j = getR dirs (src dirs j) :=
  ⟨sortIdx_perm dirs, sortIdx_sorted dirs, pickV_sortIdx_perm dirs, getR_sorted dirs dirs⟩

theorem src_lt (dirs : Vec) (j : Nat) (hj : j < dirs.length) : src dirs j < dirs.length :=
  mem_of_perm_range (sortIdx_perm dirs) j ((sortIdx_length dirs).symm ▸ hj)

/-! ## PTM4 (wave age) -/

/-- **ptm4_rule**: a bin is in the wind sea exactly when its celerity does not exceed the age factor times the
    wind component along its direction; otherwise it is in the swell; the other partition holds 0 there. -/
theorem ptm4_rule (cel dirs cosT : Vec) (agefac wspd : Rat) (e : Mat) (i j : Nat)
    (hi : i < cel.length) (hj : j < dirs.length) :
    get2 (ptm4 cel dirs cosT agefac wspd e).2.1 i j =
      (if getR cel i ≤ agefac * wspd * getR cosT (src dirs j) then get2 e i (src dirs j) else 0) ∧
    get2 (ptm4 cel dirs cosT agefac wspd e).2.2 i j =
      (if getR cel i ≤ agefac * wspd * getR cosT (src dirs j) then 0 else get2 e i (src dirs j)) := by
  simp only [ptm4]
  rw [get2_whereM_sorted _ _ _ dirs e i j hi hj (pickV_sortIdx_length _ _),
    get2_whereM_sorted _ _ _ dirs e i j hi hj (pickV_sortIdx_length _ _), getR_sorted dirs cosT j hj]
  simp only [seaMask, Bool.not_eq_true', decide_eq_true_eq, decide_eq_false_iff_not, ite_not, and_self]

/-- **ptm4_disjoint**: no bin carries energy in both partitions -/
theorem ptm4_disjoint (cel dirs cosT : Vec) (agefac wspd : Rat) (e : Mat) (i j : Nat)
    (hi : i < cel.length) (hj : j < dirs.length) :
    get2 (ptm4 cel dirs cosT agefac wspd e).2.1 i j = 0 ∨
    get2 (ptm4 cel dirs cosT agefac wspd e).2.2 i j = 0 :=
  (whereM_compl _ _ _ _ i j hi ((pickV_sortIdx_length dirs cosT).symm ▸ hj)).2

/-- **ptm4_sum**: wind sea + swell is the input, bin for bin, exactly -/
theorem ptm4_sum (cel dirs cosT : Vec) (agefac wspd : Rat) (e : Mat) (i j : Nat)
    (hi : i < cel.length) (hj : j < dirs.length) :
    get2 (ptm4 cel dirs cosT agefac wspd e).2.1 i j + get2 (ptm4 cel dirs cosT agefac wspd e).2.2 i j =
      get2 e i (src dirs j) :=
  (whereM_compl _ _ _ _ i j hi ((pickV_sortIdx_length dirs cosT).symm ▸ hj)).1.trans (get2_sorted dirs e i j hj)

/-- the direction coordinate of the result is the sorted stored coordinate -/
theorem ptm4_dirs (cel dirs cosT : Vec) (agefac wspd : Rat) (e : Mat) :
    (ptm4 cel dirs cosT agefac wspd e).1 = pickV (sortIdx dirs) dirs := rfl

-- hypotheses are satisfiable; boundary bin (celerity = wind component) goes to the wind sea
example : (0 : Nat) < [(2 : Rat), 3].length ∧ (1 : Nat) < [(90 : Rat), 0].length := by decide
example : (ptm4 [2, 3] [90, 0] [0, 1] 2 1 [[5, 7], [11, 13]]) = ([0, 90], [[7, 0], [0, 0]], [[0, 5], [13, 11]]) := by
  decide +kernel

/-! ## bounding boxes -/

/-- T-tier bridge: the regenerated `utils.is_overlap` is the model's `overlap` -/
theorem isOverlap_bridge (r1 r2 : Rect) :
    Gen.isOverlap r1.l r1.b r1.r r1.t r2.l r2.b r2.r r2.t = overlap r1 r2 := rfl

/-- **is_overlap_spec**: `is_overlap` holds exactly when the four strict inequalities hold; every pair of
    rectangles with a common interior point is reported; and for non-degenerate rectangles a reported pair
    does have a common interior point (the open rectangles intersect). -/
theorem is_overlap_spec (l1 b1 r1 t1 l2 b2 r2 t2 : Rat) :
    (Gen.isOverlap l1 b1 r1 t1 l2 b2 r2 t2 = true ↔ l2 < r1 ∧ l1 < r2 ∧ b2 < t1 ∧ b1 < t2) ∧
    ((∃ x y, l1 < x ∧ x < r1 ∧ b1 < y ∧ y < t1 ∧ l2 < x ∧ x < r2 ∧ b2 < y ∧ y < t2) →
      Gen.isOverlap l1 b1 r1 t1 l2 b2 r2 t2 = true) ∧
    (l1 < r1 → b1 < t1 → l2 < r2 → b2 < t2 → Gen.isOverlap l1 b1 r1 t1 l2 b2 r2 t2 = true →
      ∃ x y, l1 < x ∧ x < r1 ∧ b1 < y ∧ y < t1 ∧ l2 < x ∧ x < r2 ∧ b2 < y ∧ y < t2) := by
  have key : Gen.isOverlap l1 b1 r1 t1 l2 b2 r2 t2 = true ↔ l2 < r1 ∧ l1 < r2 ∧ b2 < t1 ∧ b1 < t2 :=
    overlap_iff ⟨l1, b1, r1, t1⟩ ⟨l2, b2, r2, t2⟩
  refine ⟨key, ?_, ?_⟩
  · rintro ⟨x, y, h1, h2, h3, h4, h5, h6, h7, h8⟩
    exact key.mpr ⟨h5.trans h2, h1.trans h6, h7.trans h4, h3.trans h8⟩
  · intro n1 n2 n3 n4 h
    obtain ⟨a, b, c, d⟩ := key.mp h
    obtain ⟨x, x1, x2, x3, x4⟩ := exists_common n1 n3 a b
    obtain ⟨y, y1, y2, y3, y4⟩ := exists_common n2 n4 c d
    exact ⟨x, y, x1, x2, y1, y2, x3, x4, y3, y4⟩

theorem bbox_length (f dirs : Vec) (e : Mat) (boxes : List Box) (d : Vec) (parts : List Mat)
    (h : bbox f dirs e boxes = .ok (d, parts)) : parts.length = boxes.length + 1 := by
  rw [(bbox_ok f dirs e boxes d parts h).2.1]
  simp [bboxParts, rectsOf]

/-- **bbox_member**: partition `k` holds exactly the bins with `fmin ≤ f ≤ fmax ∧ dmin ≤ θ ≤ dmax` of box `k`
    (its effective rectangle `r`), unchanged, and `0` everywhere else -/
theorem bbox_member (f dirs : Vec) (e : Mat) (boxes : List Box) (d : Vec) (parts : List Mat)
    (h : bbox f dirs e boxes = .ok (d, parts)) (k : Nat) (r : Rect)
    (hk : (rectsOf f dirs boxes)[k]? = some r) (i j : Nat) (hi : i < f.length) (hj : j < dirs.length) :
    get2 (parts.getD k []) i j =
      if r.l ≤ getR f i ∧ getR f i ≤ r.r ∧ r.b ≤ getR d j ∧ getR d j ≤ r.t then get2 e i (src dirs j) else 0 := by
  obtain ⟨rfl, rfl, _, _⟩ := bbox_ok f dirs e boxes d parts h
  rw [getD_bboxParts_lt _ _ _ _ k r hk, get2_whereM_sorted _ _ _ dirs e i j hi hj (pickV_sortIdx_length _ _)]
  simp only [inRect_iff]

/-- **bbox_complement**: the last partition holds exactly the bins that lie in no box -/
theorem bbox_complement (f dirs : Vec) (e : Mat) (boxes : List Box) (d : Vec) (parts : List Mat)
    (h : bbox f dirs e boxes = .ok (d, parts)) (i j : Nat) (hi : i < f.length) (hj : j < dirs.length) :
    get2 (parts.getD boxes.length []) i j =
      if ∃ r ∈ rectsOf f dirs boxes, r.l ≤ getR f i ∧ getR f i ≤ r.r ∧ r.b ≤ getR d j ∧ getR d j ≤ r.t
      then 0 else get2 e i (src dirs j) := by
  obtain ⟨rfl, rfl, _, _⟩ := bbox_ok f dirs e boxes d parts h
  rw [← rectsOf_length f dirs boxes, getD_bboxParts_last,
    get2_whereM_sorted _ _ _ dirs e i j hi hj (pickV_sortIdx_length _ _)]
  simp only [Bool.not_eq_true', ← Bool.not_eq_true, inAny_iff, ite_not]

/-! ### exact conservation and disjointness for boxes that share no bin -/

/-- the bin `(i, j)` of every partition, as a list over the partitions -/
def binOfParts (parts : List Mat) (i j : Nat) : List Rat := parts.map fun p => get2 p i j

/-- **bbox_sum**: at a bin that lies in at most one box, the partitions (boxes and complement) add up to the
    input bin exactly — so for boxes sharing no bin the partitions sum to the input everywhere -/
theorem bbox_sum (f dirs : Vec) (e : Mat) (boxes : List Box) (d : Vec) (parts : List Mat)
    (h : bbox f dirs e boxes = .ok (d, parts)) (i j : Nat) (hi : i < f.length) (hj : j < dirs.length)
    (hshare : ((rectsOf f dirs boxes).filter fun r => inRect r (getR f i) (getR d j)).length ≤ 1) :
    (binOfParts parts i j).sum = get2 e i (src dirs j) := by
  obtain ⟨rfl, rfl, _, _⟩ := bbox_ok f dirs e boxes d parts h
  have hw := fun p => get2_whereM_sorted p f _ dirs e i j hi hj (pickV_sortIdx_length dirs dirs)
  rw [← sum_shares _ _ (get2 e i (src dirs j)) hshare, binOfParts, bboxParts, List.map_append, List.map_map]
  congr 2
  · exact List.map_congr_left fun r _ => hw (inRect r)
  · rw [List.map_singleton, hw]
    simp only [inAny, Bool.not_eq_true', ← Bool.not_eq_true, ite_not]

/-- **bbox_disjoint**: at a bin that lies in at most one box, two different box partitions cannot both carry
    it, and the complement carries it only if no box does -/
theorem bbox_disjoint (f dirs : Vec) (e : Mat) (boxes : List Box) (d : Vec) (parts : List Mat)
    (h : bbox f dirs e boxes = .ok (d, parts)) (i j : Nat) (hi : i < f.length) (hj : j < dirs.length)
    (hshare : ((rectsOf f dirs boxes).filter fun r => inRect r (getR f i) (getR d j)).length ≤ 1)
    (k1 k2 : Nat) (hk : k1 < k2) (hk2 : k2 ≤ boxes.length) :
    get2 (parts.getD k1 []) i j = 0 ∨ get2 (parts.getD k2 []) i j = 0 := by
  have hlen := rectsOf_length f dirs boxes
  obtain ⟨r1, hr1⟩ : ∃ r, (rectsOf f dirs boxes)[k1]? = some r :=
    ⟨_, List.getElem?_eq_getElem (hlen ▸ lt_of_lt_of_le hk hk2)⟩
  rw [bbox_member f dirs e boxes d parts h k1 r1 hr1 i j hi hj]
  by_cases hin1 : inRect r1 (getR f i) (getR d j) = true
  swap
  · exact Or.inl (if_neg fun hc => hin1 ((inRect_iff _ _ _).mpr hc))
  right
  rcases Nat.lt_or_ge k2 boxes.length with h2lt | h2ge
  · obtain ⟨r2, hr2⟩ : ∃ r, (rectsOf f dirs boxes)[k2]? = some r := ⟨_, List.getElem?_eq_getElem (hlen ▸ h2lt)⟩
    rw [bbox_member f dirs e boxes d parts h k2 r2 hr2 i j hi hj]
    refine if_neg fun hin2 => ?_
    exact absurd (le_trans (two_le_filter (fun r => inRect r (getR f i) (getR d j)) _ k1 k2 r1 r2 hk hr1 hr2
      hin1 ((inRect_iff _ _ _).mpr hin2)) hshare) (by decide)
  · rw [Nat.le_antisymm hk2 h2ge, bbox_complement f dirs e boxes d parts h i j hi hj]
    exact if_pos ⟨r1, List.mem_of_getElem? hr1, (inRect_iff _ _ _).mp hin1⟩

/-! ### rejection of overlapping boxes -/

/-- **overlap_rejected**: if the (effective) rectangles of two different boxes have a common interior point,
    `bbox` raises `ValueError` — whatever the spectrum and the other boxes -/
theorem overlap_rejected (f dirs : Vec) (e : Mat) (boxes : List Box) (a b : Nat) (ra rb : Rect) (hab : a < b)
    (ha : (rectsOf f dirs boxes)[a]? = some ra) (hb : (rectsOf f dirs boxes)[b]? = some rb)
    (hint : ∃ x y, ra.l < x ∧ x < ra.r ∧ ra.b < y ∧ y < ra.t ∧ rb.l < x ∧ x < rb.r ∧ rb.b < y ∧ y < rb.t) :
    bbox f dirs e boxes = .error .valueError := by
  rw [bbox_eq, anyOverlap_of_pair _ a b ra rb hab ha hb
    ((is_overlap_spec ra.l ra.b ra.r ra.t rb.l rb.b rb.r rb.t).2.1 hint), Bool.or_true]
  rfl

/-! ### the defaults of omitted limits -/

/-- T-tier bridge: the literal constants of `Partition.bbox` are none (its defaults are attribute lookups) and
    `SpecArray.split` uses `tol = 1e-10` -/
theorem lits_split : Gen.lits_specarray_split.head? = some splitTol := rfl

/-- T-tier bridge: the fallbacks of the four limits in `Partition.bbox`, regenerated from the source; the
    absent-`dmax` fallback is `dir.max` since fix 0288b02 (`dir.min` in the code as found), which is what
    `dmaxAbsentUsesMin` records -/
theorem bbox_defaults_bridge :
    Gen.bboxDefaults = [("fmin", "freq.min", "freq.min"), ("fmax", "freq.max", "freq.max"),
                        ("dmin", "dir.min", "dir.min"), ("dmax", "dir.max", "dir.max")] ∧
    dmaxAbsentUsesMin = false := ⟨rfl, rfl⟩

/-- the documented behaviour: every limit that is not given is the bound of the spectrum's own axis
    ("Non-specified bounds in each bbox dict are defined from the bounds of the freq / dir bounds in the
    spectrum") — as a statement about the rectangle the code builds, for boxes none of whose limits is the
    number 0 -/
def BboxDocDefaults : Prop :=
  ∀ (fmn fmx dmn dmx : Rat) (bx : Box),
    bx.fmin ≠ .val 0 → bx.fmax ≠ .val 0 → bx.dmin ≠ .val 0 → bx.dmax ≠ .val 0 →
    effRect fmn fmx dmn dmx bx = docRect fmn fmx dmn dmx bx

/-- a limit given as the number `0` is falsy in `bbox.get(key, …) or …` and falls back to the axis bound:
    a box with `dmax = 0` reaches up to the highest direction (recorded finding, independent of the typo) -/
theorem bbox_zero_limit_witness :
    effRect (1/20) (1/4) 0 270 ⟨.omitted, .omitted, .omitted, .val 0⟩ = ⟨1/20, 0, 1/4, 270⟩ ∧
    docRect (1/20) (1/4) 0 270 ⟨.omitted, .omitted, .omitted, .val 0⟩ = ⟨1/20, 0, 1/4, 0⟩ := by
  decide +kernel

/-- **bbox_default_dmax_partial**: the rectangle is the documented one whenever no limit is given as the
    number 0 and — only needed while an absent `dmax` fell back to `dir.min()` — `dmax` is present, or the
    lowest direction is 0°, or there is a single direction -/
theorem bbox_default_dmax_partial (fmn fmx dmn dmx : Rat) (bx : Box)
    (h1 : bx.fmin ≠ .val 0) (h2 : bx.fmax ≠ .val 0) (h3 : bx.dmin ≠ .val 0) (h4 : bx.dmax ≠ .val 0)
    (hd : dmaxAbsentUsesMin = false ∨ bx.dmax ≠ .omitted ∨ dmn = 0 ∨ dmn = dmx) :
    effRect fmn fmx dmn dmx bx = docRect fmn fmx dmn dmx bx := by
  have hd' : bx.dmax ≠ .omitted ∨ (if dmaxAbsentUsesMin then dmn else dmx) = dmx ∨
      (if dmaxAbsentUsesMin then dmn else dmx) = 0 := by
    by_cases hm : dmaxAbsentUsesMin = true
    · rw [if_pos hm]
      rcases hd with hd | hd | hd | hd
      · rw [hm] at hd; cases hd
      · exact Or.inl hd
      · exact Or.inr (Or.inr hd)
      · exact Or.inr (Or.inl hd)
    · rw [if_neg hm]; exact Or.inr (Or.inl rfl)
  simp only [effRect, docRect, limGet_eq_doc _ _ _ h1 (Or.inr (Or.inl rfl)),
    limGet_eq_doc _ _ _ h2 (Or.inr (Or.inl rfl)), limGet_eq_doc _ _ _ h3 (Or.inr (Or.inl rfl)),
    limGet_eq_doc _ _ _ h4 hd']

/-- **bbox_default_dmax_full**: the documented defaults hold for every box none of whose limits is the number 0
    (the absent-`dmax` fallback is `dir.max()` since fix 0288b02) -/
theorem bbox_default_dmax_full : BboxDocDefaults :=
  fun fmn fmx dmn dmx bx h1 h2 h3 h4 => bbox_default_dmax_partial fmn fmx dmn dmx bx h1 h2 h3 h4 (Or.inl rfl)

/-! #### the code as found (before 0288b02): an absent `dmax` fell back to `dir.min()` -/

/-- the rectangle built by the code as found -/
def effRectAsFound (fmn fmx dmn dmx : Rat) (bx : Box) : Rect :=
  { l := bx.fmin.get fmn fmn, b := bx.dmin.get dmn dmn, r := bx.fmax.get fmx fmx, t := bx.dmax.get dmn dmx }

/-- **bbox_default_dmax_fails** (code as found): a box without `dmax` on a grid whose lowest direction is 5°
    got `dmax = 5` instead of `275`, so it kept a single direction -/
theorem bbox_default_dmax_fails :
    ¬ ∀ (fmn fmx dmn dmx : Rat) (bx : Box),
      bx.fmin ≠ .val 0 → bx.fmax ≠ .val 0 → bx.dmin ≠ .val 0 → bx.dmax ≠ .val 0 →
      effRectAsFound fmn fmx dmn dmx bx = docRect fmn fmx dmn dmx bx := by
  intro h
  have := h (1/20) (1/4) 5 275 ⟨.val (3/50), .val (11/100), .omitted, .omitted⟩
    (by decide +kernel) (by decide +kernel) (by decide) (by decide)
  revert this
  decide +kernel

/-- under the same hypotheses for every box, `bbox` works with exactly the documented rectangles, so
    `bbox_member`, `bbox_complement`, `bbox_sum`, `overlap_rejected` then speak about the documented limits -/
theorem bbox_rects_doc_partial (f dirs : Vec) (boxes : List Box)
    (hb : ∀ bx ∈ boxes, bx.fmin ≠ .val 0 ∧ bx.fmax ≠ .val 0 ∧ bx.dmin ≠ .val 0 ∧ bx.dmax ≠ .val 0 ∧
      (dmaxAbsentUsesMin = false ∨ bx.dmax ≠ .omitted ∨ vmin dirs = 0 ∨ vmin dirs = vmax dirs)) :
    rectsOf f dirs boxes = boxes.map (docRect (vmin f) (vmax f) (vmin dirs) (vmax dirs)) := by
  unfold rectsOf
  apply List.map_congr_left
  intro bx hbx
  obtain ⟨h1, h2, h3, h4, hd⟩ := hb bx hbx
  exact bbox_default_dmax_partial _ _ _ _ bx h1 h2 h3 h4 hd

-- the hypotheses of the box theorems are satisfiable (two boxes sharing no bin, one limit omitted)
example :
    (match bbox [1/8, 1/4, 1/2] [0, 90, 180, 270] [[1, 2, 3, 4], [5, 6, 7, 8], [9, 10, 11, 12]]
        [⟨.omitted, .val (1/4), .omitted, .val 90⟩, ⟨.val (3/8), .none, .val 180, .omitted⟩] with
      | .ok (d, ps) => (d, ps)
      | _ => ([], [])) =
    ([0, 90, 180, 270],
     [[[1, 2, 0, 0], [5, 6, 0, 0], [0, 0, 0, 0]], [[0, 0, 0, 0], [0, 0, 0, 0], [0, 0, 11, 12]],
      [[0, 0, 3, 4], [0, 0, 7, 8], [9, 10, 0, 0]]]) := by decide +kernel
-- overlapping boxes are rejected
example : (match bbox [1/8, 1/4, 1/2] [0, 90] [[1, 2], [3, 4], [5, 6]]
    [⟨.omitted, .val (1/4), .omitted, .none⟩, ⟨.val (3/16), .none, .omitted, .none⟩] with
    | .error .valueError => true | _ => false) = true := by decide +kernel

/-! ## band splitting (`SpecArray.split`, `_interp_freq`) -/

/-- the labelled rows of a successful split, before the direction slicing: an optional interpolated row at
    `fmin`, the grid rows inside the band, an optional interpolated row at `fmax` -/
def SplitRows (f : Vec) (e : Mat) (fmin fmax : Option Rat) (interp : Bool) (rows : List (Rat × Vec)) : Prop :=
  ∃ lo hi : List (Rat × Vec),
    rows = lo ++ bandRows f e fmin fmax ++ hi ∧
    (lo = [] ∨ ∃ a r, interp = true ∧ fmin = some a ∧ interpFreq f e a = .ok r ∧ lo = [(a, r)]) ∧
    (hi = [] ∨ ∃ b r, interp = true ∧ fmax = some b ∧ interpFreq f e b = .ok r ∧ hi = [(b, r)])

theorem splitRows_of {tol : Rat} {f : Vec} {e : Mat} {fmin fmax : Option Rat} {interp : Bool}
    {rows1 rows2 : List (Rat × Vec)} (h1 : addLow tol f e fmin interp (bandRows f e fmin fmax) = .ok rows1)
    (h2 : addHigh tol f e fmax interp rows1 = .ok rows2) : SplitRows f e fmin fmax interp rows2 := by
  obtain ⟨lo, rfl, hlo⟩ := addLow_ok _ _ _ _ _ _ _ h1
  obtain ⟨hi, rfl, hhi⟩ := addHigh_ok _ _ _ _ _ _ _ h2
  exact ⟨lo, hi, rfl, hlo, hhi⟩

/-- shape of a successful `split` of a 2-D spectrum -/
theorem split_shape (tol : Rat) (f d : Vec) (e : Mat) (fmin fmax dmin dmax : Option Rat)
    (interp : Bool) (o : SplitOut) (h : split tol f (some d) e fmin fmax dmin dmax interp = .ok o) :
    badOrder fmin fmax = false ∧ badOrder dmin dmax = false ∧
    ∃ rows, SplitRows f e fmin fmax interp rows ∧ o.freq = rows.map (·.1) ∧
      o.cols = dirCols d dmin dmax ∧ o.dirs = some (pickV o.cols d) ∧
      o.e = pickCols o.cols (rows.map (·.2)) := by
  obtain ⟨hb1, hb2, rows1, rows2, h1, h2, hf, hrest⟩ := split_ok h
  exact ⟨hb1, hb2, rows2, splitRows_of h1 h2, hf, hrest⟩

/-- shape of a successful `split` of a 1-D spectrum (no direction dimension) -/
theorem split_shape_1d (tol : Rat) (f : Vec) (e : Mat) (fmin fmax dmin dmax : Option Rat)
    (interp : Bool) (o : SplitOut) (h : split tol f none e fmin fmax dmin dmax interp = .ok o) :
    badOrder fmin fmax = false ∧
    ∃ rows, SplitRows f e fmin fmax interp rows ∧ o.freq = rows.map (·.1) ∧ o.dirs = none ∧
      o.e = rows.map (·.2) := by
  obtain ⟨hb1, _, rows1, rows2, h1, h2, hf, hrest⟩ := split_ok h
  exact ⟨hb1, rows2, splitRows_of h1 h2, hf, hrest⟩

/-- **split_inside_unchanged**: every grid bin inside the band is in the output, unchanged: the grid row `i`
    with `fmin ≤ f_i ≤ fmax` appears as an output row with the same frequency label, and at every kept
    column `c` (all columns when no direction limit is active, else those with `dmin ≤ θ_c ≤ dmax`) it carries
    the input value `E[i][c]` -/
theorem split_inside_unchanged (tol : Rat) (f d : Vec) (e : Mat) (fmin fmax dmin dmax : Option Rat)
    (interp : Bool) (o : SplitOut) (h : split tol f (some d) e fmin fmax dmin dmax interp = .ok o)
    (i : Nat) (hi : i < f.length) (hie : i < e.length) (hin : inBand fmin fmax (getR f i) = true) :
    ∃ i', i' < o.freq.length ∧ getR o.freq i' = getR f i ∧
      (∀ j, j < o.cols.length → get2 o.e i' j = get2 e i (o.cols.getD j 0)) ∧
      (∀ c, c < d.length → ((truthy dmin || truthy dmax) = true → inBand dmin dmax (getR d c) = true) →
        c ∈ o.cols) := by
  obtain ⟨_, _, rows, ⟨lo, hi', rfl, _, _⟩, hf, hc, hd, he⟩ := split_shape _ _ _ _ _ _ _ _ _ _ h
  obtain ⟨i', hlt, heq⟩ := List.getElem_of_mem (List.mem_append_left hi' (List.mem_append_right lo
    ((mem_bandRows f e fmin fmax _).mpr ⟨i, hi, hie, rfl, hin⟩)))
  have hg := (List.getElem_eq_getD (0, [])).symm.trans heq
  refine ⟨i', by rw [hf, List.length_map]; exact hlt, by rw [hf, getR_map_of_lt _ _ (0, []) _ hlt, hg], fun j hj => ?_,
    fun c hc1 hc2 => hc ▸ (mem_dirCols d dmin dmax c).mpr ⟨hc1, hc2⟩⟩
  rw [he, get2_map_snd _ _ _ _ hj, hg]
  rfl

/-- every labelled row of a successful split is a grid row inside the band or the interpolated row at a cut-off -/
theorem SplitRows.kind {f : Vec} {e : Mat} {fmin fmax : Option Rat} {interp : Bool} {rows : List (Rat × Vec)}
    (h : SplitRows f e fmin fmax interp rows) (p : Rat × Vec) (hp : p ∈ rows) :
    (∃ i, i < f.length ∧ i < e.length ∧ p = (getR f i, e.getD i []) ∧ inBand fmin fmax (getR f i) = true) ∨
    (∃ r, interp = true ∧ (fmin = some p.1 ∨ fmax = some p.1) ∧ interpFreq f e p.1 = .ok r ∧ p.2 = r) := by
  obtain ⟨lo, hi, rfl, hlo, hhi⟩ := h
  rcases List.mem_append.mp hp with hp | hp
  · rcases List.mem_append.mp hp with hp | hp
    · rcases hlo with rfl | ⟨a, r, hi1, hi2, hi3, rfl⟩
      · cases hp
      · rw [List.mem_singleton.mp hp]
        exact Or.inr ⟨r, hi1, Or.inl hi2, hi3, rfl⟩
    · exact Or.inl ((mem_bandRows f e fmin fmax p).mp hp)
  · rcases hhi with rfl | ⟨b, r, hi1, hi2, hi3, rfl⟩
    · cases hp
    · rw [List.mem_singleton.mp hp]
      exact Or.inr ⟨r, hi1, Or.inr hi2, hi3, rfl⟩

/-- **split_outside_removed**: nothing outside the band survives: every output frequency label satisfies
    `fmin ≤ x ≤ fmax`, every output row is a grid row inside the band or the interpolated row at a cutoff,
    and every output column `c` is a stored column with `dmin ≤ θ_c ≤ dmax` when a direction limit is active -/
theorem split_outside_removed (tol : Rat) (f d : Vec) (e : Mat) (fmin fmax dmin dmax : Option Rat)
    (interp : Bool) (o : SplitOut) (h : split tol f (some d) e fmin fmax dmin dmax interp = .ok o) :
    (∀ x ∈ o.freq, inBand fmin fmax x = true) ∧
    (∀ i', i' < o.freq.length →
      (∃ i, i < f.length ∧ getR o.freq i' = getR f i ∧ inBand fmin fmax (getR f i) = true ∧
            ∀ j, j < o.cols.length → get2 o.e i' j = get2 e i (o.cols.getD j 0)) ∨
      (∃ r, interp = true ∧ (fmin = some (getR o.freq i') ∨ fmax = some (getR o.freq i')) ∧
            interpFreq f e (getR o.freq i') = .ok r ∧
            ∀ j, j < o.cols.length → get2 o.e i' j = getR r (o.cols.getD j 0))) ∧
    (∀ c ∈ o.cols, c < d.length ∧
      ((truthy dmin || truthy dmax) = true → inBand dmin dmax (getR d c) = true)) := by
  obtain ⟨hb, _, rows, hrows, hf, hc, hd, he⟩ := split_shape _ _ _ _ _ _ _ _ _ _ h
  have hbo : ∀ a b, fmin = some a → fmax = some b → a < b := by
    rintro a b rfl rfl
    simpa [badOrder] using hb
  refine ⟨?_, ?_, fun c hcm => (mem_dirCols d dmin dmax c).mp (hc ▸ hcm)⟩
  · intro x hx
    rw [hf] at hx
    obtain ⟨p, hp, rfl⟩ := List.mem_map.mp hx
    rcases hrows.kind p hp with ⟨i, _, _, rfl, hin⟩ | ⟨r, _, hcut | hcut, _, _⟩
    · exact hin
    · exact (inBand_iff _ _ _).mpr ⟨fun a ha => (Option.some.inj (hcut.symm.trans ha)).ge,
        fun b hb' => (hbo _ _ hcut hb').le⟩
    · exact (inBand_iff _ _ _).mpr ⟨fun a ha => (hbo _ _ ha hcut).le,
        fun b hb' => (Option.some.inj (hcut.symm.trans hb')).le⟩
  · intro i' hi'
    have hlt : i' < rows.length := by rw [hf, List.length_map] at hi'; exact hi'
    have hrow : ∀ j, j < o.cols.length → get2 o.e i' j = getR (rows.getD i' (0, [])).2 (o.cols.getD j 0) :=
      fun j hj => by rw [he, get2_map_snd _ _ _ _ hj]
    rw [hf, getR_map_of_lt _ _ (0, []) _ hlt]
    have hmem : rows.getD i' (0, []) ∈ rows := by
      rw [← List.getElem_eq_getD (h := hlt)]; exact List.getElem_mem hlt
    rcases hrows.kind _ hmem with ⟨i, h1, _, heq, hin⟩ | ⟨r, hi1, hcut, hi3, hr2⟩
    · exact Or.inl ⟨i, h1, by rw [heq], hin, fun j hj => by rw [hrow j hj, heq]; rfl⟩
    · exact Or.inr ⟨r, hi1, hcut, hi3, fun j hj => by rw [hrow j hj, hr2]⟩

/-! ### the interpolated row at a cutoff -/

/-- **`_interp_freq` is linear interpolation between the two neighbouring rows**: when it succeeds there is an
    index `k` with `f[k-1] < x ≤ f[k]` (the grid cell that contains `x`) and every entry of the result is the
    convex combination `lam·E[k-1][j] + (1-lam)·E[k][j]`, `lam = (f[k]-x)/(f[k]-f[k-1]) ∈ [0, 1)` -/
theorem interpFreq_spec (f : Vec) (e : Mat) (x : Rat) (r : Vec) (h : interpFreq f e x = .ok r) :
    ∃ k lam, 0 < k ∧ k < f.length ∧ getR f (k - 1) < x ∧ x ≤ getR f k ∧
      lam = (getR f k - x) / (getR f k - getR f (k - 1)) ∧ 0 ≤ lam ∧ lam < 1 ∧
      ∀ j, j < (e.getD (k - 1) []).length → j < (e.getD k []).length →
        getR r j = lam * getR (e.getD (k - 1) []) j + (1 - lam) * getR (e.getD k []) j := by
  unfold interpFreq at h
  split at h
  · cases h
  rename_i hrange
  simp only [Bool.not_eq_true, Bool.not_eq_false', Bool.and_eq_true, decide_eq_true_eq] at hrange
  simp only at h
  split at h
  · cases h
  rename_i hdf
  injection h with h
  -- `k = 0` would make the code's `df = f[k] - f[k-1]` zero
  have hk0 : 0 < searchsorted f x := Nat.pos_of_ne_zero fun hz => hdf (by rw [hz]; exact sub_self _)
  have hk1 := searchsorted_lt_length f x (by rintro rfl; exact lt_asymm hrange.1 hrange.2) hrange.2
  obtain ⟨h0, h1⟩ := searchsorted_cell f x hk0 hk1
  obtain ⟨a, b, c⟩ := lerpRow_convex _ _ x (e.getD (searchsorted f x - 1) []) (e.getD (searchsorted f x) []) h0 h1
  exact ⟨_, _, hk0, hk1, h0, h1, rfl, a, b, h ▸ c⟩

/-- **split_cut_interpolated**: with `interpolate=True`, a lower cutoff `a` that is not a grid frequency (farther
    than `tol` from every grid frequency) becomes the first output frequency, and its row is the linear
    interpolation of the two neighbouring grid rows (convex combination, see `interpFreq_spec`), at the kept
    columns -/
theorem split_cut_interpolated (tol : Rat) (f d : Vec) (e : Mat) (a : Rat) (fmax dmin dmax : Option Rat)
    (o : SplitOut) (h : split tol f (some d) e (some a) fmax dmin dmax true = .ok o)
    (hoff : ∀ x ∈ f, tol < absR (x - a)) :
    ∃ r, interpFreq f e a = .ok r ∧ o.freq.head? = some a ∧
      ∀ j, j < o.cols.length → get2 o.e 0 j = getR r (o.cols.getD j 0) := by
  obtain ⟨_, _, rows1, rows2, h1, h2, hf, _, _, he⟩ := split_ok h
  obtain ⟨r, hr, rfl⟩ := addLow_adds _ _ _ _ _ _ h1 fun p hp => hoff _ (bandRows_label_mem _ _ _ _ p hp)
  obtain ⟨hi, rfl, _⟩ := addHigh_ok _ _ _ _ _ _ _ h2
  exact ⟨r, hr, by rw [hf]; rfl, fun j hj => by rw [he, get2_map_snd _ _ _ _ hj]; rfl⟩

/-- the same at the upper cutoff (which must also be farther than `tol` from the lower cutoff): it becomes the
    last output frequency with the interpolated row -/
theorem split_cut_interpolated_high (tol : Rat) (f d : Vec) (e : Mat) (b : Rat) (fmin dmin dmax : Option Rat)
    (o : SplitOut) (h : split tol f (some d) e fmin (some b) dmin dmax true = .ok o)
    (hoff : ∀ x ∈ f, tol < absR (x - b)) (hab : ∀ a, fmin = some a → tol < absR (a - b)) :
    ∃ r, interpFreq f e b = .ok r ∧ o.freq.getLast? = some b ∧
      ∀ j, j < o.cols.length → get2 o.e (o.freq.length - 1) j = getR r (o.cols.getD j 0) := by
  obtain ⟨_, _, rows1, rows2, h1, h2, hf, _, _, he⟩ := split_ok h
  obtain ⟨lo, rfl, hlo⟩ := addLow_ok _ _ _ _ _ _ _ h1
  -- the last row before the block is a grid row of the band or, if the band is empty, the row put in at `fmin`
  have hoff1 : ∀ p, (lo ++ bandRows f e fmin (some b)).getLast? = some p → tol < absR (p.1 - b) := by
    intro p hp
    by_cases hband : bandRows f e fmin (some b) = []
    · rw [hband, List.append_nil] at hp
      rcases hlo with rfl | ⟨a, r, _, ha, _, rfl⟩
      · cases hp
      · rw [← Option.some.inj hp]; exact hab a ha
    · rw [List.getLast?_append_of_ne_nil _ hband] at hp
      exact hoff _ (bandRows_label_mem _ _ _ _ p (List.mem_of_getLast? hp))
  obtain ⟨r, hr, rfl⟩ := addHigh_adds _ _ _ _ _ _ h2 hoff1
  refine ⟨r, hr, by rw [hf, List.map_append]; exact List.getLast?_concat .., fun j hj => ?_⟩
  rw [he, get2_map_snd _ _ _ _ hj, hf, List.length_map, List.length_append, List.length_singleton,
    Nat.add_sub_cancel, List.getD_eq_getElem?_getD, List.getElem?_concat_length]
  rfl

/-! ### both cut-offs inside one frequency cell (repaired by 310e6c4) -/

/-- **split_one_cell**: when no grid frequency lies in the band (both cut-offs strictly inside one cell) the
    result consists of exactly the two interpolated rows, labelled `fmin` and `fmax` -/
theorem split_one_cell (tol : Rat) (f d : Vec) (e : Mat) (a b : Rat) (dmin dmax : Option Rat) (ra rb : Vec)
    (hab : tol < absR (a - b)) (hlt : a < b) (hd : badOrder dmin dmax = false)
    (hempty : bandRows f e (some a) (some b) = [])
    (ha : interpFreq f e a = .ok ra) (hb : interpFreq f e b = .ok rb) :
    split tol f (some d) e (some a) (some b) dmin dmax true =
      .ok { freq := [a, b], cols := dirCols d dmin dmax, dirs := some (pickV (dirCols d dmin dmax) d),
            e := pickCols (dirCols d dmin dmax) [ra, rb] } := by
  have hbo : badOrder (some a) (some b) = false := decide_eq_false (not_le.mpr hlt)
  unfold split
  rw [hbo, hd, hempty]
  simp [addLow, addHigh, ha, hb, hab, Except.map]

/-- **split_no_indexError**: `split` never raises `IndexError` when a grid frequency lies in the band, nor —
    since 310e6c4 — when a lower cut-off is given with interpolation on (whatever the band) -/
theorem split_no_indexError (tol : Rat) (f : Vec) (dirs : Option Vec) (e : Mat)
    (fmin fmax dmin dmax : Option Rat) (interp : Bool)
    (hne : bandRows f e fmin fmax ≠ [] ∨ (interp = true ∧ fmin.isSome = true)) :
    split tol f dirs e fmin fmax dmin dmax interp ≠ .error .indexError := by
  -- the only `IndexError` is that of "Interpolate at fmax" on an empty selection, and the rows it is handed are
  -- not empty: "Interpolate at fmin" only adds rows, and adds one to an empty band
  have low : ∀ rows1, addLow tol f e fmin interp (bandRows f e fmin fmax) = .ok rows1 → rows1 ≠ [] := by
    intro rows1 h1
    by_cases hband : bandRows f e fmin fmax = []
    · obtain ⟨hi, hs⟩ := hne.resolve_left (not_not.mpr hband)
      obtain ⟨a, rfl⟩ := Option.isSome_iff_exists.mp hs
      subst hi
      rw [hband] at h1
      obtain ⟨r, _, rfl⟩ := map_eq_ok (show (interpFreq f e a).map (fun r => [(a, r)]) = .ok rows1 from h1)
      exact List.cons_ne_nil _ _
    · obtain ⟨lo, rfl, _⟩ := addLow_ok _ _ _ _ _ _ _ h1
      exact List.append_ne_nil_of_right_ne_nil _ hband
  unfold split
  split
  · intro hc; cases hc
  split
  · intro hc; cases hc
  split
  · rename_i er h1
    rintro ⟨⟩
    rcases addLow_cases tol f e fmin interp (bandRows f e fmin fmax) with h0 | ⟨a, _, _, h0⟩
    · rw [h0] at h1; cases h1
    · exact interpFreq_ne_indexError f e a (map_eq_error (h0 ▸ h1))
  rename_i rows1 h1
  split
  · rename_i er h2
    rintro ⟨⟩
    rcases addHigh_cases tol f e fmax interp rows1 with h0 | ⟨hnil, _⟩ | ⟨b, _, _, h0⟩
    · rw [h0] at h2; cases h2
    · exact low rows1 h1 hnil
    · exact interpFreq_ne_indexError f e b (map_eq_error (h0 ▸ h2))
  · split <;> (intro hc; cases hc)

/-! ### statistics with limits -/

/-- **stats_split_eq**: a statistic called through `stats(..., fmin, fmax, dmin, dmax)` is that statistic of the
    explicitly split spectrum whenever some limit is truthy, and of the untouched spectrum otherwise -/
theorem stats_split_eq {α : Type} (g : SplitOut → α) (tol : Rat) (f : Vec) (dirs : Option Vec) (e : Mat)
    (fmin fmax dmin dmax : Option Rat) :
    (anyTruthy fmin fmax dmin dmax = true →
      statsBand g tol f dirs e fmin fmax dmin dmax = (split tol f dirs e fmin fmax dmin dmax true).map g) ∧
    (anyTruthy fmin fmax dmin dmax = false →
      statsBand g tol f dirs e fmin fmax dmin dmax =
        .ok (g { freq := f, cols := List.range ((dirs.getD [0]).length), dirs := dirs, e := e })) := by
  unfold statsBand statsInput
  constructor
  · intro h; rw [if_pos h]
  · intro h; rw [if_neg (by simp [h])]; rfl

/-! ## PTM5 (frequency cut-off) -/

/-- the single factor of `ptm5`: the `maintain_m0` scale of `regrid_spec` when the cut-off was inserted
    (`0` standing for the NaN of an all-zero spectrum, which `fillna(0.0)` turns into zeros), `1` otherwise -/
def ptm5K (thr q : Rat) (f dirs : Vec) (e : Mat) (fcut : Rat) (interp : Bool) : Rat :=
  match ptm5Factor thr q f dirs e fcut interp with
  | some k => k
  | none => 0

/-- `ptm5` = masks applied to `k ·` (the regridded / sorted spectrum `ptm5Base`) -/
theorem ptm5_eq (thr q : Rat) (f dirs : Vec) (e : Mat) (fcut : Rat) (interp : Bool) :
    ptm5 thr q f dirs e fcut interp =
      ((ptm5Base f dirs e fcut interp).1, (ptm5Base f dirs e fcut interp).2.1,
       whereM (fun x (_ : Rat) => decide (fcut ≤ x)) (ptm5Base f dirs e fcut interp).1
         (ptm5Base f dirs e fcut interp).2.1
         (scaleM (ptm5K thr q f dirs e fcut interp) (ptm5Base f dirs e fcut interp).2.2.1),
       whereM (fun x (_ : Rat) => decide (x ≤ fcut)) (ptm5Base f dirs e fcut interp).1
         (ptm5Base f dirs e fcut interp).2.1
         (scaleM (ptm5K thr q f dirs e fcut interp) (ptm5Base f dirs e fcut interp).2.2.1)) := by
  unfold ptm5 ptm5K
  cases ptm5Factor thr q f dirs e fcut interp <;> rfl

/-- **ptm5_zero_beyond**: the sea partition is zero strictly below the cut-off, the swell partition strictly
    above it -/
theorem ptm5_zero_beyond (thr q : Rat) (f dirs : Vec) (e : Mat) (fcut : Rat) (interp : Bool) (i j : Nat)
    (hi : i < (ptm5 thr q f dirs e fcut interp).1.length)
    (hj : j < (ptm5 thr q f dirs e fcut interp).2.1.length) :
    (getR (ptm5 thr q f dirs e fcut interp).1 i < fcut →
      get2 (ptm5 thr q f dirs e fcut interp).2.2.1 i j = 0) ∧
    (fcut < getR (ptm5 thr q f dirs e fcut interp).1 i →
      get2 (ptm5 thr q f dirs e fcut interp).2.2.2 i j = 0) := by
  rw [ptm5_eq] at hi hj ⊢
  simp only [get2_whereM _ _ _ _ i j hi hj, decide_eq_true_eq]
  exact ⟨fun h => if_neg (not_le.mpr h), fun h => if_neg (not_le.mpr h)⟩

/-- **ptm5_single_factor**: on its side of the cut-off (cut-off row included) each partition equals `k ·` the
    input — more precisely `k ·` the base spectrum: the input itself (sorted by direction) when the cut-off is a
    grid frequency, else the input with the linearly interpolated row inserted at the cut-off — with one and
    the same `k` for every bin of both partitions, and `k = 1` when nothing was inserted -/
theorem ptm5_single_factor (thr q : Rat) (f dirs : Vec) (e : Mat) (fcut : Rat) (interp : Bool) :
    ∃ k : Rat, ((ptm5Base f dirs e fcut interp).2.2.2 = false → k = 1) ∧
      ∀ i j, i < (ptm5 thr q f dirs e fcut interp).1.length →
        j < (ptm5 thr q f dirs e fcut interp).2.1.length →
        (fcut ≤ getR (ptm5 thr q f dirs e fcut interp).1 i →
          get2 (ptm5 thr q f dirs e fcut interp).2.2.1 i j =
            k * get2 (ptm5Base f dirs e fcut interp).2.2.1 i j) ∧
        (getR (ptm5 thr q f dirs e fcut interp).1 i ≤ fcut →
          get2 (ptm5 thr q f dirs e fcut interp).2.2.2 i j =
            k * get2 (ptm5Base f dirs e fcut interp).2.2.1 i j) := by
  refine ⟨ptm5K thr q f dirs e fcut interp, fun hrg => ?_, fun i j hi hj => ?_⟩
  · unfold ptm5K ptm5Factor
    simp only [hrg]
    rfl
  · rw [ptm5_eq] at hi hj ⊢
    simp only [get2_whereM _ _ _ _ i j hi hj, decide_eq_true_eq, ← get2_scaleM]
    exact ⟨fun h => if_pos h, fun h => if_pos h⟩

/-- on a grid frequency (or with `interpolate=False`) nothing is inserted: the base is the input sorted by
    direction, so `ptm5` keeps the input bins unchanged on each side (`k = 1`) -/
theorem ptm5_on_grid (f dirs : Vec) (e : Mat) (fcut : Rat) (interp : Bool)
    (h : fcut ∈ f ∨ interp = false) :
    ptm5Base f dirs e fcut interp = (f, pickV (sortIdx dirs) dirs, pickCols (sortIdx dirs) e, false) := by
  unfold ptm5Base
  have : (interp && !(f.contains fcut)) = false := by
    rcases h with h | h <;> simp [h]
  rw [this]; rfl

/-- off the grid the cut-off is inserted in order, every grid row is kept as it is, and the new row is
    `interpAt` -/
theorem ptm5_off_grid (f dirs : Vec) (e : Mat) (fcut : Rat) (h : fcut ∉ f) :
    ptm5Base f dirs e fcut true =
      (f.take (searchsorted f fcut) ++ fcut :: f.drop (searchsorted f fcut), dirs,
       e.take (searchsorted f fcut) ++ interpAt f e fcut :: e.drop (searchsorted f fcut), true) := by
  unfold ptm5Base
  simp [h]

/-- the inserted row is the linear interpolation between the two grid rows that enclose the cut-off -/
theorem interpAt_spec (f : Vec) (e : Mat) (x : Rat) (h0 : getR f 0 < x) (h1 : x < vmax f) :
    ∃ k lam, 0 < k ∧ k < f.length ∧ getR f (k - 1) < x ∧ x ≤ getR f k ∧
      lam = (getR f k - x) / (getR f k - getR f (k - 1)) ∧ 0 ≤ lam ∧ lam < 1 ∧
      ∀ j, j < (e.getD (k - 1) []).length → j < (e.getD k []).length →
        getR (interpAt f e x) j = lam * getR (e.getD (k - 1) []) j + (1 - lam) * getR (e.getD k []) j := by
  have hk1 := searchsorted_lt_length f x (by rintro rfl; exact lt_asymm h0 h1) h1
  have hk0 : 0 < searchsorted f x := Nat.pos_of_ne_zero fun hz =>
    not_le.mpr h0 (hz ▸ ge_at_searchsorted f x hk1)
  obtain ⟨hx0, hx1⟩ := searchsorted_cell f x hk0 hk1
  obtain ⟨a, b, c⟩ := lerpRow_convex _ _ x (e.getD (searchsorted f x - 1) []) (e.getD (searchsorted f x) []) hx0 hx1
  refine ⟨_, _, hk0, hk1, hx0, hx1, rfl, a, b, ?_⟩
  rwa [interpAt, if_neg hk0.ne', if_neg (not_le.mpr hk1), if_neg (sub_pos.mpr (lt_of_lt_of_le hx0 hx1)).ne']

/-- **the factor is the variance-preserving one**: when the cut-off was inserted and the regridded spectrum has
    energy, `k = hs(in)²/hs(out)²` and the scaled spectrum has exactly the variance of the input -/
theorem ptm5_factor_preserves_variance (thr q : Rat) (f dirs : Vec) (e : Mat) (fcut : Rat) (h : fcut ∉ f)
    (hE : hsOf thr q (ptm5Base f dirs e fcut true).1 dirs (ptm5Base f dirs e fcut true).2.2.1 ≠ 0) :
    ptm5K thr q f dirs e fcut true =
      hsOf thr q f dirs e / hsOf thr q (ptm5Base f dirs e fcut true).1 dirs (ptm5Base f dirs e fcut true).2.2.1 ∧
    hsOf thr q (ptm5Base f dirs e fcut true).1 dirs
      (scaleM (ptm5K thr q f dirs e fcut true) (ptm5Base f dirs e fcut true).2.2.1) = hsOf thr q f dirs e := by
  have hk : ptm5K thr q f dirs e fcut true =
      hsOf thr q f dirs e / hsOf thr q (ptm5Base f dirs e fcut true).1 dirs (ptm5Base f dirs e fcut true).2.2.1 := by
    unfold ptm5K ptm5Factor
    rw [ptm5_off_grid f dirs e fcut h] at hE ⊢
    simp only at hE ⊢
    simp [divOpt, hE]
  refine ⟨hk, ?_⟩
  rw [hsOf_scaleM, hk]
  field_simp

-- the hypotheses are satisfiable: a cut-off between two grid frequencies of a spectrum with energy
example : (3/16 : Rat) ∉ [(1/8 : Rat), 1/4, 1/2] ∧
    hsOf Consts.thr Consts.quarter (ptm5Base [1/8, 1/4, 1/2] [0, 90] [[1, 2], [3, 4], [5, 6]] (3/16) true).1 [0, 90]
      (ptm5Base [1/8, 1/4, 1/2] [0, 90] [[1, 2], [3, 4], [5, 6]] (3/16) true).2.2.1 ≠ 0 := by decide +kernel
example : ptm5 Consts.thr Consts.quarter [1/8, 1/4, 1/2] [90, 0] [[1, 2], [3, 4], [5, 6]] (1/4) true =
    ([1/8, 1/4, 1/2], [0, 90], [[0, 0], [4, 3], [6, 5]], [[2, 1], [4, 3], [0, 0]]) := by decide +kernel
example : getR [(1/8 : Rat), 1/4, 1/2] 0 < 3/16 ∧ (3/16 : Rat) < vmax [1/8, 1/4, 1/2] := by decide +kernel

/-! ## the hypotheses of the theorems above are satisfiable (non-vacuity) -/

/-- a 4×3 spectrum stored with directions `90, 0, 180` -/
def fX : Vec := [1/8, 1/4, 1/2, 1]
def dX : Vec := [90, 0, 180]
def eX : Mat := [[1, 2, 3], [4, 5, 6], [7, 8, 9], [10, 11, 12]]

-- a successful split with both cut-offs off the grid, a direction limit, interpolation on: split_shape,
-- split_inside_unchanged, split_outside_removed, split_cut_interpolated(_high), interpFreq_spec
example : (match split splitTol fX (some dX) eX (some (3/16)) (some (3/4)) (some 0) (some 100) true with
    | .ok o => (o.freq, o.cols, o.dirs, o.e)
    | .error _ => ([], [], none, [])) =
    ([3/16, 1/4, 1/2, 3/4], [1, 0], some [0, 90], [[7/2, 5/2], [5, 4], [8, 7], [19/2, 17/2]]) := by
  decide +kernel
example : (∀ x ∈ fX, splitTol < absR (x - 3/16)) ∧ (∀ x ∈ fX, splitTol < absR (x - 3/4)) ∧
    splitTol < absR (3/16 - 3/4) := by decide +kernel
example : (match interpFreq fX eX (3/16) with | .ok r => r | .error _ => []) = [5/2, 7/2, 9/2] := by
  decide +kernel
example : (1 : Nat) < fX.length ∧ (1 : Nat) < eX.length ∧ inBand (some (3/16)) (some (3/4)) (getR fX 1) = true := by
  decide +kernel
-- split_one_cell / split_no_indexError: a band inside the cell (1/8, 1/4)
example : bandRows fX eX (some (3/16)) (some (3/4)) ≠ [] ∧ bandRows fX eX (some (3/16)) (some (7/32)) = [] ∧
    splitTol < absR (3/16 - 7/32) := by decide +kernel
example : (match split splitTol fX (some dX) eX (some (3/16)) (some (7/32)) none none true with
    | .ok o => (o.freq, o.e) | .error _ => ([], [])) = ([3/16, 7/32], [[5/2, 7/2, 9/2], [13/4, 17/4, 21/4]]) := by
  decide +kernel
-- 1-D split (split_shape_1d)
example : (match split splitTol [1/8, 1/4, 1/2] none [[1], [4], [7]] (some (1/4)) none none none true with
    | .ok o => (o.freq, o.e) | .error _ => ([], [])) = ([1/4, 1/2], [[4], [7]]) := by decide +kernel
-- bbox: member/complement/sum/disjoint (the two-box example above succeeds); every bin of that example lies in at
-- most one box
example : ∀ i ∈ [0, 1, 2], ∀ j ∈ [0, 1, 2, 3],
    ((rectsOf [1/8, 1/4, 1/2] [0, 90, 180, 270]
        [⟨.omitted, .val (1/4), .omitted, .val 90⟩, ⟨.val (3/8), .none, .val 180, .omitted⟩]).filter
      fun r => inRect r (getR [1/8, 1/4, 1/2] i) (getR [0, 90, 180, 270] j)).length ≤ 1 := by decide +kernel
-- overlap_rejected: a common interior point of two effective rectangles
example : ∃ x y : Rat, (1/8 : Rat) < x ∧ x < 1/4 ∧ (0 : Rat) < y ∧ y < 90 ∧ (3/16 : Rat) < x ∧ x < 1/2 ∧ (0 : Rat) < y ∧ y < 90 :=
  ⟨7/32, 45, by decide +kernel⟩
-- is_overlap_spec: non-degenerate rectangles
example : Gen.isOverlap 0 0 2 2 1 1 3 3 = true ∧ Gen.isOverlap 0 0 1 1 1 0 2 1 = false := by decide +kernel
-- bbox_default_dmax_partial
example : (⟨.omitted, .val (1/4), .none, .val 90⟩ : Box).dmax ≠ .omitted ∧
    (⟨.omitted, .val (1/4), .none, .val 90⟩ : Box).fmax ≠ .val 0 := by decide +kernel
-- ptm5_on_grid / ptm5_off_grid
example : (1/4 : Rat) ∈ [(1/8 : Rat), 1/4, 1/2] := by decide +kernel
-- stats_split_eq
example : anyTruthy (some (1/4)) none none none = true ∧ anyTruthy none none none (some 0) = false := by decide +kernel

end WS.C09
