import WsVerif.Model.Regrid
import WsVerif.Lemmas.Regrid
import WsVerif.Props.C10
import WsVerif.Gen.Lits
/-!
# C08 — regridding is exact on grid nodes, conserves variance and respects the circle

Property theorems on the model `WS.Regrid` of `core.utils.regrid_spec` / `SpecArray.interp`, `interp_like`,
`rotate`.  Every statement holds for every number of frequencies and directions, every spectrum, every target
grid.  `none` entries of the output stand for NaN/inf of the implementation.
-/
namespace WS.C08
open WS WS.Stats WS.Regrid

/-- every row of the matrix has `n` entries -/
def Rect (e : Mat) (n : Nat) : Prop := ∀ r ∈ e, r.length = n

/-- non-negative spectrum -/
def MatNonneg (e : Mat) : Prop := ∀ r ∈ e, ∀ v ∈ r, 0 ≤ v

theorem getD_of_lt {α : Type} (l : List α) (i : Nat) (h : i < l.length) (d : α) : l.getD i d = l[i] := by
  rw [List.getD_eq_getElem?_getD, List.getElem?_eq_getElem h]; rfl

theorem getD_map_of_lt {α β : Type} (g : α → β) (l : List α) (i : Nat) (h : i < l.length) (d : β) :
    (l.map g).getD i d = g l[i] := by
  rw [getD_of_lt _ _ (by rwa [List.length_map]), List.getElem_map]

/-! ## A. the interpolant: exact on nodes, convex in between -/

/-- **interp_node** — on strictly increasing nodes (at least two) the interpolant at a node is the node value,
    whatever the values are -/
theorem interp_node (xs ys : Vec) (hs : xs.Pairwise (· < ·)) (hn : 2 ≤ xs.length) (k : Nat)
    (hk : k < xs.length) :
    (locate xs (getR xs k)).isSeg = true ∧ applyLoc ys (locate xs (getR xs k)) = getR ys k := by
  cases k with
  | zero => rw [locate_node_zero xs hs hn]; exact ⟨rfl, lerpT_zero _ _⟩
  | succ k => rw [locate_node_succ xs hs k hk]; exact ⟨rfl, lerpT_one _ _⟩

/-- every node of a strictly increasing axis is located in a segment -/
theorem locate_mem_isSeg (xs : Vec) (hs : xs.Pairwise (· < ·)) (hn : 2 ≤ xs.length) :
    ∀ l ∈ xs.map (locate xs), l.isSeg = true := by
  intro l hl
  obtain ⟨x, hx, rfl⟩ := List.mem_map.mp hl
  obtain ⟨k, hk, rfl⟩ := List.getElem_of_mem hx
  rw [← getR_eq_getElem xs k hk]
  exact (interp_node xs [] hs hn k hk).1

/-- **interp_convex** — whenever a target is located in a segment, it lies between the segment's two (distinct) nodes
    and the value is the convex combination of exactly those two node values with the linear weight -/
theorem interp_convex (xs ys : Vec) (x : ℚ) (j : Nat) (t : ℚ) (h : locate xs x = .seg j t) :
    j + 1 < xs.length ∧ 0 ≤ t ∧ t ≤ 1 ∧ x = (1 - t) * getR xs j + t * getR xs (j + 1) ∧
      applyLoc ys (locate xs x) = (1 - t) * getR ys j + t * getR ys (j + 1) := by
  obtain ⟨h0, h1, h2, h3, h4⟩ := locate_seg xs x j t h
  obtain ⟨w0, w1⟩ := locate_seg_weight xs x j t h
  refine ⟨h0, w0, w1, ?_, ?_⟩
  · rw [show (1 - t) * getR xs j + t * getR xs (j + 1) = getR xs j + t * (getR xs (j + 1) - getR xs j) by ring, h4,
      div_mul_cancel₀ _ (ne_of_gt (sub_pos.mpr h3)), add_sub_cancel]
  · rw [h]; exact lerpT_convex _ _ _

theorem applyLoc_nonneg (xs ys : Vec) (x : ℚ) (hy : ∀ y ∈ ys, 0 ≤ y) : 0 ≤ applyLoc ys (locate xs x) := by
  cases h : locate xs x with
  | out => exact le_refl _
  | nan => exact le_refl _
  | seg j t =>
    obtain ⟨w0, w1⟩ := locate_seg_weight xs x j t h
    exact lerpT_nonneg _ _ _ (getR_forall ys le_rfl hy j) (getR_forall ys le_rfl hy (j + 1)) w0 w1

/-! ## B. non-negativity of the regridded spectrum -/

theorem dirStage_nonneg (d : Vec) (e : Mat) (td : Vec) (he : MatNonneg e) : MatNonneg (dirStage d e td).vals := by
  simp only [MatNonneg, dirStage, List.forall_mem_map]
  intro r hr θ _
  have hr' : ∀ y ∈ ((dirNodes d).map (·.2)).map (getR r), 0 ≤ y :=
    List.forall_mem_map.mpr fun i _ => getR_forall r le_rfl (he r hr) i
  refine applyLoc_nonneg _ _ _ fun y hy => ?_
  rcases mem_wrap _ _ _ _ _ y hy with rfl | hy | rfl
  · exact lastD_forall _ le_rfl hr'
  · exact hr' y hy
  · rw [headD_eq_getR]; exact getR_forall _ le_rfl hr' _

theorem applyLocV_nonneg (nd : Nat) (fs : Vec) (rows : Mat) (x : ℚ) (h : MatNonneg rows) :
    ∀ v ∈ applyLocV nd rows (locate fs x), 0 ≤ v := by
  have hrow : ∀ j, ∀ v ∈ rows.getD j [], 0 ≤ v := fun j v hv => by
    rcases getD_mem_or rows j [] with h0 | hm
    · rw [h0] at hv; cases hv
    · exact h _ hm v hv
  cases hl : locate fs x with
  | seg j t =>
    obtain ⟨w0, w1⟩ := locate_seg_weight fs x j t hl
    exact forall_mem_zipWith fun a ha b hb => lerpT_nonneg a b t (hrow j a ha) (hrow (j + 1) b hb) w0 w1
  | _ => exact List.forall_mem_replicate.mpr (Or.inr (le_refl _))

/-- the sorted `(frequency, row)` nodes of the frequency interpolation: the source rows, and the zero row at `f = 0` -/
theorem mem_freqNodes (f : Vec) (e : Mat) (lo : Bool) (nd : Nat) (p : ℚ × Vec)
    (h : p ∈ sortK ((if lo then [((0 : ℚ), List.replicate nd (0 : ℚ))] else []) ++ f.zip e)) :
    p = (0, List.replicate nd 0) ∨ p.1 ∈ f ∧ p.2 ∈ e := by
  rw [mem_sortK, List.mem_append] at h
  rcases h with h | h
  · cases lo
    · cases h
    · exact Or.inl (List.mem_singleton.mp h)
  · exact Or.inr (List.of_mem_zip h)

theorem freqStage_nonneg (f : Vec) (e : Mat) (tf : Vec) (he : MatNonneg e) : MatNonneg (freqStage f e tf).vals := by
  simp only [MatNonneg, freqStage, List.forall_mem_map]
  intro x _
  refine applyLocV_nonneg _ _ _ x (List.forall_mem_map.mpr fun p hp => ?_)
  rcases mem_freqNodes f e _ _ p hp with rfl | ⟨_, hp⟩
  · exact List.forall_mem_replicate.mpr (Or.inr (le_refl _))
  · exact he _ hp

theorem coreOk_nonneg (f : Vec) (d : Option Vec) (e : Mat) (tf td : Option Vec) (he : MatNonneg e) :
    MatNonneg (coreOk f d e tf td).vals := by
  have h1 : MatNonneg (dirPart d e td).2.1 := by
    cases d <;> cases td <;> first | exact he | exact dirStage_nonneg _ _ _ he
  cases tf with
  | none => exact h1
  | some t => exact freqStage_nonneg _ _ _ h1

theorem scaleOf_some (a b : ℚ) (ok : Bool) (k : ℚ) (h : scaleOf a b ok = some k) :
    ok = true ∧ 0 ≤ a ∧ 0 < b ∧ k = a / b := by
  unfold scaleOf at h
  split at h
  · rename_i hc
    simp only [Bool.and_eq_true, decide_eq_true_eq] at hc
    injection h with h
    exact ⟨hc.1.1, hc.1.2, hc.2, h.symm⟩
  · cases h

theorem scaleOf_pos (a b : ℚ) (ha : 0 ≤ a) (hb : 0 < b) : scaleOf a b true = some (a / b) := by
  simp [scaleOf, ha, hb]

theorem maskEntry_some (row : Loc) (ok : Bool) (v w : ℚ) (h : maskEntry row ok v = some w) : w = v := by
  cases row <;> cases ok <;> first | cases h; rfl | cases h

theorem finish_false (c : Core) (s : Option ℚ) :
    finish c false s = List.zipWith (fun row r => List.zipWith (maskEntry row) c.colOK r) c.rowSt c.vals := rfl

/-- with `maintain_m0` every value is multiplied by the factor, NaN when the factor is -/
theorem finish_true (c : Core) (s : Option ℚ) :
    finish c true s = c.vals.map fun r => r.map fun v => s.map (· * v) := by cases s <;> rfl

theorem finish_nonneg (c : Core) (m0 : Bool) (s : Option ℚ) (hs : ∀ k, s = some k → 0 ≤ k) (hc : MatNonneg c.vals) :
    ∀ r ∈ finish c m0 s, ∀ x ∈ r, ∀ v, x = some v → 0 ≤ v := by
  cases m0 with
  | false =>
    refine forall_mem_zipWith fun row _ r hr => forall_mem_zipWith fun ok _ w hw v hv => ?_
    rw [maskEntry_some row ok w v hv]; exact hc r hr w hw
  | true =>
    simp only [finish_true, List.forall_mem_map]
    intro r hr w hw v hv
    cases s with
    | none => cases hv
    | some k => injection hv with hv; rw [← hv]; exact mul_nonneg (hs k rfl) (hc r hr w hw)

/-! ### what `regrid` returns -/

theorem core_ok (f : Vec) (d : Option Vec) (e : Mat) (tf td : Option Vec) (c : Core)
    (h : core f d e tf td = .ok c) : c = coreOk f d e tf td := by
  cases d <;> cases td <;> first | cases h; rfl | cases h

/-- `core` only fails when a target `dir` is requested for a spectrum without directions -/
theorem core_eq_ok (f : Vec) (d : Option Vec) (e : Mat) (tf td : Option Vec) (h : d = none → td = none) :
    core f d e tf td = .ok (coreOk f d e tf td) := by
  cases d <;> cases td <;> first | rfl | cases h rfl

theorem regrid_of_core (thr q : ℚ) (f : Vec) (d : Option Vec) (e : Mat) (tf td : Option Vec) (m0 : Bool) (c : Core)
    (hc : core f d e tf td = .ok c) :
    regrid thr q f d e tf td m0 =
      .ok { freq := c.freq, dir := c.dir,
            e := finish c m0 (scaleOf (hsOf thr q f d e) (hsOf thr q c.freq c.dir c.vals) c.allOK) } := by
  unfold regrid; rw [hc]

theorem regrid_ok (thr q : ℚ) (f : Vec) (d : Option Vec) (e : Mat) (tf td : Option Vec) (m0 : Bool) (o : Out)
    (h : regrid thr q f d e tf td m0 = .ok o) :
    ∃ c, core f d e tf td = .ok c ∧ c = coreOk f d e tf td ∧
      o = { freq := c.freq, dir := c.dir,
            e := finish c m0 (scaleOf (hsOf thr q f d e) (hsOf thr q c.freq c.dir c.vals) c.allOK) } := by
  cases hc : core f d e tf td with
  | error er => unfold regrid at h; rw [hc] at h; cases h
  | ok c =>
    rw [regrid_of_core thr q f d e tf td m0 c hc] at h
    injection h with h
    exact ⟨c, rfl, core_ok f d e tf td c hc, h.symm⟩

/-- **regrid_nonneg** — every finite entry of the regridded spectrum is non-negative when the input is, for every
    source grid (sorted or not, with duplicates or not), every target grid and both settings of `maintain_m0` -/
theorem regrid_nonneg (thr q : ℚ) (f : Vec) (d : Option Vec) (e : Mat) (tf td : Option Vec) (m0 : Bool) (o : Out)
    (he : MatNonneg e) (h : regrid thr q f d e tf td m0 = .ok o) :
    ∀ r ∈ o.e, ∀ x ∈ r, ∀ v, x = some v → 0 ≤ v := by
  obtain ⟨c, _, rfl, rfl⟩ := regrid_ok thr q f d e tf td m0 o h
  refine finish_nonneg _ m0 _ (fun k hk => ?_) (coreOk_nonneg f d e tf td he)
  obtain ⟨_, h1, h2, rfl⟩ := scaleOf_some _ _ _ k hk
  exact div_nonneg h1 (le_of_lt h2)

/-! ## C. requested coordinates -/

/-- **coords_exact** — the output coordinates are the requested ones, in the requested order (the source's own where
    nothing was requested), and there is one output row per requested frequency -/
theorem coords_exact (thr q : ℚ) (f : Vec) (d : Option Vec) (e : Mat) (tf td : Option Vec) (m0 : Bool) (o : Out)
    (h : regrid thr q f d e tf td m0 = .ok o) :
    o.freq = tf.getD f ∧ o.dir = (match td with | some t => some t | none => d) ∧
      (∀ t, tf = some t → o.e.length = t.length) := by
  obtain ⟨c, hc, rfl, rfl⟩ := regrid_ok thr q f d e tf td m0 o h
  refine ⟨?_, ?_, ?_⟩
  · cases tf <;> rfl
  · cases d <;> cases td <;> first | rfl | cases hc
  · rintro t rfl
    cases m0
    · simp [finish_false, coreOk, freqPart, freqStage]
    · simp [finish_true, coreOk, freqPart, freqStage]

/-! ## D. variance conservation -/

theorem specS_smul (d : Option Vec) (k : ℚ) (e : Mat) : specS d (C10.scaleM k e) = scaleV k (specS d e) := by
  cases d with
  | some dv => exact C10.oned_smul _ k e
  | none =>
    unfold specS C10.scaleM scaleV
    simp only [List.map_map]
    apply List.map_congr_left
    intro r _
    cases r <;> simp

theorem hsOf_smul (thr q : ℚ) (f : Vec) (d : Option Vec) (k : ℚ) (e : Mat) :
    hsOf thr q f d (C10.scaleM k e) = k * hsOf thr q f d e := by
  unfold hsOf
  rw [specS_smul, C10.hsE_smul]

theorem finish_scaled (c : Core) (k : ℚ) : finish c true (some k) = (C10.scaleM k c.vals).map (·.map some) := by
  simp [finish, C10.scaleM, scaleV, List.map_map, Function.comp_def]

/-- **m0_exact** — with `maintain_m0` the result is finite exactly when the factor is (no NaN entry, `hs(in)` real,
    `hs(out) ≠ 0`), and then its `hs` radicand on the OUTPUT grid (own `df`, own `dd`, own tail rule) equals the
    radicand of the source on the SOURCE grid: `Hs` is reproduced exactly, per spectrum -/
theorem m0_exact (thr q : ℚ) (f : Vec) (d : Option Vec) (e : Mat) (tf td : Option Vec) (o : Out) (c : Core)
    (h : regrid thr q f d e tf td true = .ok o) (hc : core f d e tf td = .ok c)
    (hok : c.allOK = true) (hin : 0 ≤ hsOf thr q f d e) (hout : 0 < hsOf thr q c.freq c.dir c.vals) :
    ∃ vals : Mat, o.e = vals.map (·.map some) ∧ hsOf thr q o.freq o.dir vals = hsOf thr q f d e := by
  rw [regrid_of_core thr q f d e tf td true c hc, hok, scaleOf_pos _ _ hin hout] at h
  injection h with h
  subst h
  exact ⟨_, finish_scaled _ _, by rw [hsOf_smul]; exact div_mul_cancel₀ _ (ne_of_gt hout)⟩

/-- the degenerate case, as documented: no energy on the target grid (or a NaN entry, or an input without real `Hs`)
    gives an all-NaN result with `maintain_m0` -/
theorem m0_degenerate (thr q : ℚ) (f : Vec) (d : Option Vec) (e : Mat) (tf td : Option Vec) (o : Out) (c : Core)
    (h : regrid thr q f d e tf td true = .ok o) (hc : core f d e tf td = .ok c)
    (hdeg : c.allOK = false ∨ hsOf thr q f d e < 0 ∨ hsOf thr q c.freq c.dir c.vals ≤ 0) :
    ∀ r ∈ o.e, ∀ x ∈ r, x = none := by
  have hk : scaleOf (hsOf thr q f d e) (hsOf thr q c.freq c.dir c.vals) c.allOK = none := by
    cases hs : scaleOf (hsOf thr q f d e) (hsOf thr q c.freq c.dir c.vals) c.allOK with
    | none => rfl
    | some k =>
      obtain ⟨h1, h2, h3, _⟩ := scaleOf_some _ _ _ k hs
      rcases hdeg with h | h | h
      · rw [h1] at h; cases h
      · exact absurd h2 (not_le.mpr h)
      · exact absurd h3 (not_lt.mpr h)
  rw [regrid_of_core thr q f d e tf td true c hc, hk] at h
  injection h with h
  subst h
  simp only [finish_true, List.forall_mem_map]
  exact fun _ _ _ _ => rfl

/-! ## E. zero energy above the highest source frequency -/

/-- a target frequency above every source frequency is *filled*: the row is zero, whatever the directions did -/
theorem freqStage_above (f : Vec) (e : Mat) (tf : Vec) (i : Nat) (hi : i < tf.length)
    (hx : ∀ y ∈ f, y < getR tf i) (h0 : 0 < getR tf i) :
    (freqStage f e tf).locs.getD i .out = .out ∧
      (freqStage f e tf).vals.getD i [] = List.replicate (e.headD []).length 0 := by
  have hloc : ∀ (lo : Bool), locate ((sortK ((if lo then [((0 : ℚ), List.replicate (e.headD []).length (0 : ℚ))] else []) ++
      f.zip e)).map (·.1)) (getR tf i) = .out := by
    intro lo
    refine locate_out_above _ _ (List.forall_mem_map.mpr fun p hp => ?_)
    rcases mem_freqNodes f e _ _ p hp with rfl | ⟨hp, _⟩
    · exact h0
    · exact hx _ hp
  simp only [freqStage, List.map_map]
  rw [getD_map_of_lt _ _ _ hi, getD_map_of_lt _ _ _ hi, Function.comp_apply, ← getR_eq_getElem tf i hi, hloc]
  exact ⟨rfl, rfl⟩

/-- every finite output entry is the corresponding entry of the numeric pipeline, possibly times the factor -/
theorem finish_entry (c : Core) (m0 : Bool) (s : Option ℚ) (i : Nat) :
    ∀ x ∈ (finish c m0 s).getD i [], ∀ w, x = some w → ∃ v ∈ c.vals.getD i [], w = v ∨ ∃ k, w = k * v := by
  simp only [List.getD_eq_getElem?_getD]
  cases m0 with
  | false =>
    rw [finish_false, List.getElem?_zipWith]
    cases c.rowSt[i]? with
    | none => exact fun _ hx => nomatch hx
    | some row =>
      cases c.vals[i]? with
      | none => exact fun _ hx => nomatch hx
      | some r => exact forall_mem_zipWith fun ok _ v hv w hw => ⟨v, hv, Or.inl (maskEntry_some _ ok v w hw)⟩
  | true =>
    rw [finish_true, List.getElem?_map]
    cases c.vals[i]? with
    | none => exact fun _ hx => nomatch hx
    | some r =>
      refine List.forall_mem_map.mpr fun v hv w hw => ⟨v, hv, Or.inr ?_⟩
      cases s with
      | none => cases hw
      | some k => injection hw with hw; exact ⟨k, hw.symm⟩

/-- **zero_above_fmax** — a requested frequency above the highest source frequency carries no energy, for every
    direction, with or without `maintain_m0` (entries are `0`, or NaN in the degenerate case) -/
theorem zero_above_fmax (thr q : ℚ) (f : Vec) (d : Option Vec) (e : Mat) (tf : Vec) (td : Option Vec) (m0 : Bool)
    (o : Out) (h : regrid thr q f d e (some tf) td m0 = .ok o) (i : Nat) (hi : i < tf.length)
    (hx : ∀ y ∈ f, y < getR tf i) (h0 : 0 < getR tf i) :
    ∀ x ∈ o.e.getD i [], ∀ w, x = some w → w = 0 := by
  obtain ⟨c, _, rfl, rfl⟩ := regrid_ok thr q f d e (some tf) td m0 o h
  intro x hx' w hw
  obtain ⟨v, hv, hvw⟩ := finish_entry _ m0 _ i x hx' w hw
  have hvals : (coreOk f d e (some tf) td).vals = (freqStage f (dirPart d e td).2.1 tf).vals := rfl
  rw [hvals, (freqStage_above f _ tf i hi hx h0).2, List.mem_replicate] at hv
  rcases hvw with rfl | ⟨k, rfl⟩
  · exact hv.2
  · rw [hv.2, mul_zero]

/-! ## F. the stages on sorted source grids: every source coordinate is a node, found exactly -/

theorem map_pmod_id (d : Vec) (hr : ∀ x ∈ d, 0 ≤ x ∧ x < 360) : (d.map fun x => pmod x 360) = d := by
  have : ∀ x ∈ d, pmod x 360 = id x := fun x hx => pmod_eq_self (hr x hx).1 (hr x hx).2
  rw [List.map_congr_left this, List.map_id]

/-- sorted distinct directions in `[0, 360)`: `% 360`, `np.unique`, `sortby` change nothing -/
theorem dirNodes_sorted (d : Vec) (hs : d.Pairwise (· < ·)) (hr : ∀ x ∈ d, 0 ≤ x ∧ x < 360) :
    dirNodes d = d.zip (List.range d.length) := by
  unfold dirNodes
  rw [map_pmod_id d hr]
  have hk : ((d.zip (List.range d.length)).map (·.1)) = d := List.map_fst_zip (by simp)
  rw [sortK_sorted _ (by rw [hk]; exact hs.imp le_of_lt)]
  exact dedupK_strict _ (by rw [hk]; exact hs)

/-- whatever the stored directions: the labels `np.unique` leaves are strictly increasing and lie in `[0, 360)` -/
theorem dirNodes_keys (d : Vec) :
    ((dirNodes d).map (·.1)).Pairwise (· < ·) ∧ (∀ y ∈ (dirNodes d).map (·.1), 0 ≤ y ∧ y < 360) ∧
      (d ≠ [] → (dirNodes d).map (·.1) ≠ []) := by
  obtain ⟨hK, hmem⟩ := dedupK_sortK_spec ((d.map fun x => pmod x 360).zip (List.range d.length))
  rw [List.map_fst_zip (by simp)] at hmem
  refine ⟨hK, fun y hy => ?_, fun hne => ?_⟩
  · obtain ⟨x, _, rfl⟩ := List.mem_map.mp ((hmem y).mp hy)
    exact C10.dir_range x
  · obtain ⟨a, t, rfl⟩ := List.exists_cons_of_ne_nil hne
    exact List.ne_nil_of_mem ((hmem (pmod a 360)).mpr (by simp))

theorem dirXs_sorted (dS : Vec) (lo hi : Bool) (hs : dS.Pairwise (· < ·)) (hr : ∀ y ∈ dS, 0 ≤ y ∧ y < 360) :
    (dirXs dS lo hi).Pairwise (· < ·) := by
  have hl : lastD dS - 360 < 0 := sub_neg.mpr (lastD_forall dS (by norm_num) fun y hy => (hr y hy).2)
  have hh : 0 ≤ dS.headD 0 := by rw [headD_eq_getR]; exact getR_forall dS (le_refl _) (fun y hy => (hr y hy).1) _
  -- with both wrap bins: `last − 360 < 0 ≤ dS < 360 ≤ first + 360`; the other node lists are sublists of this one
  have hfull : (dirXs dS true true).Pairwise (· < ·) := by
    refine List.pairwise_cons.mpr
      ⟨fun y hy => ?_, List.pairwise_append.mpr ⟨hs, List.pairwise_singleton _ _, fun x hx y hy => ?_⟩⟩
    · rcases List.mem_append.mp hy with hy | hy
      · exact lt_of_lt_of_le hl (hr y hy).1
      · rw [List.mem_singleton.mp hy]; exact lt_of_lt_of_le hl (add_nonneg hh (by norm_num))
    · rw [List.mem_singleton.mp hy]; exact lt_of_lt_of_le (hr x hx).2 (le_add_of_nonneg_left hh)
  refine hfull.sublist ?_
  cases lo <;> cases hi <;> simp [dirXs]

theorem dirXs_length_eq (dS : Vec) (lo hi : Bool) :
    (dirXs dS lo hi).length = dS.length + (if lo then 1 else 0) + (if hi then 1 else 0) := by
  cases lo <;> cases hi <;> simp [dirXs]

/-- a single direction bin always gets both wrap bins, so the interpolation never runs on fewer than two nodes -/
theorem dirXs_length (dS td : Vec) (hne : dS ≠ []) : 2 ≤ (dirXs dS (wrapLo dS td) (wrapHi dS td)).length := by
  have h0 : dS.length ≠ 0 := fun h => hne (List.length_eq_zero_iff.mp h)
  rw [dirXs_length_eq]
  by_cases h1 : dS.length = 1
  · simp [wrapLo, wrapHi, h1]
  · omega

theorem dirXs_head (dS : Vec) (lo hi : Bool) (hne : dS ≠ []) :
    (dirXs dS lo hi).headD 0 = if lo then lastD dS - 360 else dS.headD 0 := by
  obtain ⟨a, t, rfl⟩ := List.exists_cons_of_ne_nil hne
  cases lo <;> rfl

theorem dirXs_last (dS : Vec) (lo hi : Bool) (hne : dS ≠ []) :
    lastD (dirXs dS lo hi) = if hi then dS.headD 0 + 360 else lastD dS := by
  have h := List.getLast?_eq_some_getLast hne
  cases hi
  · simp [dirXs, lastD, List.getLastD_eq_getLast?, List.getLast?_append, h]
  · simp [dirXs, lastD]

theorem wrapLo_of_lt {dS td : Vec} (h : minL td < dS.headD 0) : wrapLo dS td = true :=
  (Bool.or_eq_true _ _).mpr (Or.inl (decide_eq_true h))

theorem wrapHi_of_lt {dS td : Vec} (h : lastD dS < maxL td) : wrapHi dS td = true :=
  (Bool.or_eq_true _ _).mpr (Or.inl (decide_eq_true h))

theorem applyLocV_node (xs : Vec) (rows : Mat) (nd : Nat) (hs : xs.Pairwise (· < ·)) (hn : 2 ≤ xs.length)
    (hl : rows.length = xs.length) (hr : Rect rows nd) (k : Nat) (hk : k < xs.length) :
    applyLocV nd rows (locate xs (getR xs k)) = rows.getD k [] := by
  have hlen : ∀ j, j < rows.length → (rows.getD j []).length = nd := fun j hj => by
    rw [getD_of_lt _ _ hj]; exact hr _ (List.getElem_mem hj)
  cases k with
  | zero =>
    rw [locate_node_zero xs hs hn]
    refine (zipWith_eq_map_left _ _ ?_ fun a _ b _ => lerpT_zero a b).trans (List.map_id' _)
    rw [hlen 0 (by omega), hlen 1 (by omega)]
  | succ k =>
    rw [locate_node_succ xs hs k hk]
    refine (zipWith_eq_map_right _ _ ?_ fun a _ b _ => lerpT_one a b).trans (List.map_id' _)
    rw [hlen k (by omega), hlen (k + 1) (by omega)]

/-- on the node list with wrap bins, source direction `k` is node `k` (one further behind a lower wrap bin) and is found
    exactly, whichever wrap bins were added -/
theorem interp_wrap_node (d ys : Vec) (lo hi : Bool) (hsx : (dirXs d lo hi).Pairwise (· < ·))
    (hnx : 2 ≤ (dirXs d lo hi).length) (hys : ys.length = d.length) (k : Nat) (hk : k < d.length) :
    (locate (dirXs d lo hi) d[k]).isSeg = true ∧
      applyLoc (dirYs ys lo hi) (locate (dirXs d lo hi) d[k]) = getR ys k := by
  have := interp_node (dirXs d lo hi) (dirYs ys lo hi) hsx hnx (k + if lo then 1 else 0)
    (by rw [dirXs_length_eq]; omega)
  rwa [show getR (dirXs d lo hi) _ = _ from getR_wrap lo _ d _ k hk, getR_eq_getElem d k hk,
    show getR (dirYs ys lo hi) _ = _ from getR_wrap lo _ ys _ k (hys ▸ hk)] at this

/-- the direction stage onto exactly the labels `d` that `np.unique` leaves of the source directions `d'` (`ix` = stored
    index of each), whatever the storage order and duplicates of `d'`: every row re-indexed by `ix`, no NaN -/
theorem dirStage_onto_nodes (d' d : Vec) (ix : List Nat) (e : Mat) (hne : d ≠ [])
    (hnodes : (dirNodes d').map (·.1) = d) (hix : (dirNodes d').map (·.2) = ix) :
    (dirStage d' e d).vals = e.map (fun r => ix.map (getR r)) ∧ (∀ l ∈ (dirStage d' e d).locs, l.isSeg = true) ∧
      (dirStage d' e d).locs.length = d.length := by
  have hlen : ix.length = d.length := by rw [← hix, ← hnodes, List.length_map, List.length_map]
  obtain ⟨hs, hr, _⟩ := dirNodes_keys d'
  rw [hnodes] at hs hr
  have hsx := dirXs_sorted d (wrapLo d d) (wrapHi d d) hs hr
  have hnx := dirXs_length d d hne
  simp only [dirStage, hnodes, hix]
  refine ⟨List.map_congr_left fun r _ => ?_, fun l hl => ?_, by simp⟩
  · refine List.ext_getElem (by simp [hlen]) fun k h1 h2 => ?_
    have hk : k < d.length := by simpa using h1
    rw [List.getElem_map, List.getElem_map, (interp_wrap_node d _ _ _ hsx hnx (by simp [hlen]) k hk).2,
      getR_eq_getElem _ k h2]
  · obtain ⟨x, hx, rfl⟩ := List.mem_map.mp hl
    obtain ⟨k, hk, rfl⟩ := List.getElem_of_mem hx
    exact (interp_wrap_node d d _ _ hsx hnx rfl k hk).1

theorem rect_head (e : Mat) (n : Nat) (h : Rect e n) : Rect e (e.headD []).length := by
  cases e with
  | nil => exact fun _ hr => nomatch hr
  | cons r t => rw [List.headD_cons, h r (by simp)]; exact h

theorem dirStage_id_facts (d : Vec) (e : Mat) (hs : d.Pairwise (· < ·)) (hr : ∀ x ∈ d, 0 ≤ x ∧ x < 360)
    (hne : d ≠ []) (hrect : Rect e d.length) :
    (dirStage d e d).vals = e ∧ (∀ l ∈ (dirStage d e d).locs, l.isSeg = true) ∧
      (dirStage d e d).locs.length = d.length := by
  have hn := dirNodes_sorted d hs hr
  obtain ⟨h1, h2⟩ := dirStage_onto_nodes d d (List.range d.length) e hne
    (by rw [hn]; exact List.map_fst_zip (by simp)) (by rw [hn]; exact List.map_snd_zip (by simp))
  refine ⟨h1.trans ?_, h2⟩
  have : ∀ r ∈ e, (List.range d.length).map (getR r) = id r := fun r hr' => by
    rw [← hrect r hr']; exact map_getR_range r
  rw [List.map_congr_left this, List.map_id]

/-- node abscissae and node rows of the frequency interpolation when the source frequencies are already increasing:
    the source's own, behind the zero row at `f = 0` when that is added -/
def freqXs (f tf : Vec) : Vec := (if anchorLo f tf then [0] else []) ++ f
def freqYs (f : Vec) (e : Mat) (tf : Vec) : Mat :=
  (if anchorLo f tf then [List.replicate (e.headD []).length 0] else []) ++ e

theorem freqStage_sorted (f : Vec) (e : Mat) (tf : Vec) (hl : e.length = f.length) (hs : f.Pairwise (· < ·))
    (hpos : anchorLo f tf = true → 0 < f.headD 0) :
    (freqXs f tf).Pairwise (· < ·) ∧
      freqStage f e tf = { locs := tf.map (locate (freqXs f tf)),
                           vals := (tf.map (locate (freqXs f tf))).map
                             (applyLocV (e.headD []).length (freqYs f e tf)) } := by
  have hsx : (freqXs f tf).Pairwise (· < ·) := by
    unfold freqXs
    cases hlo : anchorLo f tf with
    | false => exact hs
    | true =>
      exact List.pairwise_cons.mpr
        ⟨fun y hy => lt_of_lt_of_le (hpos hlo) (pairwise_lt_bounds f hs y hy).1, hs⟩
  have hz : (if anchorLo f tf then [((0 : ℚ), List.replicate (e.headD []).length (0 : ℚ))] else []) ++ f.zip e =
      (freqXs f tf).zip (freqYs f e tf) := by
    unfold freqXs freqYs; cases anchorLo f tf <;> rfl
  obtain ⟨h1, h2⟩ := sortK_zip (freqXs f tf) (freqYs f e tf)
    (by unfold freqXs freqYs; cases anchorLo f tf <;> simp [hl]) (hsx.imp le_of_lt)
  exact ⟨hsx, by simp only [freqStage, hz, h1, h2]⟩

theorem freqXs_length_eq (f tf : Vec) : (freqXs f tf).length = f.length + if anchorLo f tf then 1 else 0 := by
  unfold freqXs; cases anchorLo f tf <;> simp

/-- a single frequency always gets the zero row, so the interpolation never runs on fewer than two nodes -/
theorem freqXs_length (f tf : Vec) (hne : f ≠ []) : 2 ≤ (freqXs f tf).length := by
  have h0 : f.length ≠ 0 := fun h => hne (List.length_eq_zero_iff.mp h)
  rw [freqXs_length_eq]
  by_cases h1 : f.length = 1
  · simp [anchorLo, h1]
  · omega

theorem freqYs_rect (f : Vec) (e : Mat) (tf : Vec) (h : Rect e (e.headD []).length) :
    Rect (freqYs f e tf) (e.headD []).length := by
  unfold freqYs
  cases anchorLo f tf
  · exact h
  · exact fun r hr => (List.mem_cons.mp hr).elim (fun h0 => h0 ▸ List.length_replicate) (h r)

/-- on the node list with the zero row, source frequency `k` is node `k` (one further behind the zero row) and is found
    exactly with its own row, whatever the target frequencies are -/
theorem freq_wrap_node (f : Vec) (e : Mat) (tf : Vec) (hsx : (freqXs f tf).Pairwise (· < ·))
    (hnx : 2 ≤ (freqXs f tf).length) (hl : e.length = f.length) (hrect : Rect e (e.headD []).length) (k : Nat)
    (hk : k < f.length) :
    (locate (freqXs f tf) f[k]).isSeg = true ∧
      applyLocV (e.headD []).length (freqYs f e tf) (locate (freqXs f tf) f[k]) = e.getD k [] := by
  have hidx : (k + if anchorLo f tf then 1 else 0) < (freqXs f tf).length := by rw [freqXs_length_eq]; omega
  have hlenY : (freqYs f e tf).length = (freqXs f tf).length := by
    unfold freqXs freqYs; cases anchorLo f tf <;> simp [hl]
  have hnode := getR_wrap (anchorLo f tf) 0 f [] k hk
  have hrow := getD_wrap (anchorLo f tf) (List.replicate (e.headD []).length (0 : ℚ)) e [] k (hl ▸ hk) []
  rw [List.append_nil] at hnode hrow
  rw [← getR_eq_getElem f k hk, ← hnode]
  exact ⟨(interp_node _ [] hsx hnx _ hidx).1,
    (applyLocV_node _ _ _ hsx hnx hlenY (freqYs_rect f e tf hrect) _ hidx).trans hrow⟩

/-- frequency stage onto the source's own frequencies (strictly increasing, at least one, positive if there is only
    one) -/
theorem freqStage_id_facts (f : Vec) (e : Mat) (hs : f.Pairwise (· < ·)) (hne : f ≠ [])
    (hpos : f.length = 1 → 0 < f.headD 0) (hl : e.length = f.length) (hrect : Rect e (e.headD []).length) :
    (freqStage f e f).vals = e ∧ (∀ l ∈ (freqStage f e f).locs, l.isSeg = true) ∧
      (freqStage f e f).locs.length = f.length := by
  have hlo : anchorLo f f = true → f.length = 1 := fun h => by simpa [anchorLo] using h
  obtain ⟨hsx, heq⟩ := freqStage_sorted f e f hl hs fun h => hpos (hlo h)
  have hw := freq_wrap_node f e f hsx (freqXs_length f f hne) hl hrect
  rw [heq]
  refine ⟨List.ext_getElem (by simp [hl]) fun k h1 h2 => ?_, fun l hl' => ?_, by simp⟩
  · rw [List.getElem_map, List.getElem_map, (hw k (by simpa using h1)).2, getD_of_lt _ _ h2]
  · obtain ⟨x, hx', rfl⟩ := List.mem_map.mp hl'
    obtain ⟨k, hk, rfl⟩ := List.getElem_of_mem hx'
    exact (hw k hk).1

/-! ## G. when nothing is masked the output is the numeric pipeline -/

theorem allOK_iff (c : Core) :
    c.allOK = true ↔ (∀ b ∈ c.colOK, b = true) ∧ (∀ l ∈ c.rowSt, l.isNan = false) := by
  unfold Core.allOK
  rw [Bool.and_eq_true, List.all_eq_true, List.all_eq_true]
  exact and_congr Iff.rfl (forall₂_congr fun l _ => by rw [Bool.not_eq_true'])

theorem isNan_of_isSeg (l : Loc) (h : l.isSeg = true) : l.isNan = false := by cases l <;> first | rfl | cases h

theorem maskEntry_noNan (l : Loc) (h : l.isNan = false) (v : ℚ) : maskEntry l true v = some v := by
  cases l <;> first | rfl | cases h

theorem finish_false_allOK (c : Core) (s : Option ℚ) (hok : c.allOK = true)
    (h3 : c.vals.length ≤ c.rowSt.length) (h4 : ∀ r ∈ c.vals, r.length ≤ c.colOK.length) :
    finish c false s = c.vals.map (·.map some) := by
  obtain ⟨h2, h1⟩ := (allOK_iff c).mp hok
  rw [finish_false]
  refine zipWith_eq_map_right _ _ h3 fun row hrow r hr => ?_
  refine zipWith_eq_map_right _ _ (h4 r hr) fun ok hok v _ => ?_
  rw [h2 ok hok]; exact maskEntry_noNan row (h1 row hrow) v

theorem dirStage_shape (d : Vec) (e : Mat) (td : Vec) :
    ∀ r ∈ (dirStage d e td).vals, r.length = ((dirStage d e td).locs.map Loc.isSeg).length := by
  simp only [dirStage, List.forall_mem_map, List.length_map]
  exact fun _ _ => trivial

theorem applyLocV_length_le (nd n : Nat) (rows : Mat) (l : Loc) (hnd : nd ≤ n) (h : ∀ r ∈ rows, r.length ≤ n) :
    (applyLocV nd rows l).length ≤ n := by
  cases l with
  | seg i t =>
    rw [applyLocV, List.length_zipWith]
    rcases getD_mem_or rows i [] with h0 | hm
    · rw [h0]; exact Nat.le_trans (Nat.min_le_left _ _) (Nat.zero_le _)
    · exact Nat.le_trans (Nat.min_le_left _ _) (h _ hm)
  | out | nan => exact (List.length_replicate (n := nd) (a := (0 : ℚ))).trans_le hnd

theorem headD_length_le (E : Mat) (n : Nat) (hE : ∀ r ∈ E, r.length ≤ n) : (E.headD []).length ≤ n := by
  cases E with
  | nil => exact Nat.zero_le _
  | cons r t => exact hE r (by simp)

theorem freqStage_rows_le (f : Vec) (E : Mat) (tf : Vec) (n : Nat) (hE : ∀ r ∈ E, r.length ≤ n) :
    ∀ r ∈ (freqStage f E tf).vals, r.length ≤ n := by
  have hnd := headD_length_le E n hE
  simp only [freqStage, List.forall_mem_map]
  refine fun x _ => applyLocV_length_le _ n _ _ hnd (List.forall_mem_map.mpr fun p hp => ?_)
  rcases mem_freqNodes f E _ _ p hp with rfl | ⟨_, hp⟩
  · rw [List.length_replicate]; exact hnd
  · exact hE _ hp

/-- the numeric pipeline is as wide as the column mask and no longer than the row mask, given that of its direction part -/
theorem coreOk_shape (f : Vec) (d : Option Vec) (e : Mat) (tf td : Option Vec) (hl : e.length ≤ f.length)
    (h : ∀ r ∈ (dirPart d e td).2.1, r.length ≤ (dirPart d e td).2.2.length) :
    (coreOk f d e tf td).vals.length ≤ (coreOk f d e tf td).rowSt.length ∧
      ∀ r ∈ (coreOk f d e tf td).vals, r.length ≤ (coreOk f d e tf td).colOK.length := by
  cases tf with
  | none =>
    refine ⟨?_, h⟩
    have : (dirPart d e td).2.1.length = e.length := by
      cases d <;> cases td <;> first | rfl | exact List.length_map _
    simpa [coreOk, freqPart, this] using hl
  | some t => exact ⟨by simp [coreOk, freqPart, freqStage], freqStage_rows_le f _ t _ h⟩

theorem dirPart_shape (d : Option Vec) (e : Mat) (td : Option Vec) (hrect : Rect e (e.headD []).length) :
    ∀ r ∈ (dirPart d e td).2.1, r.length ≤ (dirPart d e td).2.2.length := by
  have he : ∀ r ∈ e, r.length ≤ ((e.headD []).map fun _ => true).length := fun r hr => by
    rw [List.length_map, hrect r hr]
  cases d <;> cases td <;> first | exact he | exact fun r hr => le_of_eq (dirStage_shape _ _ _ r hr)

/-- **without `maintain_m0`**, when nothing is masked, `regrid` returns the numeric pipeline as it is -/
theorem regrid_false_of_allOK (thr q : ℚ) (f : Vec) (d : Option Vec) (e : Mat) (tf td : Option Vec)
    (hd : d = none → td = none) (hl : e.length ≤ f.length)
    (hsh : ∀ r ∈ (dirPart d e td).2.1, r.length ≤ (dirPart d e td).2.2.length)
    (hok : (coreOk f d e tf td).allOK = true) :
    regrid thr q f d e tf td false =
      .ok { freq := (coreOk f d e tf td).freq, dir := (coreOk f d e tf td).dir,
            e := (coreOk f d e tf td).vals.map (·.map some) } := by
  obtain ⟨h3, h4⟩ := coreOk_shape f d e tf td hl hsh
  rw [regrid_of_core thr q f d e tf td false _ (core_eq_ok f d e tf td hd), finish_false_allOK _ _ hok h3 h4]

theorem scaleM_one (e : Mat) : C10.scaleM 1 e = e := by
  have : ∀ r ∈ e, scaleV 1 r = id r := fun r _ => by simp [scaleV]
  rw [C10.scaleM, List.map_congr_left this, List.map_id]

/-- **with `maintain_m0`**, when nothing is masked and the pipeline kept `hs` (positive), the factor is 1 -/
theorem regrid_true_of_hs_kept (thr q : ℚ) (f : Vec) (d : Option Vec) (e : Mat) (tf td : Option Vec)
    (hd : d = none → td = none) (hok : (coreOk f d e tf td).allOK = true) (hpos : 0 < hsOf thr q f d e)
    (hkept : hsOf thr q (coreOk f d e tf td).freq (coreOk f d e tf td).dir (coreOk f d e tf td).vals =
      hsOf thr q f d e) :
    regrid thr q f d e tf td true =
      .ok { freq := (coreOk f d e tf td).freq, dir := (coreOk f d e tf td).dir,
            e := (coreOk f d e tf td).vals.map (·.map some) } := by
  rw [regrid_of_core thr q f d e tf td true _ (core_eq_ok f d e tf td hd), hok, hkept,
    scaleOf_pos _ _ (le_of_lt hpos) hpos, div_self (ne_of_gt hpos), finish_scaled, scaleM_one]

/-! ## H. identity when the target grid is the source grid -/

theorem coreOk_id (f d : Vec) (e : Mat) (hf : f.Pairwise (· < ·)) (hfne : f ≠ []) (hd : d.Pairwise (· < ·))
    (hdr : ∀ x ∈ d, 0 ≤ x ∧ x < 360) (hdne : d ≠ []) (hl : e.length = f.length) (hrect : Rect e d.length)
    (tf td : Option Vec) (hfpos : tf = some f → f.length = 1 → 0 < f.headD 0)
    (htf : tf = none ∨ tf = some f) (htd : td = none ∨ td = some d) :
    (coreOk f (some d) e tf td).freq = f ∧ (coreOk f (some d) e tf td).dir = some d ∧
      (coreOk f (some d) e tf td).vals = e ∧ (coreOk f (some d) e tf td).allOK = true := by
  have hdp : (dirPart (some d) e td).1 = some d ∧ (dirPart (some d) e td).2.1 = e ∧
      ∀ b ∈ (dirPart (some d) e td).2.2, b = true := by
    rcases htd with rfl | rfl
    · exact ⟨rfl, rfl, List.forall_mem_map.mpr fun _ _ => rfl⟩
    · obtain ⟨hv, hseg, _⟩ := dirStage_id_facts d e hd hdr hdne hrect
      exact ⟨rfl, hv, List.forall_mem_map.mpr hseg⟩
  have hfp : (freqPart f e tf).1 = f ∧ (freqPart f e tf).2.1 = e ∧ ∀ l ∈ (freqPart f e tf).2.2, l.isNan = false := by
    rcases htf with rfl | rfl
    · exact ⟨rfl, rfl, List.forall_mem_map.mpr fun _ _ => rfl⟩
    · obtain ⟨hv, hseg, _⟩ := freqStage_id_facts f e hf hfne (hfpos rfl) hl (rect_head e _ hrect)
      exact ⟨rfl, hv, fun l hl' => isNan_of_isSeg l (hseg l hl')⟩
  obtain ⟨h1, h2, h3⟩ := hdp
  refine ⟨?_, h1, ?_, (allOK_iff _).mpr ⟨h3, ?_⟩⟩ <;> simp only [coreOk, h2]
  · exact hfp.1
  · exact hfp.2.1
  · exact hfp.2.2

/-- **regrid_id** (full strength since repair 0802ffa) — when each requested coordinate array is the source's own
    (strictly increasing frequencies — positive if there is only one —, strictly increasing directions in `[0, 360)`,
    at least ONE of each) regridding is the identity: bin for bin, without `maintain_m0`, and with it as soon as the
    source has energy (the factor is then exactly 1) -/
theorem regrid_id (thr q : ℚ) (f d : Vec) (e : Mat) (hf : f.Pairwise (· < ·)) (hfne : f ≠ [])
    (hd : d.Pairwise (· < ·)) (hdr : ∀ x ∈ d, 0 ≤ x ∧ x < 360) (hdne : d ≠ []) (hl : e.length = f.length)
    (hrect : Rect e d.length) (tf td : Option Vec) (hfpos : tf = some f → f.length = 1 → 0 < f.headD 0)
    (htf : tf = none ∨ tf = some f) (htd : td = none ∨ td = some d) :
    regrid thr q f (some d) e tf td false = .ok { freq := f, dir := some d, e := e.map (·.map some) } ∧
      (0 < hsOf thr q f (some d) e →
        regrid thr q f (some d) e tf td true = .ok { freq := f, dir := some d, e := e.map (·.map some) }) := by
  obtain ⟨h1, h2, h3, h4⟩ := coreOk_id f d e hf hfne hd hdr hdne hl hrect tf td hfpos htf htd
  constructor
  · rw [regrid_false_of_allOK thr q f (some d) e tf td (fun h => nomatch h) (le_of_eq hl)
      (dirPart_shape _ e td (rect_head e _ hrect)) h4, h1, h2, h3]
  · intro hpos
    rw [regrid_true_of_hs_kept thr q f (some d) e tf td (fun h => nomatch h) h4 hpos (by rw [h1, h2, h3]), h1, h2, h3]

/-- the single-bin grids on which the identity failed in the code as found (finding F27/F28, NaN everywhere) -/
example : regrid 0 0 [1 / 10] (some [10]) [[1]] (some [1 / 10]) (some [10]) false =
    .ok { freq := [1 / 10], dir := some [10], e := [[some 1]] } := by decide +kernel

/-! ## I. below the lowest source frequency: linear to zero energy at `f = 0` -/

/-- **anchor_below_fmin** — a requested frequency `x` with `0 ≤ x <` lowest source frequency `f₀` gets the lowest
    source row multiplied by `x / f₀`: the straight line from zero energy at `f = 0` to the first row -/
theorem anchor_below_fmin (f : Vec) (e : Mat) (tf : Vec) (hs : f.Pairwise (· < ·)) (hpos : 0 < f.headD 0)
    (hne : f ≠ []) (hl : e.length = f.length) (i : Nat) (hi : i < tf.length) (h0 : 0 ≤ getR tf i)
    (h1 : getR tf i < f.headD 0) :
    (freqStage f e tf).locs.getD i .out = .seg 0 (getR tf i / f.headD 0) ∧
      (freqStage f e tf).vals.getD i [] = (e.headD []).map fun v => v * (getR tf i / f.headD 0) := by
  match f, e, hne, hl with
  | f0 :: fr, r0 :: er, _, hl =>
    simp only [List.headD_cons] at hpos h1 ⊢
    have hlo : anchorLo (f0 :: fr) tf = true := (Bool.or_eq_true _ _).mpr <| Or.inl <| decide_eq_true <|
      calc minL tf ≤ getR tf i := minL_le_mem tf _ (getR_mem tf i hi)
        _ < f0 := h1
        _ ≤ minL (f0 :: fr) := head_le_minL (f0 :: fr) hs
    have hloc : locate (freqXs (f0 :: fr) tf) (getR tf i) = .seg 0 (getR tf i / f0) := by
      rw [freqXs, hlo]
      exact (locate_first_seg 0 f0 fr _ h0 (le_of_lt h1) (ne_of_lt hpos)).trans (by rw [sub_zero, sub_zero])
    rw [(freqStage_sorted _ _ tf hl hs fun _ => hpos).2]
    simp only [List.map_map]
    rw [getD_map_of_lt _ _ _ hi, getD_map_of_lt _ _ _ hi, Function.comp_apply, ← getR_eq_getElem tf i hi, hloc,
      freqYs, hlo]
    refine ⟨rfl, zipWith_eq_map_right (List.replicate r0.length 0) r0 (by simp) fun a ha b _ => ?_⟩
    rw [List.eq_of_mem_replicate ha, lerpT, zero_add, sub_zero]

/-! ## J. the 0/360 seam: neighbouring bins on both sides -/

/-- value of the direction stage at one (row, target) position: the interpolant of that row at that target -/
theorem dirStage_entry (d : Vec) (e : Mat) (td : Vec) (hs : d.Pairwise (· < ·)) (hr : ∀ x ∈ d, 0 ≤ x ∧ x < 360)
    (hrect : Rect e d.length) (i : Nat) (hi : i < e.length) (j : Nat) (hj : j < td.length) :
    getR ((dirStage d e td).vals.getD i []) j =
      applyLoc (dirYs e[i] (wrapLo d td) (wrapHi d td)) (locate (dirXs d (wrapLo d td) (wrapHi d td)) (getR td j)) := by
  unfold dirStage
  rw [dirNodes_sorted d hs hr]
  have hk : ((d.zip (List.range d.length)).map (·.1)) = d := List.map_fst_zip (by simp)
  have hix : ((d.zip (List.range d.length)).map (·.2)) = List.range d.length := List.map_snd_zip (by simp)
  simp only [hk, hix, List.map_map]
  rw [getD_map_of_lt _ _ _ hi, ← hrect _ (List.getElem_mem hi), map_getR_range, getR, getD_map_of_lt _ _ _ hj,
    Function.comp_apply, ← getR_eq_getElem td j hj]

/-- a target strictly between two neighbouring nodes `J`, `J + 1` of strictly increasing nodes -/
theorem applyLoc_between (xs ys : Vec) (θ : ℚ) (hs : xs.Pairwise (· < ·)) (J : Nat) (hJ : J + 1 < xs.length)
    (xa xb ya yb : ℚ) (hxa : getR xs J = xa) (hxb : getR xs (J + 1) = xb) (hya : getR ys J = ya)
    (hyb : getR ys (J + 1) = yb) (h1 : xa < θ) (h2 : θ < xb) :
    applyLoc ys (locate xs θ) = lerpT ya yb ((θ - xa) / (xb - xa)) := by
  subst hxa hxb hya hyb
  rw [locate_between xs θ hs J hJ h1 (le_of_lt h2)]; rfl

/-- **seam_both_sides** — a requested direction `θ` beyond the last source direction (`last < θ < first + 360`), or
    before the first one (`last − 360 < θ < first`), gets the convex combination of exactly the LAST and the FIRST
    source bins, weighted by the distance from the last bin along the circle over the circular gap between them -/
theorem seam_both_sides (d : Vec) (e : Mat) (td : Vec) (hs : d.Pairwise (· < ·)) (hr : ∀ x ∈ d, 0 ≤ x ∧ x < 360)
    (hne : d ≠ []) (hrect : Rect e d.length) (i : Nat) (hi : i < e.length) (j : Nat) (hj : j < td.length) :
    (lastD d < getR td j → getR td j < d.headD 0 + 360 →
      getR ((dirStage d e td).vals.getD i []) j =
        lerpT (lastD e[i]) (e[i].headD 0) ((getR td j - lastD d) / (d.headD 0 + 360 - lastD d))) ∧
    (lastD d - 360 < getR td j → getR td j < d.headD 0 →
      getR ((dirStage d e td).vals.getD i []) j =
        lerpT (lastD e[i]) (e[i].headD 0) ((getR td j - (lastD d - 360)) / (d.headD 0 - (lastD d - 360)))) := by
  have hmem : getR td j ∈ td := getR_mem td j hj
  have hlen := hrect _ (List.getElem_mem hi)
  have hd0 : 0 < d.length := List.length_pos_iff.mpr hne
  rw [dirStage_entry d e td hs hr hrect i hi j hj]
  constructor
  · -- the last source bin and the upper wrap bin are the last two nodes
    intro h1 h2
    rw [wrapHi_of_lt (lt_of_lt_of_le h1 (maxL_ge_mem td _ hmem))]
    generalize wrapLo d td = lo
    have hJ : d.length - 1 + (if lo then 1 else 0) + 1 = d.length + if lo then 1 else 0 := by
      rw [Nat.add_right_comm, Nat.sub_add_cancel hd0]
    have hd1 : d.length - 1 < d.length := Nat.sub_lt hd0 Nat.one_pos
    refine applyLoc_between _ _ _ (dirXs_sorted d lo true hs hr) (d.length - 1 + if lo then 1 else 0)
      (by rw [dirXs_length_eq, hJ]; exact Nat.lt_succ_self _) _ _ _ _
      ((getR_wrap lo _ d _ _ hd1).trans (lastD_eq_getR d).symm)
      (by rw [hJ]; exact getR_wrap_hi lo _ _ d)
      ((getR_wrap lo _ e[i] _ _ (by rw [hlen]; exact hd1)).trans (by rw [lastD_eq_getR, hlen]))
      (by rw [hJ, ← hlen]; exact getR_wrap_hi lo _ _ e[i]) h1 h2
  · -- the lower wrap bin and the first source bin are the first two nodes
    intro h1 h2
    rw [wrapLo_of_lt (lt_of_le_of_lt (minL_le_mem td _ hmem) h2)]
    generalize wrapHi d td = hi'
    exact applyLoc_between _ _ _ (dirXs_sorted d true hi' hs hr) 0
      (by rw [dirXs_length_eq]; exact Nat.lt_of_lt_of_le (Nat.succ_lt_succ hd0) (Nat.le_add_right _ _)) _ _ _ _ rfl
      ((getR_wrap true _ d _ 0 hd0).trans (headD_eq_getR d).symm) rfl
      ((getR_wrap true _ e[i] _ 0 (hlen ▸ hd0)).trans (headD_eq_getR e[i]).symm) h1 h2

/-! ## K. targets on the circle are always inside the extended source range -/

/-- **dir_targets_on_circle_ok** — whatever the stored source directions are (any order, duplicates, any range, even a
    single bin since repair 0802ffa), every requested direction in `[0, 360]` is interpolated between two neighbouring
    source bins (no NaN): the wrap bins always close the circle -/
theorem dir_targets_on_circle_ok (d' : Vec) (e : Mat) (td : Vec) (hne : d' ≠ [])
    (htd : ∀ θ ∈ td, 0 ≤ θ ∧ θ ≤ 360) : ∀ l ∈ (dirStage d' e td).locs, l.isSeg = true := by
  obtain ⟨hK, hrange, hKne⟩ := dirNodes_keys d'
  simp only [dirStage, List.forall_mem_map]
  generalize (dirNodes d').map (·.1) = K at hK hrange hKne ⊢
  have hlast := hrange _ (lastD_mem K (hKne hne))
  have hhead := hrange _ (headD_mem K (hKne hne))
  intro θ hθ
  have hθr := htd θ hθ
  refine locate_in_range _ θ (dirXs_sorted K _ _ hK hrange) (dirXs_length K td (hKne hne)) ?_ ?_
  · -- the first node is `last − 360 < 0`, or no target lies before the first source bin
    rw [dirXs_head K _ _ (hKne hne)]
    split
    · exact le_trans (sub_nonpos.mpr (le_of_lt hlast.2)) hθr.1
    · rename_i hlo
      exact le_trans (not_lt.mp fun h => hlo (wrapLo_of_lt h)) (minL_le_mem td θ hθ)
  · -- the last node is `first + 360 ≥ 360`, or no target lies beyond the last source bin
    rw [dirXs_last K _ _ (hKne hne)]
    split
    · exact le_trans hθr.2 (le_add_of_nonneg_left hhead.1)
    · rename_i hhi
      exact le_trans (maxL_ge_mem td θ hθ) (not_lt.mp fun h => hhi (wrapHi_of_lt h))

/-! ## L. rotation -/

/-- stored positions of the sorted labels when a sorted list of `n` labels is stored rotated by `s` -/
def rotIx (n s : Nat) : List Nat := (List.range n).rotate (n - s)

theorem rotIx_length (n s : Nat) : (rotIx n s).length = n := by rw [rotIx, List.length_rotate, List.length_range]

/-- reading a row at those positions rotates it back -/
theorem map_getR_rotIx (r : Vec) (s : Nat) : (rotIx r.length s).map (getR r) = r.rotate (r.length - s) := by
  rw [rotIx, List.map_rotate, map_getR_range]

/-- directions stored as a rotation (as a sequence) of a sorted list: `np.unique` sorts them back and remembers where
    each one was stored -/
theorem dirNodes_rotated (d : Vec) (s : Nat) (hs : d.Pairwise (· < ·)) (hr : ∀ x ∈ d, 0 ≤ x ∧ x < 360)
    (hsn : s ≤ d.length) : dirNodes (d.rotate s) = d.zip (rotIx d.length s) := by
  have hlen := (rotIx_length d.length s).symm
  have hkeys : ((d.zip (rotIx d.length s)).map (·.1)) = d := List.map_fst_zip (le_of_eq hlen)
  -- the stored `(label, position)` pairs are the sorted ones, rotated by `s`
  have hz : (d.rotate s).zip (List.range d.length) = (d.zip (rotIx d.length s)).rotate s := by
    have hfull := List.rotate_length (List.range d.length)
    rw [List.length_range] at hfull
    rw [List.zip_eq_zipWith, List.zip_eq_zipWith, List.zipWith_rotate_distrib _ _ _ _ hlen, rotIx, List.rotate_rotate,
      Nat.sub_add_cancel hsn, hfull]
  unfold dirNodes
  rw [map_pmod_id _ fun x hx => hr x (List.mem_rotate.mp hx), List.length_rotate, hz,
    List.rotate_eq_drop_append_take (by rw [List.length_zip, ← hlen, Nat.min_self]; exact hsn),
    sortK_rotated _ _ (by rw [List.take_append_drop, hkeys]; exact hs), List.take_append_drop]
  exact dedupK_strict _ (by rw [hkeys]; exact hs)

/-- **regrid_rotated_storage** — when the source directions are stored as a rotation of the (sorted) target directions,
    regridding onto the target returns, bin for bin, the stored data rotated back: only the labels matter, not the
    storage order -/
theorem regrid_rotated_storage (d : Vec) (e : Mat) (s : Nat) (hs : d.Pairwise (· < ·))
    (hr : ∀ x ∈ d, 0 ≤ x ∧ x < 360) (hne : d ≠ []) (hsn : s ≤ d.length) (hrect : Rect e d.length) :
    (dirStage (d.rotate s) e d).vals = e.map (fun r => r.rotate (d.length - s)) ∧
      ∀ l ∈ (dirStage (d.rotate s) e d).locs, l.isSeg = true := by
  have hnodes := dirNodes_rotated d s hs hr hsn
  have hix := rotIx_length d.length s
  obtain ⟨hv, hseg, _⟩ := dirStage_onto_nodes (d.rotate s) d (rotIx d.length s) e hne
    (by rw [hnodes]; exact List.map_fst_zip (le_of_eq hix.symm)) (by rw [hnodes]; exact List.map_snd_zip (le_of_eq hix))
  refine ⟨hv.trans (List.map_congr_left fun r hr' => ?_), hseg⟩
  rw [← hrect r hr']
  exact map_getR_rotIx r s

/-- uniform full-circle grid `d0, d0 + Δ, …, d0 + (n−1)Δ` -/
def uniformDirs (d0 Δ : ℚ) (n : Nat) : Vec := (List.range n).map fun (j : Nat) => d0 + (j : ℚ) * Δ

theorem uniformDirs_length (d0 Δ : ℚ) (n : Nat) : (uniformDirs d0 Δ n).length = n := by simp [uniformDirs]

theorem uniformDirs_getElem (d0 Δ : ℚ) (n j : Nat) (h : j < (uniformDirs d0 Δ n).length) :
    (uniformDirs d0 Δ n)[j] = d0 + (j : ℚ) * Δ := by simp [uniformDirs]

theorem uniformDirs_sorted (d0 Δ : ℚ) (n : Nat) (hΔ : 0 < Δ) : (uniformDirs d0 Δ n).Pairwise (· < ·) := by
  unfold uniformDirs
  rw [List.pairwise_map]
  exact (List.pairwise_lt_range (n := n)).imp fun hab =>
    (add_lt_add_iff_left d0).mpr (mul_lt_mul_of_pos_right (Nat.cast_lt.mpr hab) hΔ)

/-- bin `j < n` of a uniform full-circle grid (`nΔ = 360`, `0 ≤ d0 < Δ`) lies in `[0, 360)` -/
theorem uniform_range (n : Nat) (d0 Δ : ℚ) (hΔ : (n : ℚ) * Δ = 360) (h0 : 0 ≤ d0) (h1 : d0 < Δ) (j : Nat) (hj : j < n) :
    0 ≤ d0 + (j : ℚ) * Δ ∧ d0 + (j : ℚ) * Δ < 360 := by
  have hpos : 0 < Δ := lt_of_le_of_lt h0 h1
  have hj1 : ((j : ℚ) + 1) * Δ ≤ n * Δ := mul_le_mul_of_nonneg_right (by exact_mod_cast hj) (le_of_lt hpos)
  refine ⟨add_nonneg h0 (mul_nonneg (Nat.cast_nonneg j) (le_of_lt hpos)), ?_⟩
  calc d0 + (j : ℚ) * Δ < Δ + (j : ℚ) * Δ := (add_lt_add_iff_right _).mpr h1
    _ = ((j : ℚ) + 1) * Δ := by ring
    _ ≤ n * Δ := hj1
    _ = 360 := hΔ

theorem uniformDirs_range (d0 Δ : ℚ) (n : Nat) (hΔ : (n : ℚ) * Δ = 360) (h0 : 0 ≤ d0) (h1 : d0 < Δ) :
    ∀ x ∈ uniformDirs d0 Δ n, 0 ≤ x ∧ x < 360 :=
  List.forall_mem_map.mpr fun j hj => uniform_range n d0 Δ hΔ h0 h1 j (List.mem_range.mp hj)

/-- `% 360` on the uniform grid continued beyond the circle: bin `m` is bin `m mod n` -/
theorem pmod_uniform (n : Nat) (d0 Δ : ℚ) (hn : 0 < n) (hΔ : (n : ℚ) * Δ = 360) (h0 : 0 ≤ d0) (h1 : d0 < Δ) (m : Nat) :
    pmod (d0 + (m : ℚ) * Δ) 360 = d0 + ((m % n : ℕ) : ℚ) * Δ := by
  have hm : (m : ℚ) = n * ((m / n : ℕ) : ℚ) + ((m % n : ℕ) : ℚ) := by exact_mod_cast (Nat.div_add_mod m n).symm
  have e : d0 + (m : ℚ) * Δ = (d0 + ((m % n : ℕ) : ℚ) * Δ) + 360 * (((m / n : ℕ) : ℤ) : ℚ) := by
    rw [← hΔ, Int.cast_natCast]
    calc d0 + (m : ℚ) * Δ = d0 + (n * ((m / n : ℕ) : ℚ) + ((m % n : ℕ) : ℚ)) * Δ := by rw [← hm]
      _ = _ := by ring
  obtain ⟨r0, r1⟩ := uniform_range n d0 Δ hΔ h0 h1 (m % n) (Nat.mod_lt _ hn)
  rw [e, pmod_add_mul_int _ 360 _ (by norm_num), pmod_eq_self r0 r1]

/-- relabelling a uniform full-circle grid by a whole number `k` of bins: the labels are the same set, stored rotated -/
theorem relabel_uniform (d0 Δ : ℚ) (n k : Nat) (hn : 0 < n) (hΔ : (n : ℚ) * Δ = 360) (h0 : 0 ≤ d0) (h1 : d0 < Δ) :
    relabel (uniformDirs d0 Δ n) ((k : ℚ) * Δ) = (uniformDirs d0 Δ n).rotate (k % n) := by
  unfold relabel
  refine List.ext_getElem (by rw [List.length_map, List.length_rotate]) fun j hj1 _ => ?_
  rw [List.getElem_rotate, List.getElem_map, uniformDirs_getElem, uniformDirs_getElem, uniformDirs_length,
    Nat.add_mod_mod, ← pmod_uniform n d0 Δ hn hΔ h0 h1 (j + k)]
  congr 1; push_cast; ring

theorem oned_rotate_rows (ddv : ℚ) (e : Mat) (A : Nat) : oned ddv (e.map fun r => r.rotate A) = oned ddv e := by
  unfold oned
  rw [List.map_map]
  apply List.map_congr_left
  intro r _
  simp only [Function.comp]
  rw [(List.rotate_perm r A).sum_eq]

theorem absR_sub_lt (u v : ℚ) (hu : 0 ≤ u ∧ u < 360) (hv : 0 ≤ v ∧ v < 360) : absR (v - u) < 360 := by
  unfold absR; split_ifs <;> linarith

/-- **rotate_dd_kept** — relabelling the directions by any angle does not change the bin width the accessor uses
    (`min(|Δ|, 360 − |Δ|)` of the first two stored directions), also when the relabelled pair straddles 0/360 -/
theorem rotate_dd_kept (d : Vec) (a : ℚ) (hr : ∀ x ∈ d, 0 ≤ x ∧ x < 360) : dd (some (relabel d a)) = dd (some d) := by
  match d, hr with
  | [], _ => rfl
  | [_], _ => rfl
  | x :: y :: rest, hr =>
    exact C10.dd_relabel_inv x y a ((x + a) / 360).floor ((y + a) / 360).floor rest _
      (absR_sub_lt x y (hr x (by simp)) (hr y (by simp)))
      (absR_sub_lt (pmod (x + a) 360) (pmod (y + a) 360) (C10.dir_range _) (C10.dir_range _))

theorem hsOf_relabel (thr q : ℚ) (f d : Vec) (a : ℚ) (e : Mat) (hr : ∀ x ∈ d, 0 ≤ x ∧ x < 360) :
    hsOf thr q f (some (relabel d a)) e = hsOf thr q f (some d) e := by
  unfold hsOf specS
  simp only [rotate_dd_kept d a hr]

theorem hsOf_rotate_rows (thr q : ℚ) (f d : Vec) (e : Mat) (A : Nat) :
    hsOf thr q f (some d) (e.map fun r => r.rotate A) = hsOf thr q f (some d) e := by
  unfold hsOf specS
  simp only [oned_rotate_rows]

/-- regridding directions only: nothing is masked as soon as every target lies inside the (extended) source range -/
theorem coreOk_dirOnly_allOK (f d : Vec) (e : Mat) (td : Vec) (hok : ∀ l ∈ (dirStage d e td).locs, l.isSeg = true) :
    (coreOk f (some d) e none (some td)).allOK = true :=
  (allOK_iff _).mpr ⟨List.forall_mem_map.mpr hok, List.forall_mem_map.mpr fun _ _ => rfl⟩

/-- **rotate_bins** — on a uniform full-circle grid (`n ≥ 2` bins of width `Δ`, `nΔ = 360`) rotating by `k·Δ` is the
    circular shift of the data by `k` bins towards higher directions (`out[j] = in[(j − k) mod n]`), exactly, with the
    variance-conservation factor equal to 1 -/
theorem rotate_bins (thr q : ℚ) (f : Vec) (e : Mat) (n : Nat) (d0 Δ : ℚ) (k : Nat) (hn : 2 ≤ n)
    (hΔ : (n : ℚ) * Δ = 360) (h0 : 0 ≤ d0) (h1 : d0 < Δ) (hrect : Rect e n)
    (hpos : 0 < hsOf thr q f (some (uniformDirs d0 Δ n)) e) :
    rotate thr q f (uniformDirs d0 Δ n) e ((k : ℚ) * Δ) =
      .ok { freq := f, dir := some (uniformDirs d0 Δ n),
            e := (e.map fun r => r.rotate (n - k % n)).map (·.map some) } := by
  have hn0 : 0 < n := by omega
  have hr := uniformDirs_range d0 Δ n hΔ h0 h1
  have hlen := uniformDirs_length d0 Δ n
  obtain ⟨hvals, hseg⟩ := regrid_rotated_storage (uniformDirs d0 Δ n) e (k % n)
    (uniformDirs_sorted d0 Δ n (lt_of_le_of_lt h0 h1)) hr (List.ne_nil_of_length_pos (by omega))
    (by rw [hlen]; exact le_of_lt (Nat.mod_lt _ hn0)) (by rw [hlen]; exact hrect)
  rw [hlen, ← relabel_uniform d0 Δ n k hn0 hΔ h0 h1] at hvals
  rw [← relabel_uniform d0 Δ n k hn0 hΔ h0 h1] at hseg
  have hin := hsOf_relabel thr q f _ ((k : ℚ) * Δ) e hr
  have hkept : hsOf thr q f (some (uniformDirs d0 Δ n))
      (dirStage (relabel (uniformDirs d0 Δ n) ((k : ℚ) * Δ)) e (uniformDirs d0 Δ n)).vals =
      hsOf thr q f (some (relabel (uniformDirs d0 Δ n) ((k : ℚ) * Δ))) e := by
    rw [hvals, hsOf_rotate_rows, hin]
  exact (regrid_true_of_hs_kept thr q f (some _) e none _ (fun h => nomatch h) (coreOk_dirOnly_allOK f _ e _ hseg)
    (by rw [hin]; exact hpos) hkept).trans (by rw [← hvals]; rfl)

/-- the rotation angle only matters modulo 360 -/
theorem relabel_add_turns (d : Vec) (a : ℚ) (z : ℤ) : relabel d (a + 360 * z) = relabel d a := by
  unfold relabel
  apply List.map_congr_left
  intro x _
  have : x + (a + 360 * (z : ℚ)) = (x + a) + 360 * (z : ℚ) := by ring
  rw [this, pmod_add_mul_int _ 360 _ (by norm_num)]

theorem rotate_angle_mod (thr q : ℚ) (f d : Vec) (e : Mat) (a : ℚ) (z : ℤ) :
    rotate thr q f d e (a + 360 * z) = rotate thr q f d e a := by
  unfold rotate; rw [relabel_add_turns]

theorem relabel_turns (d : Vec) (z : ℤ) (hr : ∀ x ∈ d, 0 ≤ x ∧ x < 360) : relabel d (360 * z) = d := by
  have h := relabel_add_turns d 0 z
  rw [zero_add] at h
  rw [h, relabel]
  simp only [add_zero]
  exact map_pmod_id d hr

/-- **rotate_360_id** — rotating by 360° (by any whole number of turns, in either sense) is the identity, on every grid
    with sorted distinct directions in `[0, 360)` (one bin is enough since repair 0802ffa), uniform or not, as soon as the
    spectrum has energy -/
theorem rotate_360_id (thr q : ℚ) (f d : Vec) (e : Mat) (z : ℤ) (hf : f.Pairwise (· < ·)) (hnf : f ≠ [])
    (hd : d.Pairwise (· < ·)) (hdr : ∀ x ∈ d, 0 ≤ x ∧ x < 360) (hnd : d ≠ []) (hl : e.length = f.length)
    (hrect : Rect e d.length) (hpos : 0 < hsOf thr q f (some d) e) :
    rotate thr q f d e (360 * z) = .ok { freq := f, dir := some d, e := e.map (·.map some) } := by
  unfold rotate
  rw [relabel_turns d z hdr]
  exact (regrid_id thr q f d e hf hnf hd hdr hnd hl hrect none (some d) (fun h => by cases h) (Or.inl rfl)
    (Or.inr rfl)).2 hpos

/-- **rotate_coords_kept** — for every angle the rotated spectrum lives on the original frequencies and directions -/
theorem rotate_coords_kept (thr q : ℚ) (f d : Vec) (e : Mat) (a : ℚ) (o : Out)
    (h : rotate thr q f d e a = .ok o) : o.freq = f ∧ o.dir = some d :=
  let h' := coords_exact thr q f (some (relabel d a)) e none (some d) true o h
  ⟨h'.1, h'.2.1⟩

/-- **rotate_nonneg** — for every angle a non-negative spectrum stays non-negative -/
theorem rotate_nonneg (thr q : ℚ) (f d : Vec) (e : Mat) (a : ℚ) (o : Out) (he : MatNonneg e)
    (h : rotate thr q f d e a = .ok o) : ∀ r ∈ o.e, ∀ x ∈ r, ∀ v, x = some v → 0 ≤ v :=
  regrid_nonneg thr q f (some (relabel d a)) e none (some d) true o he h

/-- **rotate_hs_kept** — for every angle: whenever the rotated spectrum is finite (no NaN entry, energy on the output
    grid) its `hs` radicand equals the one of the ORIGINAL spectrum with its ORIGINAL direction labels -/
theorem rotate_hs_kept (thr q : ℚ) (f d : Vec) (e : Mat) (a : ℚ) (o : Out) (c : Core)
    (hr : ∀ x ∈ d, 0 ≤ x ∧ x < 360) (h : rotate thr q f d e a = .ok o)
    (hc : core f (some (relabel d a)) e none (some d) = .ok c) (hok : c.allOK = true)
    (hin : 0 ≤ hsOf thr q f (some d) e) (hout : 0 < hsOf thr q c.freq c.dir c.vals) :
    ∃ vals : Mat, o.e = vals.map (·.map some) ∧ hsOf thr q f (some d) vals = hsOf thr q f (some d) e := by
  have hrel := hsOf_relabel thr q f d a e hr
  obtain ⟨vals, h1, h2⟩ := m0_exact thr q f (some (relabel d a)) e none (some d) o c h hc hok (by rw [hrel]; exact hin) hout
  obtain ⟨h3, h4⟩ := rotate_coords_kept thr q f d e a o h
  exact ⟨vals, h1, by rw [← hrel, ← h2, h3, h4]⟩

/-- relabelling back by `−a` recovers a label in `[0, 360)` -/
theorem pmod_shift_back (x a : ℚ) (hx : 0 ≤ x ∧ x < 360) : pmod (pmod (x + a) 360 + -a) 360 = x := by
  rw [C10.pmod_add_pmod _ _ _ (by norm_num), add_neg_cancel_right, pmod_eq_self hx.1 hx.2]

theorem pmod_shift_ne (x y a : ℚ) (hx : 0 ≤ x ∧ x < 360) (hy : 0 ≤ y ∧ y < 360) (hxy : x ≠ y) :
    pmod (x + a) 360 ≠ pmod (y + a) 360 := fun h =>
  hxy ((pmod_shift_back x a hx).symm.trans (h ▸ pmod_shift_back y a hy))

/-- **rotate_finite** — for EVERY angle: with sorted distinct directions in `[0, 360)` (one bin is enough since repair
    0802ffa) no entry of the rotated spectrum is NaN before the variance factor is applied (every original direction
    lies between two relabelled bins on the circle) -/
theorem rotate_finite (f d : Vec) (e : Mat) (a : ℚ) (hdr : ∀ x ∈ d, 0 ≤ x ∧ x < 360) (hnd : d ≠ []) :
    (coreOk f (some (relabel d a)) e none (some d)).allOK = true :=
  coreOk_dirOnly_allOK f _ e d (dir_targets_on_circle_ok (relabel d a) e d
    (fun h => hnd (List.map_eq_nil_iff.mp h)) fun θ hθ => ⟨(hdr θ hθ).1, le_of_lt (hdr θ hθ).2⟩)

/-- **rotate_hs_kept_every_angle** — for every angle, on every grid with directions in `[0, 360)`: if the source has
    real `Hs` and the rotated spectrum has energy, the result is finite and its `hs` radicand equals the one of the
    original spectrum -/
theorem rotate_hs_kept_every_angle (thr q : ℚ) (f d : Vec) (e : Mat) (a : ℚ) (o : Out)
    (hdr : ∀ x ∈ d, 0 ≤ x ∧ x < 360) (hnd : d ≠ [])
    (h : rotate thr q f d e a = .ok o) (hin : 0 ≤ hsOf thr q f (some d) e)
    (hout : 0 < hsOf thr q f (some d) (coreOk f (some (relabel d a)) e none (some d)).vals) :
    ∃ vals : Mat, o.e = vals.map (·.map some) ∧ hsOf thr q f (some d) vals = hsOf thr q f (some d) e :=
  rotate_hs_kept thr q f d e a o (coreOk f (some (relabel d a)) e none (some d)) hdr h rfl
    (rotate_finite f d e a hdr hnd) hin hout

/-! ## M. from the stages to the output of `regrid_spec` (no `maintain_m0`): the stage theorems (seam, anchor) are
       statements about the returned spectrum -/

/-- **regrid_dir_only** — regridding directions only, every target inside the (extended) source range: the returned
    spectrum is exactly the direction-stage interpolant (to which `seam_both_sides`, `interp_node`, … apply) -/
theorem regrid_dir_only (thr q : ℚ) (f d : Vec) (e : Mat) (td : Vec) (hl : e.length = f.length)
    (hok : ∀ l ∈ (dirStage d e td).locs, l.isSeg = true) :
    regrid thr q f (some d) e none (some td) false =
      .ok { freq := f, dir := some td, e := (dirStage d e td).vals.map (·.map some) } :=
  regrid_false_of_allOK thr q f (some d) e none (some td) (fun h => nomatch h) (le_of_eq hl)
    (fun r hr => le_of_eq (dirStage_shape d e td r hr)) (coreOk_dirOnly_allOK f d e td hok)

/-- **regrid_freq_only** — regridding frequencies only (strictly increasing positive source frequencies, at least one):
    the returned spectrum is exactly the frequency-stage interpolant (to which `anchor_below_fmin`,
    `freqStage_above`, … apply) -/
theorem regrid_freq_only (thr q : ℚ) (f : Vec) (d : Option Vec) (e : Mat) (tf : Vec) (hs : f.Pairwise (· < ·))
    (hne : f ≠ []) (hpos : 0 < f.headD 0) (hl : e.length = f.length) (hrect : Rect e (e.headD []).length) :
    regrid thr q f d e (some tf) none false =
      .ok { freq := tf, dir := d, e := (freqStage f e tf).vals.map (·.map some) } := by
  obtain ⟨hsx, heq⟩ := freqStage_sorted f e tf hl hs fun _ => hpos
  have hc : coreOk f d e (some tf) none = ⟨tf, d, (freqStage f e tf).vals, (e.headD []).map fun _ => true,
      (freqStage f e tf).locs⟩ := by cases d <;> rfl
  have hok : (coreOk f d e (some tf) none).allOK = true := by
    rw [hc, allOK_iff]
    refine ⟨List.forall_mem_map.mpr fun _ _ => rfl, ?_⟩
    rw [heq]
    exact List.forall_mem_map.mpr fun x _ => locate_not_nan _ x hsx (freqXs_length f tf hne)
  have h := regrid_false_of_allOK thr q f d e (some tf) none (fun _ => rfl) (le_of_eq hl)
    (dirPart_shape d e none hrect) hok
  rwa [hc] at h

/-! ## N. the hypotheses are satisfiable (non-vacuity), on a 2 × 4 spectrum -/

def fE : Vec := [1 / 10, 1 / 5]
def dE : Vec := [0, 90, 180, 270]
def eE : Mat := [[1, 2, 3, 4], [5, 6, 7, 8]]

theorem fE_sorted : fE.Pairwise (· < ·) := by decide +kernel
theorem dE_sorted : dE.Pairwise (· < ·) := by decide +kernel
theorem dE_range : ∀ x ∈ dE, 0 ≤ x ∧ x < 360 := by decide +kernel
theorem eE_rect : Rect eE dE.length := by unfold Rect; decide +kernel
theorem eE_nonneg : MatNonneg eE := by unfold MatNonneg; decide +kernel
theorem hsE_pos : 0 < hsOf (333 / 1000) (1 / 4) fE (some dE) eE := by decide +kernel

example : fE.Pairwise (· < ·) ∧ 2 ≤ fE.length ∧ dE.Pairwise (· < ·) ∧ (∀ x ∈ dE, 0 ≤ x ∧ x < 360) ∧ 2 ≤ dE.length ∧
    eE.length = fE.length ∧ Rect eE dE.length ∧ MatNonneg eE ∧ 0 < hsOf (333 / 1000) (1 / 4) fE (some dE) eE :=
  ⟨fE_sorted, by decide, dE_sorted, dE_range, by decide, rfl, eE_rect, eE_nonneg, hsE_pos⟩
example := interp_node dE [1, 2, 3, 4] dE_sorted (by decide) 2 (by decide)
example : locate dE 45 = .seg 0 (1 / 2) := by decide +kernel
example := interp_convex dE [1, 2, 3, 4] 45 0 (1 / 2) (by decide +kernel)
def tfE : Vec := [1 / 20, 3 / 20, 1 / 2]
def tdE : Vec := [315, 45, 360]
def oE : Out :=
  { freq := tfE, dir := some tdE,
    e := [[some (180 / 109), some (108 / 109), some (72 / 109)], [some (648 / 109), some (504 / 109), some (432 / 109)],
          [some 0, some 0, some 0]] }
theorem regrid_eE : regrid (333 / 1000) (1 / 4) fE (some dE) eE (some tfE) (some tdE) true = .ok oE := by decide +kernel
example : regrid (333 / 1000) (1 / 4) fE (some dE) eE (some tfE) (some tdE) true = .ok oE := regrid_eE
example := regrid_nonneg (333 / 1000) (1 / 4) fE (some dE) eE (some tfE) (some tdE) true oE eE_nonneg regrid_eE
example := coords_exact (333 / 1000) (1 / 4) fE (some dE) eE (some tfE) (some tdE) true oE regrid_eE
example := zero_above_fmax (333 / 1000) (1 / 4) fE (some dE) eE tfE (some tdE) true oE
  regrid_eE 2 (by decide) (by decide +kernel) (by decide +kernel)
example := m0_exact (333 / 1000) (1 / 4) fE (some dE) eE (some tfE) (some tdE) oE (coreOk fE (some dE) eE (some tfE) (some tdE))
  regrid_eE rfl (by decide +kernel) (le_of_lt hsE_pos) (by decide +kernel)
example := m0_degenerate (333 / 1000) (1 / 4) fE (some dE) [[0, 0, 0, 0], [0, 0, 0, 0]] none (some [45])
  { freq := fE, dir := some [45], e := [[none], [none]] } (coreOk fE (some dE) [[0, 0, 0, 0], [0, 0, 0, 0]] none (some [45]))
  (by decide +kernel) rfl (by decide +kernel)
example := regrid_id (333 / 1000) (1 / 4) fE dE eE fE_sorted (by decide) dE_sorted dE_range (by decide) rfl eE_rect
  (some fE) (some dE) (fun _ => by decide) (Or.inr rfl) (Or.inr rfl)
example := regrid_id (333 / 1000) (1 / 4) [1 / 10] [10] [[1]] (by decide +kernel) (by decide +kernel) (by decide +kernel)
  (by decide +kernel) (by decide +kernel) (by decide +kernel) (by unfold Rect; decide +kernel)
  (some [1 / 10]) (some [10]) (fun _ _ => by decide +kernel) (Or.inr rfl) (Or.inr rfl)
example := anchor_below_fmin fE eE [1 / 20, 3 / 20] fE_sorted (by decide +kernel) (by decide) rfl
  0 (by decide) (by decide +kernel) (by decide +kernel)
example := (seam_both_sides dE eE [315, 45, 360] dE_sorted dE_range (by decide) eE_rect
  1 (by decide) 0 (by decide)).1 (by decide +kernel) (by decide +kernel)
example := (seam_both_sides [10, 100, 190, 280] eE [5, 45] (by decide +kernel) (by decide +kernel) (by decide +kernel)
  (by unfold Rect; decide +kernel) 1 (by decide +kernel) 0 (by decide +kernel)).2 (by decide +kernel) (by decide +kernel)
example := regrid_rotated_storage dE eE 3 dE_sorted dE_range (by decide) (by decide) eE_rect
example : uniformDirs 0 90 4 = dE := by decide +kernel
example := rotate_bins (333 / 1000) (1 / 4) fE eE 4 0 90 5 (by decide) (by norm_num) (by norm_num) (by norm_num)
  eE_rect (by decide +kernel)
example : rotate (333 / 1000) (1 / 4) fE dE eE 90 =
    .ok { freq := fE, dir := some dE, e := [[some 4, some 1, some 2, some 3], [some 8, some 5, some 6, some 7]] } := by
  decide +kernel
example := rotate_dd_kept [315, 0, 45] 50 (by decide +kernel)
example := rotate_360_id (333 / 1000) (1 / 4) fE dE eE (-2) fE_sorted (by decide) dE_sorted dE_range (by decide) rfl
  eE_rect hsE_pos
def oR : Out :=
  { freq := fE, dir := some dE,
    e := [[some (67 / 30), some (143 / 90), some (233 / 90), some (323 / 90)],
          [some (187 / 30), some (503 / 90), some (593 / 90), some (683 / 90)]] }
theorem rotate_eE : rotate (333 / 1000) (1 / 4) fE dE eE 37 = .ok oR := by decide +kernel
example : rotate (333 / 1000) (1 / 4) fE dE eE 37 = .ok oR := rotate_eE
example := rotate_hs_kept (333 / 1000) (1 / 4) fE dE eE 37 oR (coreOk fE (some (relabel dE 37)) eE none (some dE))
  dE_range rotate_eE rfl (by decide +kernel) (le_of_lt hsE_pos) (by decide +kernel)
example := rotate_nonneg (333 / 1000) (1 / 4) fE dE eE 37 oR eE_nonneg rotate_eE
example := rotate_coords_kept (333 / 1000) (1 / 4) fE dE eE 37 oR rotate_eE

example := rotate_finite fE dE eE 37 dE_range (by decide)
example := rotate_finite fE [10] [[1], [2]] 37 (by decide +kernel) (by decide +kernel)
example := rotate_hs_kept_every_angle (333 / 1000) (1 / 4) fE dE eE 37 oR dE_range (by decide) rotate_eE
  (le_of_lt hsE_pos) (by decide +kernel)
example := dir_targets_on_circle_ok [350, 10, 370, 100] eE [0, 5, 359, 360] (by decide +kernel) (by decide +kernel)
example := dir_targets_on_circle_ok [10] eE [0, 10, 360] (by decide +kernel) (by decide +kernel)

example := regrid_dir_only (333 / 1000) (1 / 4) fE dE eE tdE rfl (by decide +kernel)
example := regrid_freq_only (333 / 1000) (1 / 4) fE (some dE) eE tfE fE_sorted (by decide) (by decide +kernel) rfl
  (rect_head eE _ eE_rect)

/-! ## O. tie to the repository's literals (regenerated by the translator on every run) -/

/-- the numeric literals of `regrid_spec`, `SpecArray.rotate` and `SpecArray.dd`, in source order, are the ones the model
    uses: `% 360`, `dir.size == 1`, `isel(dir=-1)`, `− 360`, `dir.size == 1`, `isel(dir=0)`, `+ 360`,
    `len(to_concat) > 1`, `freq.size == 1`, `0 * …isel(freq=0)`,
    `fzero["freq"] = 0`, `fill_value = 0`, `hs ** 2 / hs ** 2`; `% 360` in `rotate`; `1.0`, `360 − dd` in `dd` -/
theorem lits_regrid : Gen.lits_utils_regrid_spec = [360, 1, 1, 360, 1, 0, 360, 1, 1, 0, 0, 0, 0, 2, 2] ∧
    Gen.lits_specarray_rotate = [360] ∧ Gen.lits_specarray_dd = [1, 1, 0, 360, 1] := ⟨rfl, rfl, rfl⟩

/-! ## P. code as found (before repair 0802ffa) — about the explicitly named old model `dirStageAsFound` only -/

/-- in the code as found a single direction bin regridded onto itself got no wrap bin: the node search ran on one node
    and returned `0/0` (finding F27); the repaired model finds it at the end of the first of three nodes -/
theorem single_dir_nan_as_found :
    (dirStageAsFound [10] [[1]] [10]).locs = [Loc.nan] ∧ (dirStage [10] [[1]] [10]).locs = [Loc.seg 0 1] := by
  decide +kernel

end WS.C08
