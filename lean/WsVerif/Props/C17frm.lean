import WsVerif.Model.Frame
import WsVerif.Model.FrameIR
import WsVerif.Gen.FrameKernels
import WsVerif.Lemmas.FrameEval
/-!
# C17 — the REGENERATED frame analysis (T-tier)

`Gen/FrameKernels.lean` holds, for every operation anchored by C17, a `FrameIR` program regenerated from the current
source by `harness/translate_frm.py`.  This file pins the computed may-write set of each on the cells of its parameters
(`genfrm_<op>_writes`, evaluated by the kernel on the equal evaluator `writesFast`: `writes_eq_fast`,
`Lemmas/FrameEval.lean`), instantiates the frame theorem `FrameIR.frame_ir` of the IR (proved for ALL programs in
`Model/FrameIR.lean`), checks that every call summary used by the translator IS the computed write-set of the callee
(`genfrm_calls_*`, read off the `_writes` equations through `summaryOf_*`), pins the names the walker could not classify
(`genfrm_unknown_*`) and connects to the declared table `Frame.writesNew` (`genfrm_table`).  Residual (non-empty) sets are
explained in tools/NOTES-translate_frm.md.
-/
namespace WS.C17
open WS.FrameIR WS.Gen

/-- `a` and `b` have the same elements -/
def sameSet (a b : List (Nat × Cell)) : Bool := a.all b.contains && b.all a.contains

/-- computed write-set of a translated operation, by its generated name -/
def summaryOf : String → List (Nat × Cell)
  | "set_spec_attributes" => writes frm_set_spec_attributes_params prog_set_spec_attributes
  | "unique_indices" => writes frm_unique_indices_params prog_unique_indices
  | "scaled" => writes frm_scaled_params prog_scaled
  | "regrid_spec" => writes frm_regrid_spec_params prog_regrid_spec
  | "smooth_spec" => writes frm_smooth_spec_params prog_smooth_spec
  | "coords_swap" => writes frm_coords_swap_params prog_coords_swap
  | "coords_init" => writes frm_coords_init_params prog_coords_init
  | "sel_nearest" => writes frm_sel_nearest_params prog_sel_nearest
  | "sel_idw" => writes frm_sel_idw_params prog_sel_idw
  | "sel_bbox" => writes frm_sel_bbox_params prog_sel_bbox
  | "to_netcdf" => writes frm_to_netcdf_params prog_to_netcdf
  | "to_ww3" => writes frm_to_ww3_params prog_to_ww3
  | "to_funwave" => writes frm_to_funwave_params prog_to_funwave
  | "from_ww3" => writes frm_from_ww3_params prog_from_ww3
  | "from_ncswan" => writes frm_from_ncswan_params prog_from_ncswan
  | "sa_split" => writes frm_sa_split_params prog_sa_split
  | "sa_scale_by_hs" => writes frm_sa_scale_by_hs_params prog_sa_scale_by_hs
  | "sa_rotate" => writes frm_sa_rotate_params prog_sa_rotate
  | "sa_stats" => writes frm_sa_stats_params prog_sa_stats
  | "part_ptm4" => writes frm_part_ptm4_params prog_part_ptm4
  | "part_ptm5" => writes frm_part_ptm5_params prog_part_ptm5
  | "part_bbox" => writes frm_part_bbox_params prog_part_bbox
  | _ => top [0, 1, 2, 3, 4, 5, 6, 7, 8, 9]

/-- every summary the translator inlined at a call site is the write-set Lean computes for the callee -/
def callsOk (calls : List (String × List (Nat × Cell))) : Bool := calls.all fun c => sameSet c.2 (summaryOf c.1)

theorem genfrm_translated : frm_translated = ["set_spec_attributes", "unique_indices", "scaled", "regrid_spec", "smooth_spec", "coords_swap", "coords_init", "sel_nearest", "sel_idw", "sel_bbox", "to_netcdf", "to_ww3", "to_funwave", "from_ww3", "from_ncswan", "sa_split", "sa_scale_by_hs", "sa_rotate", "sa_stats", "part_ptm4", "part_ptm5", "part_bbox", "from_wwm", "from_era5", "from_ndbc"] := rfl

/-- `set_spec_attributes`: computed may-write set on the parameters' cells -/
theorem genfrm_set_spec_attributes_writes : writes frm_set_spec_attributes_params prog_set_spec_attributes = [(0, .attrs), (0, .held)] := by rw [writes_eq_fast]; decide +kernel
theorem summaryOf_set_spec_attributes : summaryOf "set_spec_attributes" = [(0, .attrs), (0, .held)] := by rw [summaryOf, genfrm_set_spec_attributes_writes]
theorem genfrm_calls_set_spec_attributes : callsOk frm_set_spec_attributes_calls = true := rfl
theorem genfrm_unknown_set_spec_attributes : frm_set_spec_attributes_unknown = [] := rfl
/-- frame outside the residual set -/
theorem genfrm_set_spec_attributes_frame_partial (h : Loc → Nat) (tr : List Stmt) (hsub : ∀ s ∈ tr, s ∈ prog_set_spec_attributes) (v : Var)
    (hv : v ∈ frm_set_spec_attributes_params) (c : Cell) (hn : (v, c) ∉ ([(0, .attrs), (0, .held)] : List (Var × Cell))) :
    (exec tr (init frm_set_spec_attributes_params h)).heap (Loc.param v c) = h (Loc.param v c) :=
  frame_ir_general _ _ h tr hsub v hv c (by rw [genfrm_set_spec_attributes_writes]; exact hn)
example : ∀ s ∈ prog_set_spec_attributes.take 1, s ∈ prog_set_spec_attributes := fun _ hs => List.mem_of_mem_take hs
example : (0 : Var) ∈ frm_set_spec_attributes_params ∧ ((0 : Var), Cell.encoding) ∉ ([(0, .attrs), (0, .held)] : List (Var × Cell)) := by decide

/-- `unique_indices`: computed may-write set on the parameters' cells -/
theorem genfrm_unique_indices_writes : writes frm_unique_indices_params prog_unique_indices = [] := by rw [writes_eq_fast]; decide +kernel
theorem summaryOf_unique_indices : summaryOf "unique_indices" = [] := by rw [summaryOf, genfrm_unique_indices_writes]
theorem genfrm_calls_unique_indices : callsOk frm_unique_indices_calls = true := rfl
theorem genfrm_unknown_unique_indices : frm_unique_indices_unknown = [] := rfl
/-- frame: whatever statements of `unique_indices` execute, in whatever order, no cell of any argument changes -/
theorem genfrm_unique_indices_frame (h : Loc → Nat) (tr : List Stmt) (hsub : ∀ s ∈ tr, s ∈ prog_unique_indices) (v : Var)
    (hv : v ∈ frm_unique_indices_params) (c : Cell) : (exec tr (init frm_unique_indices_params h)).heap (Loc.param v c) = h (Loc.param v c) :=
  frame_ir _ _ genfrm_unique_indices_writes h tr hsub v hv c
example : ∀ s ∈ prog_unique_indices.take 1, s ∈ prog_unique_indices := fun _ hs => List.mem_of_mem_take hs
example : (0 : Var) ∈ frm_unique_indices_params := by decide

/-- `scaled`: computed may-write set on the parameters' cells -/
theorem genfrm_scaled_writes : writes frm_scaled_params prog_scaled = [] := by rw [writes_eq_fast]; decide +kernel
theorem genfrm_calls_scaled : callsOk frm_scaled_calls = true := rfl
theorem genfrm_unknown_scaled : frm_scaled_unknown = [] := rfl
/-- frame: whatever statements of `scaled` execute, in whatever order, no cell of any argument changes -/
theorem genfrm_scaled_frame (h : Loc → Nat) (tr : List Stmt) (hsub : ∀ s ∈ tr, s ∈ prog_scaled) (v : Var)
    (hv : v ∈ frm_scaled_params) (c : Cell) : (exec tr (init frm_scaled_params h)).heap (Loc.param v c) = h (Loc.param v c) :=
  frame_ir _ _ genfrm_scaled_writes h tr hsub v hv c
example : ∀ s ∈ prog_scaled.take 1, s ∈ prog_scaled := fun _ hs => List.mem_of_mem_take hs
example : (0 : Var) ∈ frm_scaled_params := by decide

/-- `regrid_spec`: computed may-write set on the parameters' cells -/
theorem genfrm_regrid_spec_writes : writes frm_regrid_spec_params prog_regrid_spec = [] := by rw [writes_eq_fast]; decide +kernel
theorem summaryOf_regrid_spec : summaryOf "regrid_spec" = [] := by rw [summaryOf, genfrm_regrid_spec_writes]
theorem genfrm_calls_regrid_spec : callsOk frm_regrid_spec_calls = true := by
  simp only [callsOk, frm_regrid_spec_calls, List.all_cons, List.all_nil, summaryOf_unique_indices, summaryOf_set_spec_attributes]
  decide
theorem genfrm_unknown_regrid_spec : frm_regrid_spec_unknown = [] := rfl
/-- frame: whatever statements of `regrid_spec` execute, in whatever order, no cell of any argument changes -/
theorem genfrm_regrid_spec_frame (h : Loc → Nat) (tr : List Stmt) (hsub : ∀ s ∈ tr, s ∈ prog_regrid_spec) (v : Var)
    (hv : v ∈ frm_regrid_spec_params) (c : Cell) : (exec tr (init frm_regrid_spec_params h)).heap (Loc.param v c) = h (Loc.param v c) :=
  frame_ir _ _ genfrm_regrid_spec_writes h tr hsub v hv c
example : ∀ s ∈ prog_regrid_spec.take 1, s ∈ prog_regrid_spec := fun _ hs => List.mem_of_mem_take hs
example : (0 : Var) ∈ frm_regrid_spec_params := by decide

/-- `smooth_spec`: computed may-write set on the parameters' cells -/
theorem genfrm_smooth_spec_writes : writes frm_smooth_spec_params prog_smooth_spec = [] := by rw [writes_eq_fast]; decide +kernel
theorem genfrm_calls_smooth_spec : callsOk frm_smooth_spec_calls = true := by
  simp only [callsOk, frm_smooth_spec_calls, List.all_cons, List.all_nil, summaryOf_set_spec_attributes]
  decide
theorem genfrm_unknown_smooth_spec : frm_smooth_spec_unknown = ["slice"] := rfl
/-- frame: whatever statements of `smooth_spec` execute, in whatever order, no cell of any argument changes -/
theorem genfrm_smooth_spec_frame (h : Loc → Nat) (tr : List Stmt) (hsub : ∀ s ∈ tr, s ∈ prog_smooth_spec) (v : Var)
    (hv : v ∈ frm_smooth_spec_params) (c : Cell) : (exec tr (init frm_smooth_spec_params h)).heap (Loc.param v c) = h (Loc.param v c) :=
  frame_ir _ _ genfrm_smooth_spec_writes h tr hsub v hv c
example : ∀ s ∈ prog_smooth_spec.take 1, s ∈ prog_smooth_spec := fun _ hs => List.mem_of_mem_take hs
example : (0 : Var) ∈ frm_smooth_spec_params := by decide

/-- `coords_swap`: computed may-write set on the parameters' cells -/
theorem genfrm_coords_swap_writes : writes frm_coords_swap_params prog_coords_swap = [(1, .values), (1, .coords), (1, .dims)] := by rw [writes_eq_fast]; decide +kernel
theorem summaryOf_coords_swap : summaryOf "coords_swap" = [(1, .values), (1, .coords), (1, .dims)] := by rw [summaryOf, genfrm_coords_swap_writes]
theorem genfrm_calls_coords_swap : callsOk frm_coords_swap_calls = true := rfl
theorem genfrm_unknown_coords_swap : frm_coords_swap_unknown = ["._is_180", "._is_360"] := rfl
/-- frame outside the residual set -/
theorem genfrm_coords_swap_frame_partial (h : Loc → Nat) (tr : List Stmt) (hsub : ∀ s ∈ tr, s ∈ prog_coords_swap) (v : Var)
    (hv : v ∈ frm_coords_swap_params) (c : Cell) (hn : (v, c) ∉ ([(1, .values), (1, .coords), (1, .dims)] : List (Var × Cell))) :
    (exec tr (init frm_coords_swap_params h)).heap (Loc.param v c) = h (Loc.param v c) :=
  frame_ir_general _ _ h tr hsub v hv c (by rw [genfrm_coords_swap_writes]; exact hn)
example : ∀ s ∈ prog_coords_swap.take 1, s ∈ prog_coords_swap := fun _ hs => List.mem_of_mem_take hs
example : (0 : Var) ∈ frm_coords_swap_params ∧ ((0 : Var), Cell.encoding) ∉ ([(1, .values), (1, .coords), (1, .dims)] : List (Var × Cell)) := by decide

/-- `coords_init`: computed may-write set on the parameters' cells -/
theorem genfrm_coords_init_writes : writes frm_coords_init_params prog_coords_init = [(0, .attrs)] := by rw [writes_eq_fast]; decide +kernel
theorem summaryOf_coords_init : summaryOf "coords_init" = [(0, .attrs)] := by rw [summaryOf, genfrm_coords_init_writes]
theorem genfrm_calls_coords_init : callsOk frm_coords_init_calls = true := rfl
theorem genfrm_unknown_coords_init : frm_coords_init_unknown = ["._validate", "._is_360"] := rfl
/-- frame outside the residual set -/
theorem genfrm_coords_init_frame_partial (h : Loc → Nat) (tr : List Stmt) (hsub : ∀ s ∈ tr, s ∈ prog_coords_init) (v : Var)
    (hv : v ∈ frm_coords_init_params) (c : Cell) (hn : (v, c) ∉ ([(0, .attrs)] : List (Var × Cell))) :
    (exec tr (init frm_coords_init_params h)).heap (Loc.param v c) = h (Loc.param v c) :=
  frame_ir_general _ _ h tr hsub v hv c (by rw [genfrm_coords_init_writes]; exact hn)
example : ∀ s ∈ prog_coords_init.take 1, s ∈ prog_coords_init := fun _ hs => List.mem_of_mem_take hs
example : (0 : Var) ∈ frm_coords_init_params ∧ ((0 : Var), Cell.encoding) ∉ ([(0, .attrs)] : List (Var × Cell)) := by decide

/-- `sel_nearest`: computed may-write set on the parameters' cells -/
theorem genfrm_sel_nearest_writes : writes frm_sel_nearest_params prog_sel_nearest = [(0, .values), (1, .values), (2, .values), (6, .values), (7, .values)] := by rw [writes_eq_fast]; decide +kernel
theorem genfrm_calls_sel_nearest : callsOk frm_sel_nearest_calls = true := by
  simp only [callsOk, frm_sel_nearest_calls, List.all_cons, List.all_nil, summaryOf_coords_init, summaryOf_coords_swap]
  decide
theorem genfrm_unknown_sel_nearest : frm_sel_nearest_unknown = [".nearest"] := rfl
/-- frame outside the residual set -/
theorem genfrm_sel_nearest_frame_partial (h : Loc → Nat) (tr : List Stmt) (hsub : ∀ s ∈ tr, s ∈ prog_sel_nearest) (v : Var)
    (hv : v ∈ frm_sel_nearest_params) (c : Cell) (hn : (v, c) ∉ ([(0, .values), (1, .values), (2, .values), (6, .values), (7, .values)] : List (Var × Cell))) :
    (exec tr (init frm_sel_nearest_params h)).heap (Loc.param v c) = h (Loc.param v c) :=
  frame_ir_general _ _ h tr hsub v hv c (by rw [genfrm_sel_nearest_writes]; exact hn)
example : ∀ s ∈ prog_sel_nearest.take 1, s ∈ prog_sel_nearest := fun _ hs => List.mem_of_mem_take hs
example : (0 : Var) ∈ frm_sel_nearest_params ∧ ((0 : Var), Cell.encoding) ∉ ([(0, .values), (1, .values), (2, .values), (6, .values), (7, .values)] : List (Var × Cell)) := by decide

/-- `sel_idw`: computed may-write set on the parameters' cells -/
theorem genfrm_sel_idw_writes : writes frm_sel_idw_params prog_sel_idw = [(0, .dims), (0, .values), (1, .values), (2, .values), (5, .values), (6, .values)] := by rw [writes_eq_fast]; decide +kernel
theorem genfrm_calls_sel_idw : callsOk frm_sel_idw_calls = true := by
  simp only [callsOk, frm_sel_idw_calls, List.all_cons, List.all_nil, summaryOf_coords_init, summaryOf_coords_swap, summaryOf_set_spec_attributes]
  decide
theorem genfrm_unknown_sel_idw : frm_sel_idw_unknown = [".nearer"] := rfl
/-- frame outside the residual set -/
theorem genfrm_sel_idw_frame_partial (h : Loc → Nat) (tr : List Stmt) (hsub : ∀ s ∈ tr, s ∈ prog_sel_idw) (v : Var)
    (hv : v ∈ frm_sel_idw_params) (c : Cell) (hn : (v, c) ∉ ([(0, .dims), (0, .values), (1, .values), (2, .values), (5, .values), (6, .values)] : List (Var × Cell))) :
    (exec tr (init frm_sel_idw_params h)).heap (Loc.param v c) = h (Loc.param v c) :=
  frame_ir_general _ _ h tr hsub v hv c (by rw [genfrm_sel_idw_writes]; exact hn)
example : ∀ s ∈ prog_sel_idw.take 1, s ∈ prog_sel_idw := fun _ hs => List.mem_of_mem_take hs
example : (0 : Var) ∈ frm_sel_idw_params ∧ ((0 : Var), Cell.encoding) ∉ ([(0, .dims), (0, .values), (1, .values), (2, .values), (5, .values), (6, .values)] : List (Var × Cell)) := by decide

/-- `sel_bbox`: computed may-write set on the parameters' cells -/
theorem genfrm_sel_bbox_writes : writes frm_sel_bbox_params prog_sel_bbox = [(0, .values)] := by rw [writes_eq_fast]; decide +kernel
theorem genfrm_calls_sel_bbox : callsOk frm_sel_bbox_calls = true := by
  simp only [callsOk, frm_sel_bbox_calls, List.all_cons, List.all_nil, summaryOf_coords_init, summaryOf_coords_swap]
  decide
theorem genfrm_unknown_sel_bbox : frm_sel_bbox_unknown = [] := rfl
/-- frame outside the residual set -/
theorem genfrm_sel_bbox_frame_partial (h : Loc → Nat) (tr : List Stmt) (hsub : ∀ s ∈ tr, s ∈ prog_sel_bbox) (v : Var)
    (hv : v ∈ frm_sel_bbox_params) (c : Cell) (hn : (v, c) ∉ ([(0, .values)] : List (Var × Cell))) :
    (exec tr (init frm_sel_bbox_params h)).heap (Loc.param v c) = h (Loc.param v c) :=
  frame_ir_general _ _ h tr hsub v hv c (by rw [genfrm_sel_bbox_writes]; exact hn)
example : ∀ s ∈ prog_sel_bbox.take 1, s ∈ prog_sel_bbox := fun _ hs => List.mem_of_mem_take hs
example : (0 : Var) ∈ frm_sel_bbox_params ∧ ((0 : Var), Cell.encoding) ∉ ([(0, .values)] : List (Var × Cell)) := by decide

/-- `to_netcdf`: computed may-write set on the parameters' cells -/
theorem genfrm_to_netcdf_writes : writes frm_to_netcdf_params prog_to_netcdf = [] := by rw [writes_eq_fast]; decide +kernel
theorem genfrm_calls_to_netcdf : callsOk frm_to_netcdf_calls = true := rfl
theorem genfrm_unknown_to_netcdf : frm_to_netcdf_unknown = [] := rfl
/-- frame: whatever statements of `to_netcdf` execute, in whatever order, no cell of any argument changes -/
theorem genfrm_to_netcdf_frame (h : Loc → Nat) (tr : List Stmt) (hsub : ∀ s ∈ tr, s ∈ prog_to_netcdf) (v : Var)
    (hv : v ∈ frm_to_netcdf_params) (c : Cell) : (exec tr (init frm_to_netcdf_params h)).heap (Loc.param v c) = h (Loc.param v c) :=
  frame_ir _ _ genfrm_to_netcdf_writes h tr hsub v hv c
example : ∀ s ∈ prog_to_netcdf.take 1, s ∈ prog_to_netcdf := fun _ hs => List.mem_of_mem_take hs
example : (0 : Var) ∈ frm_to_netcdf_params := by decide

/-- `to_ww3`: computed may-write set on the parameters' cells -/
theorem genfrm_to_ww3_writes : writes frm_to_ww3_params prog_to_ww3 = [] := by rw [writes_eq_fast]; decide +kernel
theorem genfrm_calls_to_ww3 : callsOk frm_to_ww3_calls = true := rfl
theorem genfrm_unknown_to_ww3 : frm_to_ww3_unknown = ["MAPPING.items", "VAR_ATTRIBUTES.items"] := rfl
/-- frame: whatever statements of `to_ww3` execute, in whatever order, no cell of any argument changes -/
theorem genfrm_to_ww3_frame (h : Loc → Nat) (tr : List Stmt) (hsub : ∀ s ∈ tr, s ∈ prog_to_ww3) (v : Var)
    (hv : v ∈ frm_to_ww3_params) (c : Cell) : (exec tr (init frm_to_ww3_params h)).heap (Loc.param v c) = h (Loc.param v c) :=
  frame_ir _ _ genfrm_to_ww3_writes h tr hsub v hv c
example : ∀ s ∈ prog_to_ww3.take 1, s ∈ prog_to_ww3 := fun _ hs => List.mem_of_mem_take hs
example : (0 : Var) ∈ frm_to_ww3_params := by decide

/-- `to_funwave`: computed may-write set on the parameters' cells -/
theorem genfrm_to_funwave_writes : writes frm_to_funwave_params prog_to_funwave = [] := by rw [writes_eq_fast]; decide +kernel
theorem genfrm_calls_to_funwave : callsOk frm_to_funwave_calls = true := rfl
theorem genfrm_unknown_to_funwave : frm_to_funwave_unknown = ["slice", "funwave_spectrum"] := rfl
/-- frame: whatever statements of `to_funwave` execute, in whatever order, no cell of any argument changes -/
theorem genfrm_to_funwave_frame (h : Loc → Nat) (tr : List Stmt) (hsub : ∀ s ∈ tr, s ∈ prog_to_funwave) (v : Var)
    (hv : v ∈ frm_to_funwave_params) (c : Cell) : (exec tr (init frm_to_funwave_params h)).heap (Loc.param v c) = h (Loc.param v c) :=
  frame_ir _ _ genfrm_to_funwave_writes h tr hsub v hv c
example : ∀ s ∈ prog_to_funwave.take 1, s ∈ prog_to_funwave := fun _ hs => List.mem_of_mem_take hs
example : (0 : Var) ∈ frm_to_funwave_params := by decide

/-- `from_ww3`: computed may-write set on the parameters' cells -/
theorem genfrm_from_ww3_writes : writes frm_from_ww3_params prog_from_ww3 = [] := by rw [writes_eq_fast]; decide +kernel
theorem genfrm_calls_from_ww3 : callsOk frm_from_ww3_calls = true := by
  simp only [callsOk, frm_from_ww3_calls, List.all_cons, List.all_nil, summaryOf_set_spec_attributes]
  decide
theorem genfrm_unknown_from_ww3 : frm_from_ww3_unknown = ["MAPPING.items"] := rfl
/-- frame: whatever statements of `from_ww3` execute, in whatever order, no cell of any argument changes -/
theorem genfrm_from_ww3_frame (h : Loc → Nat) (tr : List Stmt) (hsub : ∀ s ∈ tr, s ∈ prog_from_ww3) (v : Var)
    (hv : v ∈ frm_from_ww3_params) (c : Cell) : (exec tr (init frm_from_ww3_params h)).heap (Loc.param v c) = h (Loc.param v c) :=
  frame_ir _ _ genfrm_from_ww3_writes h tr hsub v hv c
example : ∀ s ∈ prog_from_ww3.take 1, s ∈ prog_from_ww3 := fun _ hs => List.mem_of_mem_take hs
example : (0 : Var) ∈ frm_from_ww3_params := by decide

/-- `from_ncswan`: computed may-write set on the parameters' cells -/
theorem genfrm_from_ncswan_writes : writes frm_from_ncswan_params prog_from_ncswan = [] := by rw [writes_eq_fast]; decide +kernel
theorem genfrm_calls_from_ncswan : callsOk frm_from_ncswan_calls = true := by
  simp only [callsOk, frm_from_ncswan_calls, List.all_cons, List.all_nil, summaryOf_set_spec_attributes]
  decide
theorem genfrm_unknown_from_ncswan : frm_from_ncswan_unknown = ["MAPPING.items", "uv_to_spddir"] := rfl
/-- frame: whatever statements of `from_ncswan` execute, in whatever order, no cell of any argument changes -/
theorem genfrm_from_ncswan_frame (h : Loc → Nat) (tr : List Stmt) (hsub : ∀ s ∈ tr, s ∈ prog_from_ncswan) (v : Var)
    (hv : v ∈ frm_from_ncswan_params) (c : Cell) : (exec tr (init frm_from_ncswan_params h)).heap (Loc.param v c) = h (Loc.param v c) :=
  frame_ir _ _ genfrm_from_ncswan_writes h tr hsub v hv c
example : ∀ s ∈ prog_from_ncswan.take 1, s ∈ prog_from_ncswan := fun _ hs => List.mem_of_mem_take hs
example : (0 : Var) ∈ frm_from_ncswan_params := by decide

/-- `sa_split`: computed may-write set on the parameters' cells -/
theorem genfrm_sa_split_writes : writes frm_sa_split_params prog_sa_split = [] := by rw [writes_eq_fast]; decide +kernel
theorem genfrm_calls_sa_split : callsOk frm_sa_split_calls = true := rfl
theorem genfrm_unknown_sa_split : frm_sa_split_unknown = ["slice", "._interp_freq"] := rfl
/-- frame: whatever statements of `sa_split` execute, in whatever order, no cell of any argument changes -/
theorem genfrm_sa_split_frame (h : Loc → Nat) (tr : List Stmt) (hsub : ∀ s ∈ tr, s ∈ prog_sa_split) (v : Var)
    (hv : v ∈ frm_sa_split_params) (c : Cell) : (exec tr (init frm_sa_split_params h)).heap (Loc.param v c) = h (Loc.param v c) :=
  frame_ir _ _ genfrm_sa_split_writes h tr hsub v hv c
example : ∀ s ∈ prog_sa_split.take 1, s ∈ prog_sa_split := fun _ hs => List.mem_of_mem_take hs
example : (0 : Var) ∈ frm_sa_split_params := by decide

/-- `sa_scale_by_hs`: computed may-write set on the parameters' cells -/
theorem genfrm_sa_scale_by_hs_writes : writes frm_sa_scale_by_hs_params prog_sa_scale_by_hs = [] := by rw [writes_eq_fast]; decide +kernel
theorem genfrm_calls_sa_scale_by_hs : callsOk frm_sa_scale_by_hs_calls = true := rfl
theorem genfrm_unknown_sa_scale_by_hs : frm_sa_scale_by_hs_unknown = ["eval"] := rfl
/-- frame: whatever statements of `sa_scale_by_hs` execute, in whatever order, no cell of any argument changes -/
theorem genfrm_sa_scale_by_hs_frame (h : Loc → Nat) (tr : List Stmt) (hsub : ∀ s ∈ tr, s ∈ prog_sa_scale_by_hs) (v : Var)
    (hv : v ∈ frm_sa_scale_by_hs_params) (c : Cell) : (exec tr (init frm_sa_scale_by_hs_params h)).heap (Loc.param v c) = h (Loc.param v c) :=
  frame_ir _ _ genfrm_sa_scale_by_hs_writes h tr hsub v hv c
example : ∀ s ∈ prog_sa_scale_by_hs.take 1, s ∈ prog_sa_scale_by_hs := fun _ hs => List.mem_of_mem_take hs
example : (0 : Var) ∈ frm_sa_scale_by_hs_params := by decide

/-- `sa_rotate`: computed may-write set on the parameters' cells -/
theorem genfrm_sa_rotate_writes : writes frm_sa_rotate_params prog_sa_rotate = [] := by rw [writes_eq_fast]; decide +kernel
theorem genfrm_calls_sa_rotate : callsOk frm_sa_rotate_calls = true := by
  simp only [callsOk, frm_sa_rotate_calls, List.all_cons, List.all_nil, summaryOf_regrid_spec]
  decide
theorem genfrm_unknown_sa_rotate : frm_sa_rotate_unknown = [] := rfl
/-- frame: whatever statements of `sa_rotate` execute, in whatever order, no cell of any argument changes -/
theorem genfrm_sa_rotate_frame (h : Loc → Nat) (tr : List Stmt) (hsub : ∀ s ∈ tr, s ∈ prog_sa_rotate) (v : Var)
    (hv : v ∈ frm_sa_rotate_params) (c : Cell) : (exec tr (init frm_sa_rotate_params h)).heap (Loc.param v c) = h (Loc.param v c) :=
  frame_ir _ _ genfrm_sa_rotate_writes h tr hsub v hv c
example : ∀ s ∈ prog_sa_rotate.take 1, s ∈ prog_sa_rotate := fun _ hs => List.mem_of_mem_take hs
example : (0 : Var) ∈ frm_sa_rotate_params := by decide

/-- `sa_stats`: computed may-write set on the parameters' cells -/
theorem genfrm_sa_stats_writes : writes frm_sa_stats_params prog_sa_stats = [] := by rw [writes_eq_fast]; decide +kernel
theorem genfrm_calls_sa_stats : callsOk frm_sa_stats_calls = true := rfl
theorem genfrm_unknown_sa_stats : frm_sa_stats_unknown = [".split", "<local>stats_func"] := rfl
/-- frame: whatever statements of `sa_stats` execute, in whatever order, no cell of any argument changes -/
theorem genfrm_sa_stats_frame (h : Loc → Nat) (tr : List Stmt) (hsub : ∀ s ∈ tr, s ∈ prog_sa_stats) (v : Var)
    (hv : v ∈ frm_sa_stats_params) (c : Cell) : (exec tr (init frm_sa_stats_params h)).heap (Loc.param v c) = h (Loc.param v c) :=
  frame_ir _ _ genfrm_sa_stats_writes h tr hsub v hv c
example : ∀ s ∈ prog_sa_stats.take 1, s ∈ prog_sa_stats := fun _ hs => List.mem_of_mem_take hs
example : (0 : Var) ∈ frm_sa_stats_params := by decide

/-- `part_ptm4`: computed may-write set on the parameters' cells -/
theorem genfrm_part_ptm4_writes : writes frm_part_ptm4_params prog_part_ptm4 = [(0, .attrs)] := by rw [writes_eq_fast]; decide +kernel
theorem genfrm_calls_part_ptm4 : callsOk frm_part_ptm4_calls = true := rfl
theorem genfrm_unknown_part_ptm4 : frm_part_ptm4_unknown = ["waveage", "._set_metadata"] := rfl
/-- frame outside the residual set -/
theorem genfrm_part_ptm4_frame_partial (h : Loc → Nat) (tr : List Stmt) (hsub : ∀ s ∈ tr, s ∈ prog_part_ptm4) (v : Var)
    (hv : v ∈ frm_part_ptm4_params) (c : Cell) (hn : (v, c) ∉ ([(0, .attrs)] : List (Var × Cell))) :
    (exec tr (init frm_part_ptm4_params h)).heap (Loc.param v c) = h (Loc.param v c) :=
  frame_ir_general _ _ h tr hsub v hv c (by rw [genfrm_part_ptm4_writes]; exact hn)
example : ∀ s ∈ prog_part_ptm4.take 1, s ∈ prog_part_ptm4 := fun _ hs => List.mem_of_mem_take hs
example : (0 : Var) ∈ frm_part_ptm4_params ∧ ((0 : Var), Cell.encoding) ∉ ([(0, .attrs)] : List (Var × Cell)) := by decide

/-- `part_ptm5`: computed may-write set on the parameters' cells -/
theorem genfrm_part_ptm5_writes : writes frm_part_ptm5_params prog_part_ptm5 = [(0, .attrs)] := by rw [writes_eq_fast]; decide +kernel
theorem genfrm_calls_part_ptm5 : callsOk frm_part_ptm5_calls = true := by
  simp only [callsOk, frm_part_ptm5_calls, List.all_cons, List.all_nil, summaryOf_regrid_spec]
  decide
theorem genfrm_unknown_part_ptm5 : frm_part_ptm5_unknown = [".union", "._set_metadata"] := rfl
/-- frame outside the residual set -/
theorem genfrm_part_ptm5_frame_partial (h : Loc → Nat) (tr : List Stmt) (hsub : ∀ s ∈ tr, s ∈ prog_part_ptm5) (v : Var)
    (hv : v ∈ frm_part_ptm5_params) (c : Cell) (hn : (v, c) ∉ ([(0, .attrs)] : List (Var × Cell))) :
    (exec tr (init frm_part_ptm5_params h)).heap (Loc.param v c) = h (Loc.param v c) :=
  frame_ir_general _ _ h tr hsub v hv c (by rw [genfrm_part_ptm5_writes]; exact hn)
example : ∀ s ∈ prog_part_ptm5.take 1, s ∈ prog_part_ptm5 := fun _ hs => List.mem_of_mem_take hs
example : (0 : Var) ∈ frm_part_ptm5_params ∧ ((0 : Var), Cell.encoding) ∉ ([(0, .attrs)] : List (Var × Cell)) := by decide

/-- `part_bbox`: computed may-write set on the parameters' cells -/
theorem genfrm_part_bbox_writes : writes frm_part_bbox_params prog_part_bbox = [(0, .attrs)] := by rw [writes_eq_fast]; decide +kernel
theorem genfrm_calls_part_bbox : callsOk frm_part_bbox_calls = true := rfl
theorem genfrm_unknown_part_bbox : frm_part_bbox_unknown = ["combinations", "is_overlap", "._set_metadata"] := rfl
/-- frame outside the residual set -/
theorem genfrm_part_bbox_frame_partial (h : Loc → Nat) (tr : List Stmt) (hsub : ∀ s ∈ tr, s ∈ prog_part_bbox) (v : Var)
    (hv : v ∈ frm_part_bbox_params) (c : Cell) (hn : (v, c) ∉ ([(0, .attrs)] : List (Var × Cell))) :
    (exec tr (init frm_part_bbox_params h)).heap (Loc.param v c) = h (Loc.param v c) :=
  frame_ir_general _ _ h tr hsub v hv c (by rw [genfrm_part_bbox_writes]; exact hn)
example : ∀ s ∈ prog_part_bbox.take 1, s ∈ prog_part_bbox := fun _ hs => List.mem_of_mem_take hs
example : (0 : Var) ∈ frm_part_bbox_params ∧ ((0 : Var), Cell.encoding) ∉ ([(0, .attrs)] : List (Var × Cell)) := by decide

/-- FrameIR cell → cell of the declared table of `Model/Frame.lean` -/
def toFrame : Cell → WS.Frame.Cell
  | .values => .values | .coords => .coords | .attrs => .attrs | .encoding => .encoding | .dims => .dimOrder
  | .name => .attrs | .held => .attrs

/-- `from_wwm`: computed may-write set on the parameters' cells -/
theorem genfrm_from_wwm_writes : writes frm_from_wwm_params prog_from_wwm = [] := by rw [writes_eq_fast]; decide +kernel
theorem genfrm_calls_from_wwm : callsOk frm_from_wwm_calls = true := by
  simp only [callsOk, frm_from_wwm_calls, List.all_cons, List.all_nil, summaryOf_set_spec_attributes]
  decide
theorem genfrm_unknown_from_wwm : frm_from_wwm_unknown = ["MAPPING.items", "uv_to_spddir"] := rfl
/-- frame: whatever statements of `from_wwm` execute, in whatever order, no cell of any argument changes -/
theorem genfrm_from_wwm_frame (h : Loc → Nat) (tr : List Stmt) (hsub : ∀ s ∈ tr, s ∈ prog_from_wwm) (v : Var)
    (hv : v ∈ frm_from_wwm_params) (c : Cell) : (exec tr (init frm_from_wwm_params h)).heap (Loc.param v c) = h (Loc.param v c) :=
  frame_ir _ _ genfrm_from_wwm_writes h tr hsub v hv c
example : ∀ s ∈ prog_from_wwm.take 1, s ∈ prog_from_wwm := fun _ hs => List.mem_of_mem_take hs
example : (0 : Var) ∈ frm_from_wwm_params := by decide

/-- `from_era5`: computed may-write set on the parameters' cells -/
theorem genfrm_from_era5_writes : writes frm_from_era5_params prog_from_era5 = [] := by rw [writes_eq_fast]; decide +kernel
theorem genfrm_calls_from_era5 : callsOk frm_from_era5_calls = true := by
  simp only [callsOk, frm_from_era5_calls, List.all_cons, List.all_nil, summaryOf_set_spec_attributes]
  decide
theorem genfrm_unknown_from_era5 : frm_from_era5_unknown = [] := rfl
/-- frame: whatever statements of `from_era5` execute, in whatever order, no cell of any argument changes -/
theorem genfrm_from_era5_frame (h : Loc → Nat) (tr : List Stmt) (hsub : ∀ s ∈ tr, s ∈ prog_from_era5) (v : Var)
    (hv : v ∈ frm_from_era5_params) (c : Cell) : (exec tr (init frm_from_era5_params h)).heap (Loc.param v c) = h (Loc.param v c) :=
  frame_ir _ _ genfrm_from_era5_writes h tr hsub v hv c
example : ∀ s ∈ prog_from_era5.take 1, s ∈ prog_from_era5 := fun _ hs => List.mem_of_mem_take hs
example : (0 : Var) ∈ frm_from_era5_params := by decide

/-- `from_ndbc`: computed may-write set on the parameters' cells -/
theorem genfrm_from_ndbc_writes : writes frm_from_ndbc_params prog_from_ndbc = [] := by rw [writes_eq_fast]; decide +kernel
theorem genfrm_calls_from_ndbc : callsOk frm_from_ndbc_calls = true := by
  simp only [callsOk, frm_from_ndbc_calls, List.all_cons, List.all_nil, summaryOf_set_spec_attributes]
  decide
theorem genfrm_unknown_from_ndbc : frm_from_ndbc_unknown = ["_construct_spectra", "MAPPING.items"] := rfl
/-- frame: whatever statements of `from_ndbc` execute, in whatever order, no cell of any argument changes -/
theorem genfrm_from_ndbc_frame (h : Loc → Nat) (tr : List Stmt) (hsub : ∀ s ∈ tr, s ∈ prog_from_ndbc) (v : Var)
    (hv : v ∈ frm_from_ndbc_params) (c : Cell) : (exec tr (init frm_from_ndbc_params h)).heap (Loc.param v c) = h (Loc.param v c) :=
  frame_ir _ _ genfrm_from_ndbc_writes h tr hsub v hv c
example : ∀ s ∈ prog_from_ndbc.take 1, s ∈ prog_from_ndbc := fun _ hs => List.mem_of_mem_take hs
example : (0 : Var) ∈ frm_from_ndbc_params := by decide

/-- the translated operations whose regenerated write-set is empty: (name in the declared table, parameters, program) -/
def translatedOps : List (String × List Var × Prog) := [
  ("unique_indices", frm_unique_indices_params, prog_unique_indices),
  ("scaled", frm_scaled_params, prog_scaled),
  ("regrid_spec", frm_regrid_spec_params, prog_regrid_spec),
  ("smooth_spec", frm_smooth_spec_params, prog_smooth_spec),
  ("to_netcdf", frm_to_netcdf_params, prog_to_netcdf),
  ("to_ww3", frm_to_ww3_params, prog_to_ww3),
  ("to_funwave", frm_to_funwave_params, prog_to_funwave),
  ("from_ww3", frm_from_ww3_params, prog_from_ww3),
  ("from_ncswan", frm_from_ncswan_params, prog_from_ncswan),
  ("sa_split", frm_sa_split_params, prog_sa_split),
  ("sa_scale_by_hs", frm_sa_scale_by_hs_params, prog_sa_scale_by_hs),
  ("sa_rotate", frm_sa_rotate_params, prog_sa_rotate),
  ("sa_stats", frm_sa_stats_params, prog_sa_stats)]

/-- the declared table agrees with the regenerated sets on every translated operation with an empty set -/
theorem genfrm_table : ∀ op ∈ translatedOps, (WS.Frame.writesNew op.1).map id = (writes op.2.1 op.2.2).map (fun t => toFrame t.2) := by
  -- the declared set is empty for every name, so a row says that the computed set is empty: the `_writes` theorems
  have row : ∀ (name : String) {ps : List Var} {p : Prog}, writes ps p = [] →
      (WS.Frame.writesNew name).map id = (writes ps p).map (fun t => toFrame t.2) := fun _ _ _ h => by rw [h]; rfl
  simp only [translatedOps, List.forall_mem_cons]
  exact ⟨row _ genfrm_unique_indices_writes,
    row _ genfrm_scaled_writes,
    row _ genfrm_regrid_spec_writes,
    row _ genfrm_smooth_spec_writes,
    row _ genfrm_to_netcdf_writes,
    row _ genfrm_to_ww3_writes,
    row _ genfrm_to_funwave_writes,
    row _ genfrm_from_ww3_writes,
    row _ genfrm_from_ncswan_writes,
    row _ genfrm_sa_split_writes,
    row _ genfrm_sa_scale_by_hs_writes,
    row _ genfrm_sa_rotate_writes,
    row _ genfrm_sa_stats_writes,
    fun _ h => absurd h List.not_mem_nil⟩

/-- the historic defect (`from_ww3` / `from_ncswan` as found): `dset[efth] *= D2R` on the parameter is flagged.
    0 = dset, 1 = the object read by `dset[efth]` -/
def prog_historic : Prog := [.assign 1 (allOf 0), .store 1 .values, .store 0 .coords, .store 0 .dims]
theorem genfrm_historic_flagged : writes [0] prog_historic = [(0, .values), (0, .coords), (0, .dims)] := by decide +kernel
/-- … also through a shallow copy (`d = dset.copy(); d[efth] *= c`), and not through a deep one -/
theorem genfrm_historic_shallow : writes [0] [.assign 1 (cellsOf 0 [.values]), .assign 2 (allOf 1), .store 2 .values] = [(0, .values)] := by
  decide +kernel
theorem genfrm_historic_deep : writes [0] [.assign 1 [], .assign 2 (allOf 1), .store 2 .values] = [] := by decide +kernel
/-- the write is real in the semantics: executing the historic program bumps the caller's `values` -/
theorem genfrm_historic_exec (h : Loc → Nat) :
    (exec prog_historic (init [0] h)).heap (Loc.param 0 .values) = h (Loc.param 0 .values) + 1 := by
  simp [exec, prog_historic, step, init, allOf, gather, Cell.all]

end WS.C17
