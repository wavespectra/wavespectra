import WsVerif.Props.C07dask
/-!
# C20 — no statistic raises because of how its input is chunked

C20 ("valid spectra never crash") includes dask-backed spectra whose spectral dimensions are split into chunks: a kernel applied
over a core dimension that is still in several chunks raises `ValueError` inside `apply_ufunc`.  The regenerated rechunk plan
(`Gen.daskAudit`, `harness/translate_dims.py`) and the chunk algebra of `Props/C07.lean` are restated here as C20 obligations, so
that a dropped or conditional `.chunk({dim: -1})` in front of an `apply_ufunc` is reported by this property's own check as well.
-/
namespace WS.C20
open WS WS.Chunk WS.DimSem

/-- every `apply_ufunc` of the library brings each of its core dimensions to one chunk before the kernel runs -/
theorem gendask_plan_complete : ∀ u ∈ Gen.daskAudit, u.ok = true := C07.gendask_all_ok

/-- hence no kernel application fails for ANY chunking of a core dimension: it returns the in-memory value -/
theorem gendask_never_raises {β : Type} (f : List Rat → β) (u : DaskUse) (hu : u ∈ Gen.daskAudit) (d : String)
    (hd : d ∈ u.core) (c : Chunks) : ∃ v, applyCore f (C07.planOf u d c) = .ok v :=
  ⟨_, C07.gendask_apply_succeeds f u hu d hd c⟩

/-- the hypothesis is met by every statistic that goes through `apply_ufunc` (non-vacuity): e.g. `alpha` over `freq` -/
theorem gendask_alpha_listed : ∃ u ∈ Gen.daskAudit, u.fn = "alpha" ∧ "freq" ∈ u.core := by decide +kernel

end WS.C20
