import WsVerif.Model.Frame
/-!
# C17 — no operation modifies the data it is given

The frame theorem over declared write-sets.  It is true by construction of the model (all write-sets of the
repaired code are empty); the assurance for C17 is the exploration in `harness/checks/c17.py`, which is why the
manifest claims level `other` for this property.
-/
namespace WS.C17
open WS.Frame

/-- a cell outside the write-set of every operation of a sequence keeps its version -/
theorem run_frame (writes : String → List Cell) (s : CState) (ops : List String) (c : Cell)
    (h : ∀ op ∈ ops, c ∉ writes op) : run writes s ops c = s c := by
  induction ops generalizing s with
  | nil => rfl
  | cons op ops ih =>
    exact (ih (step writes s op) fun o ho => h o (List.mem_cons_of_mem _ ho)).trans (if_neg (h op List.mem_cons_self))

/-- **frame**: after any sequence of public operations (also ones that raise: a raising step is a step with the
    same write-set) every caller-owned cell is what it was -/
theorem frame (s : CState) (ops : List String) (c : Cell) : run writesNew s ops c = s c :=
  run_frame writesNew s ops c fun _ _ => List.not_mem_nil

/-- the code as found violated it: the native readers bumped `values` -/
theorem frame_old_fails : ¬ ∀ (s : CState) (ops : List String) (c : Cell), run writesOld s ops c = s c := by
  intro h
  have := h (fun _ => 0) ["from_ww3"] .values
  revert this
  decide +kernel

/-- … and satisfied it for every sequence avoiding those two readers -/
theorem frame_old_partial (s : CState) (ops : List String) (c : Cell)
    (h : ∀ op ∈ ops, op ≠ "from_ww3" ∧ op ≠ "from_ncswan") : run writesOld s ops c = s c :=
  run_frame writesOld s ops c fun op hop => by simp [writesOld, h op hop]

example : ∀ op ∈ ["hs", "sel(idw)", "to_swan"], op ≠ "from_ww3" ∧ op ≠ "from_ncswan" := by decide +kernel

end WS.C17
