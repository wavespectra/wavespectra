import WsVerif.Lemmas.Select
import WsVerif.Gen.LonConv
import WsVerif.Gen.Lits
/-!
# C14 — site selection finds the right stations on a sphere-aware longitude axis

`Select.*` (Model/Select.lean) mirrors `wavespectra/core/select.py` as it is.  The longitude difference
is a parameter `ld` of the model: `ldCoded` (difference of the residues mod 360 — what the code does) and
`ldShort` (the short way round the globe — the property's distance, and the repaired code's).
Distances enter through a square-root oracle `sq`; theorems assume `SqrtOn sq radicands` only.

Each clause of the property is stated for the code as it is — refuted by a witness where it fails, with the
part that does hold — and, in the namespace `Fixed`, at full strength for the repaired distance / box
(Model/SelectFixed.lean).
-/
namespace WS.C14
open WS WS.Select

/-! ## T-tier: the kernels `_is_180`/`_is_360` and the literals, regenerated from the source on every run -/

theorem is180_bridge : Gen.is180 = Select.is180 := funext fun _ => if_true_false _

theorem is360_bridge : Gen.is360 = Select.is360 := funext fun _ => if_true_false _

/-- literals of the code as it is: `% 360` twice and two squares in `distance`; `360/180/180/360` in the
    swap; defaults `tolerance=2.0, max_sites=4` of `sel_idw`, `tolerance=2.0` of `sel_nearest`; `360`/`0`
    bounds of the wrapped branch of `sel_bbox`.  (A repaired `distance`/`sel_bbox` changes the first/last
    list: switch to the `Fixed` section then; the lists to expect after the candidate patches are
    `lits_select_distance = [360, 360, 360, 2, 2]` and `lits_select_sel_bbox = [0, 360, 0, 0]`.) -/
theorem lits_select :
    Gen.lits_select_distance = [360, 360, 360, 2, 2] ∧ Gen.lits_select_swap = [360, 180, 180, 360] ∧
    Gen.lits_select_sel_idw.take 2 = [2, 4] ∧ Gen.lits_select_sel_nearest = [2, 0] ∧
    Gen.lits_select_sel_bbox = [0, 360, 0, 0] := ⟨rfl, rfl, rfl, rfl, rfl⟩

/-- station `i` minimises the radicand row `r` (squared distances to one query) and lies within `tol` -/
def IsNearestWithin (tol : ℚ) (r : Vec) (i : Nat) : Prop :=
  i < r.length ∧ r.getD i 0 ≤ tol ^ 2 ∧ ∀ k < r.length, r.getD i 0 ≤ r.getD k 0

theorem validate_ok {dl ql qla : Vec} (h : validate dl ql qla = .ok ()) :
    ql.length = qla.length ∧ ql ≠ [] ∧ dl ≠ [] := by
  unfold validate at h
  split at h
  · cases h
  · split at h
    · cases h
    · rename_i h1 h2
      exact ⟨not_not.mp h1, fun e => h2 (Or.inl e), fun e => h2 (Or.inr e)⟩

theorem lonsQ_length (ql dl : Vec) : (lonsQ ql dl).length = ql.length := by
  simpa using congrArg List.length (lonsQ_residues ql dl)

theorem radRows_length (ld : ℚ → ℚ → ℚ) (dl dla ql qla : Vec) (h : ql.length = qla.length) :
    (radRows ld dl dla ql qla).length = ql.length := by
  simp [radRows, lonsQ_length, h]

theorem radRows_row_length (ld : ℚ → ℚ → ℚ) (dl dla ql qla : Vec) (j : Nat)
    (hj : j < (radRows ld dl dla ql qla).length) :
    ((radRows ld dl dla ql qla)[j]).length = min dl.length dla.length := by
  simp [radRows, distSqRow]

theorem selNearestIds_ok {sq : ℚ → ℚ} {ld : ℚ → ℚ → ℚ} {dl dla ql qla : Vec} {tol : ℚ} {u e : Bool}
    {m : Missing} {ids : List Nat} (h : selNearestIds sq ld dl dla ql qla tol u e m = .ok ids) :
    validate dl ql qla = .ok () ∧
      nearestLoop tol u e m ((radRows ld dl dla ql qla).map fun r => r.map sq) [] = .ok ids ∧ ids ≠ [] := by
  unfold selNearestIds at h
  rw [distRows_eq] at h
  obtain ⟨_, hv, h⟩ := bind_eq_ok.mp h
  obtain ⟨_, hl, h⟩ := bind_eq_ok.mp h
  split at h
  · cases h
  · next hne => cases h; exact ⟨hv, hl, hne⟩

theorem radRows_row_ne_nil {ld : ℚ → ℚ → ℚ} {dl dla ql qla r : Vec} (hlen : dl.length = dla.length) (hdl : dl ≠ [])
    (hr : r ∈ radRows ld dl dla ql qla) : r ≠ [] := by
  obtain ⟨j, hj, rfl⟩ := List.mem_iff_getElem.mp hr
  rw [← List.length_pos_iff, radRows_row_length ld dl dla ql qla j hj, ← hlen, Nat.min_self]
  exact List.length_pos_iff.mpr hdl

/-- an exact square root is monotone on the radicands, so the station of least distance is the one of least radicand -/
theorem isNearestWithin_argmin {sq : ℚ → ℚ} {r : Vec} {tol : ℚ} (htol : 0 ≤ tol) (hr : r ≠ []) (hS : SqrtOn sq r)
    (h : (r.map sq).getD (argminFirst (r.map sq)) 0 ≤ tol) : IsNearestWithin tol r (argminFirst (r.map sq)) := by
  have hi : argminFirst (r.map sq) < r.length := by
    simpa using argminFirst_lt (r.map sq) (by simpa using hr)
  have hSi := hS _ (getD_mem_of_lt r _ hi)
  rw [getD_map_of_lt sq r _ hi] at h
  refine ⟨hi, ?_, fun k hk => ?_⟩
  · rw [← hSi.2, pow_two]
    exact mul_le_mul h h hSi.1 htol
  · have hle := argminFirst_le (r.map sq) k (by simpa using hk)
    rw [getD_map_of_lt sq r _ hi, getD_map_of_lt sq r _ hk] at hle
    exact (sqrt_le_iff hSi (hS _ (getD_mem_of_lt r k hk))).mp hle

/-- **nearest_min, for any longitude-difference function**: with `missing="raise"` and `unique=False`,
    a successful `sel_nearest` returns one station per query, each minimising the distance *as defined by
    `ld`* among all stations and lying within the tolerance. -/
theorem nearest_min_gen (sq : ℚ → ℚ) (ld : ℚ → ℚ → ℚ) (dl dla ql qla : Vec) (tol : ℚ) (exact : Bool)
    (ids : List Nat) (hlen : dl.length = dla.length) (htol : 0 ≤ tol)
    (hsq : ∀ r ∈ radRows ld dl dla ql qla, SqrtOn sq r)
    (h : selNearestIds sq ld dl dla ql qla tol false exact .raise = .ok ids) :
    ids.length = ql.length ∧
      ∀ j (h1 : j < ids.length) (h2 : j < (radRows ld dl dla ql qla).length),
        IsNearestWithin tol ((radRows ld dl dla ql qla)[j]) ids[j] := by
  obtain ⟨hv, hl, _⟩ := selNearestIds_ok h
  obtain ⟨hql, _, hdl⟩ := validate_ok hv
  obtain ⟨rfl, hall⟩ := nearestLoop_raise tol exact _ [] ids hl
  refine ⟨by simp [radRows_length ld dl dla ql qla hql], fun j h1 h2 => ?_⟩
  have hm := List.getElem_mem h2
  simp only [List.nil_append, List.map_map, List.getElem_map, Function.comp]
  exact isNearestWithin_argmin htol (radRows_row_ne_nil hlen hdl hm) (hsq _ hm) (hall _ (List.mem_map_of_mem hm)).1

/-- **fails beyond tolerance**: if for some query every station is farther than `tol`, `sel_nearest`
    (`missing="raise"`) raises `AssertionError`. -/
theorem nearest_fails_beyond_tolerance_gen (sq : ℚ → ℚ) (ld : ℚ → ℚ → ℚ) (dl dla ql qla : Vec) (tol : ℚ)
    (unique exact : Bool) (hlen : dl.length = dla.length) (htol : 0 ≤ tol)
    (hv : validate dl ql qla = .ok ())
    (hsq : ∀ r ∈ radRows ld dl dla ql qla, SqrtOn sq r)
    (hfar : ∃ r ∈ radRows ld dl dla ql qla, ∀ x ∈ r, tol ^ 2 < x) :
    selNearestIds sq ld dl dla ql qla tol unique exact .raise = .error .assertionError := by
  obtain ⟨r, hr, hx⟩ := hfar
  have hbeyond : tol < (r.map sq).getD (argminFirst (r.map sq)) 0 := by
    by_contra hc
    have hn := isNearestWithin_argmin htol (radRows_row_ne_nil hlen (validate_ok hv).2.2 hr) (hsq r hr) (not_lt.mp hc)
    exact absurd hn.2.1 (not_le.mpr (hx _ (getD_mem_of_lt r _ hn.1)))
  unfold selNearestIds
  rw [distRows_eq, hv, nearestLoop_beyond tol unique exact _ [] ⟨r.map sq, List.mem_map_of_mem hr, hbeyond⟩]
  rfl

/-- the property's clause for the code as it is: the returned station minimises the **short-way**
    distance -/
def NearestMinShortWay : Prop :=
  ∀ (sq : ℚ → ℚ) (dl dla ql qla : Vec) (tol : ℚ) (exact : Bool) (ids : List Nat),
    dl.length = dla.length → 0 ≤ tol → (∀ r ∈ radRows ldCoded dl dla ql qla, SqrtOn sq r) →
    selNearestIds sq ldCoded dl dla ql qla tol false exact .raise = .ok ids →
    ids.length = ql.length ∧
      ∀ j (_ : j < ids.length) (h2 : j < (radRows ldShort dl dla ql qla).length),
        IsNearestWithin tol ((radRows ldShort dl dla ql qla)[j]) ids[j]

/-- witness oracle: exact square roots of the two radicands of the witness -/
def sqW (x : ℚ) : ℚ := if x = (1439 / 4) ^ 2 then 1439 / 4 else if x = (3 / 8) ^ 2 then 3 / 8 else 0

/-- **refuted on this tree**: stations at 359.875°E and 0.5°E, query 0.125°E: the code returns the
    station at 0.5°E (0.375° away) although 359.875°E is 0.25° away the short way. -/
theorem nearest_min_fails : ¬ NearestMinShortWay := fun H =>
  absurd (H sqW [2879 / 8, 1 / 2] [0, 0] [1 / 8] [0] 5 false [1] rfl (by norm_num)
    (by unfold SqrtOn; decide +kernel) (by decide +kernel)) (by unfold IsNearestWithin; decide +kernel)

/-- no station/query pair straddles the Greenwich meridian in the sense of the code's distance: the two
    residues are at most 180° apart (decidable) -/
def NoStraddle (dl ql : Vec) : Prop := ∀ a ∈ dl, ∀ q ∈ ql, absR (mod360 a - mod360 q) ≤ 180

instance (dl ql : Vec) : Decidable (NoStraddle dl ql) := by unfold NoStraddle; infer_instance

theorem ld_sq_eq {x y : ℚ} (h : absR (x - y) ≤ 180) : (ldCoded x y) ^ 2 = (ldShort x y) ^ 2 := by
  rw [ldShort, minR_eq_min, min_eq_left (le_sub_iff_add_le.mpr ((add_le_add h h).trans (by norm_num))), absR_eq_abs, sq_abs]
  rfl

theorem zipWith_congr_left {α β γ} (f g : α → β → γ) (l1 : List α) (l2 : List β) (h : ∀ a ∈ l1, ∀ b, f a b = g a b) :
    List.zipWith f l1 l2 = List.zipWith g l1 l2 := by
  rw [← List.map_uncurry_zip_eq_zipWith, ← List.map_uncurry_zip_eq_zipWith]
  exact List.map_congr_left fun p hp => h p.1 (List.of_mem_zip hp).1 p.2

theorem radRows_coded_eq_short (dl dla ql qla : Vec) (h : NoStraddle dl ql) :
    radRows ldCoded dl dla ql qla = radRows ldShort dl dla ql qla := by
  rw [radRows_residues, radRows_residues]
  apply zipWith_congr_left
  intro qr hqr qlat
  obtain ⟨q, hq, rfl⟩ := List.mem_map.mp hqr
  unfold distSqRowR
  apply zipWith_congr_left
  intro ar har b
  obtain ⟨a, ha, rfl⟩ := List.mem_map.mp har
  rw [ld_sq_eq (h a ha q hq)]

/-- **partial**: when no station/query pair straddles Greenwich the returned station minimises the
    short-way distance. -/
theorem nearest_min_partial (sq : ℚ → ℚ) (dl dla ql qla : Vec) (tol : ℚ) (exact : Bool) (ids : List Nat)
    (hns : NoStraddle dl ql)
    (hlen : dl.length = dla.length) (htol : 0 ≤ tol) (hsq : ∀ r ∈ radRows ldCoded dl dla ql qla, SqrtOn sq r)
    (h : selNearestIds sq ldCoded dl dla ql qla tol false exact .raise = .ok ids) :
    ids.length = ql.length ∧
      ∀ j (_ : j < ids.length) (h2 : j < (radRows ldShort dl dla ql qla).length),
        IsNearestWithin tol ((radRows ldShort dl dla ql qla)[j]) ids[j] := by
  rw [← radRows_coded_eq_short dl dla ql qla hns]
  exact nearest_min_gen sq ldCoded dl dla ql qla tol exact ids hlen htol hsq h

/-- non-vacuity of `nearest_min_partial` / `nearest_min_gen`: stations at 10°E and 350°E (lat 0), query
    13°E/4°N: distances 5 and 23.3…; here with a Pythagorean query so that the oracle is exact -/
example : NoStraddle [10, 16] [13] ∧ (∀ r ∈ radRows ldCoded [10, 16] [0, 8] [13] [4], SqrtOn (fun x => if x = 25 then 5 else 0) r) ∧
    selNearestIds (fun x => if x = 25 then 5 else 0) ldCoded [10, 16] [0, 8] [13] [4] 5 false false .raise = .ok [0] := by
  unfold SqrtOn; decide +kernel

/-- general form (any `unique`, `missing ∈ {raise, ignore}`): every returned station is the first nearest
    station (distance as defined by `ld`) of some query and lies within the tolerance. -/
theorem nearest_members_gen (sq : ℚ → ℚ) (ld : ℚ → ℚ → ℚ) (dl dla ql qla : Vec) (tol : ℚ) (unique exact : Bool)
    (missing : Missing) (hm : missing ≠ .other) (ids : List Nat)
    (h : selNearestIds sq ld dl dla ql qla tol unique exact missing = .ok ids) :
    ids ≠ [] ∧ ∀ i ∈ ids, ∃ r ∈ radRows ld dl dla ql qla, i = argminFirst (r.map sq) ∧ (r.map sq).getD i 0 ≤ tol := by
  obtain ⟨_, hl, hne⟩ := selNearestIds_ok h
  refine ⟨hne, fun i hi => ?_⟩
  rcases nearestLoop_mem tol unique exact missing hm _ [] ids hl i hi with h0 | ⟨d, hd, he, ht, _⟩
  · cases h0
  · obtain ⟨r, hr, rfl⟩ := List.mem_map.mp hd
    exact ⟨r, hr, he, ht⟩

/-! ## convention independence (nearest, idw) — true of the code as it is, for any `ld` -/

/-- the same stations and queries expressed differently modulo 360 (dataset in [0,360] or [−180,180],
    query in either): `sel_nearest` returns the same station indices / raises the same error. -/
theorem convention_independent_nearest (sq : ℚ → ℚ) (ld : ℚ → ℚ → ℚ) (dl dl' dla ql ql' qla : Vec) (tol : ℚ)
    (u e : Bool) (m : Missing) (hd : dl.map mod360 = dl'.map mod360) (hq : ql.map mod360 = ql'.map mod360) :
    selNearestIds sq ld dl dla ql qla tol u e m = selNearestIds sq ld dl' dla ql' qla tol u e m := by
  unfold selNearestIds
  rw [validate_residues dl dl' ql ql' qla hd hq, distRows_residues sq ld dla qla hd hq]

theorem convention_independent_idw (sq : ℚ → ℚ) (ld : ℚ → ℚ → ℚ) (dl dl' dla ql ql' qla : Vec) (tol : ℚ)
    (ms : Option Int) (hd : dl.map mod360 = dl'.map mod360) (hq : ql.map mod360 = ql'.map mod360) :
    selIdw sq ld dl dla ql qla tol ms = selIdw sq ld dl' dla ql' qla tol ms := by
  unfold selIdw
  rw [validate_residues dl dl' ql ql' qla hd hq, distRows_residues sq ld dla qla hd hq]

/-- any re-expression of longitudes by whole turns (in particular `% 360` and the map to [−180,180])
    keeps the residues, so the two theorems above apply -/
theorem reexpress_residues (c : ℚ → ℚ) (hc : ∀ x, ∃ k : ℤ, c x = x + 360 * k) (l : Vec) :
    (l.map c).map mod360 = l.map mod360 := by
  rw [List.map_map]
  exact List.map_congr_left fun x _ => mod360_of_turns (hc x)

theorem to360_turns (x : ℚ) : ∃ k : ℤ, mod360 x = x + 360 * k := mod360_eq_add_int x
theorem to180_turns (x : ℚ) : ∃ k : ℤ, to180 x = x + 360 * k := to180_eq_add_int x

/-- non-vacuity: dataset `[350, 10]` (0–360) vs `[−10, 10]` (±180), query `−1` vs `359` -/
example : ([350, 10] : Vec).map mod360 = ([-10, 10] : Vec).map mod360 ∧ ([-1] : Vec).map mod360 = ([359] : Vec).map mod360 := by
  decide +kernel

/-! ## inverse-distance weighting (one query; `d` = its distance row, all entries ≥ 0) -/

/-- the kept neighbours are sorted and non-negative: they start with a station at distance 0 or are all positive -/
theorem nearer_cases (d : Vec) (tol : ℚ) (ms : Option Int) (hd : ∀ x ∈ d, 0 ≤ x) :
    (∃ i rest, nearer d tol ms = (0, i) :: rest) ∨ ∀ p ∈ nearer d tol ms, 0 < p.1 :=
  sorted_nonneg_cases _ (nearer_sorted d tol ms) fun p hp => inRangeSorted_nonneg hd tol p (nearer_subset hp)

/-- the collection loop stops at a station at distance 0, which is returned alone with weight 1 -/
theorem idwRow_zero_head {d : Vec} {tol : ℚ} {ms : Option Int} {i : Nat} {rest : List (ℚ × Nat)}
    (h : nearer d tol ms = (0, i) :: rest) : idwRow d tol ms = some [(i, 1)] := by
  unfold idwRow
  rw [h]
  simp [collect]

/-- all kept neighbours at positive distance: masked when fewer than two, otherwise weights `(1/d_i) / Σ_j (1/d_j)` -/
theorem idwRow_pos {d : Vec} {tol : ℚ} {ms : Option Int} (hpos : ∀ p ∈ nearer d tol ms, 0 < p.1) :
    ((nearer d tol ms).length < 2 ∧ idwRow d tol ms = none) ∨
    (2 ≤ (nearer d tol ms).length ∧ 0 < ((nearer d tol ms).map fun p => 1 / p.1).sum ∧
      idwRow d tol ms = some ((nearer d tol ms).map fun p =>
        (p.2, 1 / p.1 * (1 / ((nearer d tol ms).map fun p => 1 / p.1).sum)))) := by
  unfold idwRow
  rw [collect_pos _ fun p hp => (hpos p hp).ne']
  generalize nearer d tol ms = N at hpos ⊢
  match N, hpos with
  | [], _ => exact .inl ⟨Nat.zero_lt_two, rfl⟩
  | [p], hpos => exact .inl ⟨Nat.one_lt_two, if_pos (hpos p (List.mem_singleton_self p))⟩
  | p :: q :: rest, hpos =>
    have hsum : 0 < ((p :: q :: rest).map fun p => 1 / p.1).sum :=
      List.sum_pos _ (List.forall_mem_map.mpr fun r hr => one_div_pos.mpr (hpos r hr)) (List.cons_ne_nil _ _)
    refine .inr ⟨Nat.le_add_left 2 _, hsum, ?_⟩
    -- on two or more collected neighbours the `match` of `idwRow` reduces to its last branch
    show (if (List.map _ (List.map _ (p :: q :: rest))).sum = 0 then none else some _) = _
    rw [List.map_map, List.map_map]
    exact if_neg hsum.ne'

/-- **idw_convex**: when `sel_idw` does not mask a query, the result is a convex combination:
    weights `> 0`, summing to 1, at most `max_sites` stations, every station within the tolerance, and
    either exactly one station at distance 0 with weight 1, or at least two stations with weights
    `(1/d_i) / Σ_j (1/d_j)` (∝ 1/distance, distance as defined by the row). -/
theorem idw_convex (d : Vec) (tol : ℚ) (ms : Option Int) (ws : List (Nat × ℚ)) (hd : ∀ x ∈ d, 0 ≤ x)
    (h : idwRow d tol ms = some ws) :
    (∀ p ∈ ws, 0 < p.2) ∧ (ws.map (·.2)).sum = 1 ∧
    (∀ p ∈ ws, p.1 < d.length ∧ d.getD p.1 0 ≤ tol) ∧
    (∀ m : Nat, ms = some (m : Int) → ws.length ≤ m) ∧
    ((∃ i, ws = [(i, 1)] ∧ d.getD i 0 = 0) ∨
     (2 ≤ ws.length ∧ ∀ p ∈ ws, 0 < d.getD p.1 0 ∧
        p.2 = (1 / d.getD p.1 0) / ((ws.map fun q => 1 / d.getD q.1 0).sum))) := by
  have hlen : ∀ m : Nat, ms = some (m : Int) → (nearer d tol ms).length ≤ m := by
    rintro m rfl; exact nearer_length_le d tol m
  have hget : ∀ p ∈ nearer d tol ms, (p.2 < d.length ∧ d.getD p.2 0 = p.1) ∧ p.1 ≤ tol :=
    fun p hp => ⟨inRangeSorted_getD (nearer_subset hp), (nearer_mem hp).2⟩
  rcases nearer_cases d tol ms hd with ⟨i, rest, hl⟩ | hpos
  · obtain rfl := Option.some.inj ((idwRow_zero_head hl).symm.trans h)
    obtain ⟨⟨hi, hx⟩, htol⟩ := hget (0, i) (hl ▸ List.mem_cons_self)
    exact ⟨List.forall_mem_singleton.mpr one_pos, add_zero _, List.forall_mem_singleton.mpr ⟨hi, hx.trans_le htol⟩,
      fun m hm => (Nat.succ_le_succ (Nat.zero_le _)).trans (hl ▸ hlen m hm), Or.inl ⟨i, rfl, hx⟩⟩
  rcases idwRow_pos hpos with ⟨_, hn⟩ | ⟨h2, hsum, hr⟩
  · rw [hn] at h; cases h
  · obtain rfl := Option.some.inj (hr.symm.trans h)
    refine ⟨List.forall_mem_map.mpr fun p hp => mul_pos (one_div_pos.mpr (hpos p hp)) (one_div_pos.mpr hsum), ?_,
      List.forall_mem_map.mpr fun p hp => ⟨(hget p hp).1.1, (hget p hp).1.2.trans_le (hget p hp).2⟩,
      fun m hm => List.length_map (as := nearer d tol ms) _ ▸ hlen m hm,
      Or.inr ⟨List.length_map (as := nearer d tol ms) _ ▸ h2, List.forall_mem_map.mpr fun p hp => ?_⟩⟩
    · rw [List.map_map]
      show ((nearer d tol ms).map ((· * _) ∘ fun p => 1 / p.1)).sum = 1
      rw [← List.map_map, sum_map_mul_const]
      exact mul_one_div_cancel hsum.ne'
    · -- the weights' denominator, re-read from `d`, is the sum the code divided by
      rw [List.map_map]
      show 0 < d.getD p.2 0 ∧ 1 / p.1 * _ = 1 / d.getD p.2 0 / ((nearer d tol ms).map fun q => 1 / d.getD q.2 0).sum
      rw [List.map_congr_left fun q hq => congrArg (1 / ·) (hget q hq).1.2, (hget p hp).1.2]
      exact ⟨hpos p hp, mul_one_div _ _⟩

/-- **exact station**: a station at distance 0 (tolerance ≥ 0, `max_sites` ≥ 1 or `None`) is returned alone
    with weight 1 -/
theorem idw_exact (d : Vec) (tol : ℚ) (ms : Option Int) (hd : ∀ x ∈ d, 0 ≤ x) (htol : 0 ≤ tol)
    (hms : ms = none ∨ ∃ m : Nat, 1 ≤ m ∧ ms = some (m : Int))
    (hz : ∃ k, k < d.length ∧ d.getD k 0 = 0) :
    ∃ i, idwRow d tol ms = some [(i, 1)] ∧ d.getD i 0 = 0 := by
  obtain ⟨k, hk, hk0⟩ := hz
  have hkm : ((0 : ℚ), k) ∈ inRangeSorted d tol :=
    inRangeSorted_mem.mpr ⟨by rw [← hk0, List.getD_eq_getElem?_getD, List.getElem?_eq_getElem hk]; rfl, htol⟩
  -- the sorted in-range list starts with a zero distance, and so does what `max_sites ≥ 1` keeps of it
  obtain ⟨i, rest, hl⟩ := (sorted_nonneg_cases _ (inRangeSorted_sorted d tol) (inRangeSorted_nonneg hd tol)).resolve_right
    fun h => lt_irrefl _ (h _ hkm)
  obtain ⟨rest', hn⟩ : ∃ rest', nearer d tol ms = (0, i) :: rest' := by
    rw [nearer_eq, hl]
    obtain rfl | ⟨_ | m, hm, rfl⟩ := hms
    · exact ⟨rest, rfl⟩
    · exact absurd hm (by decide)
    · exact ⟨rest.take m, by rw [pyTake_natCast, List.take_succ_cons]⟩
  exact ⟨i, idwRow_zero_head hn, (inRangeSorted_getD (nearer_subset (hn ▸ List.mem_cons_self))).2⟩

/-- **missing**: fewer than two stations within the tolerance and none at distance 0 ⇒ masked -/
theorem idw_missing (d : Vec) (tol : ℚ) (ms : Option Int) (hd : ∀ x ∈ d, 0 ≤ x)
    (hfew : (d.filter fun x => decide (x ≤ tol)).length < 2) (hnz : ∀ x ∈ d, x ≤ tol → x ≠ 0) :
    idwRow d tol ms = none := by
  rcases nearer_cases d tol ms hd with ⟨i, rest, hl⟩ | hpos
  · exfalso
    have hmem : ((0 : ℚ), i) ∈ nearer d tol ms := hl ▸ List.mem_cons_self
    obtain ⟨hi, hx⟩ := inRangeSorted_getD (nearer_subset hmem)
    exact hnz _ (getD_mem_of_lt d i hi) (hx.trans_le (nearer_mem hmem).2) hx
  · rcases idwRow_pos hpos with ⟨_, hn⟩ | ⟨h2, _⟩
    · exact hn
    · exact absurd (h2.trans (nearer_length_le_inrange d tol ms)) (not_le.mpr hfew)

/-- **nearest first**: a station within the tolerance that is not used is at least as far as every
    station that is used (the kept ones are the `max_sites` nearest) -/
theorem idw_uses_nearest (d : Vec) (tol : ℚ) (ms : Option Int) (p q : ℚ × Nat)
    (hp : p ∈ nearer d tol ms) (hq : q ∈ inRangeSorted d tol) (hnq : q ∉ nearer d tol ms) : p.1 ≤ q.1 := by
  obtain ⟨n, hn⟩ := pyTake_eq_take (inRangeSorted d tol) ms
  rw [nearer_eq, hn] at hp hnq
  have hs := inRangeSorted_sorted d tol
  rw [← List.take_append_drop n (inRangeSorted d tol), List.pairwise_append] at hs
  have hqd := (List.mem_append.mp ((List.take_append_drop n (inRangeSorted d tol)).symm ▸ hq)).resolve_left hnq
  exact hs.2.2 p hp q hqd

/-- non-vacuity / worked instance: distances `[4, 9, 1/2, 20]`, tolerance 10, `max_sites = 2`:
    stations 2 and 0 with weights `8/9`, `1/9` -/
example : idwRow [4, 1] 10 (some 2) = some [(1, 4 / 5), (0, 1 / 5)] := by
  unfold idwRow
  rw [nearer_pair]
  decide +kernel

/-- `sel_idw` applies `idwRow` to the distance row of every query; every distance is ≥ 0 -/
theorem selIdw_rows (sq : ℚ → ℚ) (ld : ℚ → ℚ → ℚ) (dl dla ql qla : Vec) (tol : ℚ) (ms : Option Int)
    (rows : List (Option (List (Nat × ℚ)))) (hsq : ∀ r ∈ radRows ld dl dla ql qla, SqrtOn sq r)
    (h : selIdw sq ld dl dla ql qla tol ms = .ok rows) :
    rows = (radRows ld dl dla ql qla).map (fun r => idwRow (r.map sq) tol ms) ∧ rows.length = ql.length ∧
      ∀ r ∈ radRows ld dl dla ql qla, ∀ x ∈ r.map sq, 0 ≤ x := by
  unfold selIdw at h
  rw [distRows_eq, List.map_map] at h
  obtain ⟨_, hv, h⟩ := bind_eq_ok.mp h
  cases h
  refine ⟨rfl, by simp [radRows_length ld dl dla ql qla (validate_ok hv).1], fun r hr x hx => ?_⟩
  obtain ⟨y, hy, rfl⟩ := List.mem_map.mp hx
  exact (hsq r hr y hy).1

/-- the clause for the code as it is: the combination uses short-way distances -/
def IdwShortWay : Prop :=
  ∀ (sq : ℚ → ℚ) (dl dla ql qla : Vec) (tol : ℚ) (ms : Option Int),
    (∀ r ∈ radRows ldCoded dl dla ql qla, SqrtOn sq r) → (∀ r ∈ radRows ldShort dl dla ql qla, SqrtOn sq r) →
    selIdw sq ldCoded dl dla ql qla tol ms = selIdw sq ldShort dl dla ql qla tol ms

def sqI (x : ℚ) : ℚ := if x = (719 / 2) ^ 2 then 719 / 2 else if x = 1 / 4 then 1 / 2 else 0

/-- **refuted on this tree**: stations 359.5°E and 0.5°E, query 0°E, tolerance 2: the code masks the query
    (one station "in range"), the short-way combination is the mean of the two stations -/
theorem idw_shortway_fails : ¬ IdwShortWay := by
  intro H
  have h := H sqI [719 / 2, 1 / 2] [0, 0] [0] [0] 2 (some 4) (by unfold SqrtOn; decide +kernel) (by unfold SqrtOn; decide +kernel)
  have r1 : distRows sqI ldCoded [719 / 2, 1 / 2] [0, 0] [0] [0] = [[719 / 2, 1 / 2]] := by decide +kernel
  have r2 : distRows sqI ldShort [719 / 2, 1 / 2] [0, 0] [0] [0] = [[1 / 2, 1 / 2]] := by decide +kernel
  unfold selIdw idwRow at h
  rw [r1, r2, List.map_singleton, List.map_singleton, nearer_pair, nearer_pair] at h
  revert h
  decide +kernel

/-- **partial**: without a straddling pair the code as it is equals the repaired code -/
theorem idw_shortway_partial (sq : ℚ → ℚ) (dl dla ql qla : Vec) (tol : ℚ) (ms : Option Int) (h : NoStraddle dl ql) :
    selIdw sq ldCoded dl dla ql qla tol ms = selIdw sq ldShort dl dla ql qla tol ms := by
  unfold selIdw
  rw [distRows_eq, distRows_eq, radRows_coded_eq_short dl dla ql qla h]

/-- `sel_nearest`/`sel_bbox`: every reported longitude is the stored longitude of the selected station
    modulo 360 (for all inputs) -/
theorem lon_reported_stations_mod360 (stored ql dl : Vec) (ids : List Nat) :
    (reportStations stored ql dl ids).map mod360 = (ids.map fun i => stored.getD i 0).map mod360 := by
  unfold reportStations
  simp only
  split
  · rfl
  · exact swapConv_residues _

/-- `sel_idw`: every reported longitude is the query longitude modulo 360 (for all inputs) -/
theorem lon_reported_idw_mod360 (ql dl : Vec) : (reportIdw ql dl).map mod360 = ql.map mod360 := by
  unfold reportIdw
  split
  · exact lonsQ_residues ql dl
  · rw [swapConv_residues, lonsQ_residues]

def InRange360 (l : Vec) : Prop := ∀ x ∈ l, 0 ≤ x ∧ x ≤ 360
def InRange180 (l : Vec) : Prop := ∀ x ∈ l, -180 ≤ x ∧ x ≤ 180

theorem is360_range {l : Vec} (h : is360 l = true) : InRange360 l := by
  unfold is360 at h
  simp only [Bool.and_eq_true, decide_eq_true_eq] at h
  intro x hx
  exact ⟨le_trans h.1 (arrMin_le hx), le_trans (le_arrMax hx) h.2⟩

theorem is360_of_range {a : Vec} (h0 : 0 ≤ arrMin a) (h1 : arrMax a ≤ 360) : is360 a = true :=
  Bool.and_eq_true_iff.mpr ⟨decide_eq_true h0, decide_eq_true h1⟩

theorem to180_range {x : ℚ} (h : 0 ≤ x ∧ x ≤ 360) : -180 ≤ to180 x ∧ to180 x ≤ 180 := by
  unfold to180
  split
  · next hc => exact ⟨le_sub_iff_add_le.mpr (le_trans (by norm_num) hc.le), sub_le_iff_le_add.mpr (h.2.trans (by norm_num))⟩
  · next hc => exact ⟨le_trans (by norm_num) h.1, not_lt.mp hc⟩

theorem swapConv_of_360 {a : Vec} (h : InRange360 a) : InRange180 (swapConv a) := by
  have hmin : 0 ≤ arrMin a := le_arrMin le_rfl fun x hx => (h x hx).1
  have hmax : arrMax a ≤ 360 := arrMax_le (by norm_num) fun x hx => (h x hx).2
  have h1 : is180 a = false := Bool.and_eq_false_iff.mpr (.inl (decide_eq_false (not_lt.mpr hmin)))
  rw [swapConv, h1, is360_of_range hmin hmax]
  exact List.forall_mem_map.mpr fun x hx => to180_range (h x hx)

theorem swapConv_of_180 {a : Vec} (h : InRange180 a) : InRange360 (swapConv a) := by
  have hmax : arrMax a ≤ 180 := arrMax_le (by norm_num) fun x hx => (h x hx).2
  unfold swapConv
  split
  · exact List.forall_mem_map.mpr fun x _ => ⟨mod360_nonneg x, (mod360_lt x).le⟩
  · next h1 =>
    -- nothing exceeds 180 and the array is not detected as ±180: nothing is negative, so it is detected as 0–360,
    -- and `to180` leaves every entry as it is
    have hmin : 0 ≤ arrMin a := not_lt.mp fun c => h1 (Bool.and_eq_true_iff.mpr ⟨decide_eq_true c, decide_eq_true hmax⟩)
    rw [is360_of_range hmin (hmax.trans (by norm_num)), if_pos rfl]
    refine List.forall_mem_map.mpr fun x hx => ?_
    rw [to180, if_neg (not_lt.mpr (h x hx).2)]
    exact ⟨hmin.trans (arrMin_le hx), (h x hx).2.trans (by norm_num)⟩

/-- values lying in the convention flagged `b`, swapped when the flags differ, lie in the convention flagged `a` -/
theorem swap_in_convention (sub : Vec) (a b : Bool) (h1 : b = true → InRange360 sub) (h0 : b = false → InRange180 sub) :
    (a = true → InRange360 (if a == b then sub else swapConv sub)) ∧
    (a = false → InRange180 (if a == b then sub else swapConv sub)) := by
  by_cases hab : a = b
  · rw [if_pos (beq_iff_eq.mpr hab), hab]
    exact ⟨h1, h0⟩
  · rw [if_neg (mt beq_iff_eq.mp hab)]
    cases b
    · exact ⟨fun _ => swapConv_of_180 (h0 rfl), fun h => absurd h hab⟩
    · exact ⟨fun h => absurd h hab, fun _ => swapConv_of_360 (h1 rfl)⟩

/-- **lon_reported_in_query_convention** (`sel_nearest`, `sel_bbox`): with the dataset's longitudes inside the
    convention it is detected as, the reported longitudes lie in `[0,360]` when the query is detected as
    0–360 and in `[−180,180]` otherwise (and they are the stations' longitudes modulo 360:
    `lon_reported_stations_mod360`). -/
theorem lon_reported_in_query_convention (stored ql dl : Vec) (ids : List Nat)
    (hd360 : is360 dl = true → InRange360 stored) (hd180 : is360 dl = false → InRange180 stored)
    (hids : ∀ i ∈ ids, i < stored.length) :
    (is360 ql = true → InRange360 (reportStations stored ql dl ids)) ∧
    (is360 ql = false → InRange180 (reportStations stored ql dl ids)) := by
  have hsub : ∀ x ∈ (ids.map fun i => stored.getD i 0), x ∈ stored := by
    intro x hx
    obtain ⟨i, hi, rfl⟩ := List.mem_map.mp hx
    exact getD_mem_of_lt stored i (hids i hi)
  exact swap_in_convention _ (is360 ql) (is360 dl) (fun h x hx => hd360 h x (hsub x hx)) fun h x hx => hd180 h x (hsub x hx)

/-- same for `sel_idw` (the reported longitudes are the query's, modulo 360: `lon_reported_idw_mod360`);
    a query not detected as 0–360 is assumed to lie in `[−180,180]` -/
theorem lon_reported_in_query_convention_idw (ql dl : Vec) (hq180 : is360 ql = false → InRange180 ql) :
    (is360 ql = true → InRange360 (reportIdw ql dl)) ∧ (is360 ql = false → InRange180 (reportIdw ql dl)) := by
  have hl := swap_in_convention ql (is360 dl) (is360 ql) is360_range hq180
  rw [Bool.beq_comm] at hl
  exact swap_in_convention _ (is360 ql) (is360 dl) hl.1 hl.2

/-- non-vacuity: dataset `[350, 10]` detected 0–360, query `[−9]` not: station 350 is reported as −10 -/
example : is360 [350, 10] = true ∧ InRange360 [350, 10] ∧ is360 [-9] = false ∧ reportStations [350, 10] [-9] [350, 10] [0] = [-10] := by
  exact ⟨by decide +kernel, is360_range (by decide +kernel), by decide +kernel, by decide +kernel⟩

/-- the property's box: some representative (mod 360) of the station's longitude lies in
    `[min lons − tol, max lons + tol]` (the query's own numbers), latitude in `[min lats − tol, max lats + tol]` -/
def InBox (ql qla : Vec) (tol lon lat : ℚ) : Prop :=
  (∃ k : ℤ, arrMin ql - tol ≤ lon + 360 * k ∧ lon + 360 * k ≤ arrMax ql + tol) ∧
    arrMin qla - tol ≤ lat ∧ lat ≤ arrMax qla + tol

/-- `arrMin`/`arrMax` really are the smallest/largest query coordinate -/
theorem box_is_min_max (l : Vec) (x : ℚ) (h : x ∈ l) : arrMin l ≤ x ∧ x ≤ arrMax l := ⟨arrMin_le h, le_arrMax h⟩

theorem inBox_add_turns (ql qla : Vec) (tol lon lat : ℚ) (m : ℤ) :
    InBox ql qla tol (lon + 360 * m) lat ↔ InBox ql qla tol lon lat := by
  have e : ∀ k : ℤ, lon + 360 * m + 360 * k = lon + 360 * ((m + k : ℤ) : ℚ) := fun k => by push_cast; ring
  simp only [InBox, e]
  exact and_congr_left' ⟨fun ⟨k, h⟩ => ⟨m + k, h⟩, fun ⟨k, h⟩ => ⟨k - m, by rwa [add_sub_cancel]⟩⟩

/-- the clause for the code as it is -/
def BboxExact : Prop :=
  ∀ (dl dla ql qla : Vec) (tol : ℚ) (i : Nat), 0 ≤ tol →
    (i ∈ selBboxIdsRaw dl dla ql qla tol ↔ ∃ lon lat, (dl.zip dla)[i]? = some (lon, lat) ∧ InBox ql qla tol lon lat)

theorem bbox_west_box_returns_complement :
    selBboxIdsRaw [10, 180, 350] [0, 0, 0] [-20, -5] [-1, 1] 0 = [0, 1] := by decide +kernel

/-- **refuted on this tree**: dataset `[10, 180, 350]` (0–360), box `[−20, −5]`: station 350 (= −10) is
    inside the box but is not selected (the code returns stations 10 and 180: `bbox_west_box_returns_complement`). -/
theorem bbox_exact_fails : ¬ BboxExact := fun H =>
  absurd ((H [10, 180, 350] [0, 0, 0] [-20, -5] [-1, 1] 0 2 le_rfl).mpr
      ⟨350, 0, rfl, ⟨-1, by decide +kernel⟩, by decide +kernel⟩)
    (by rw [bbox_west_box_returns_complement]; decide)

/-- **tolerance shrinks the wrapped box**: a station selected with tolerance 0 is lost with tolerance 6;
    the straddling box `[−12, 12]` selects `{10, 350}` with tolerance 0 and nothing (ValueError) with 3 -/
theorem bbox_tolerance_shrinks :
    (3 ∈ selBboxIdsRaw [10, 180, 350, 338] [0, 0, 0, 0] [-20, -5] [-1, 1] 0 ∧
     3 ∉ selBboxIdsRaw [10, 180, 350, 338] [0, 0, 0, 0] [-20, -5] [-1, 1] 6) ∧
    selBboxIds [10, 180, 350] [0, 0, 0] [-12, 12] [-1, 1] 0 = .ok [2, 0] ∧
    selBboxIds [10, 180, 350] [0, 0, 0] [-12, 12] [-1, 1] 3 = .error .valueError := by decide +kernel

/-- **partial**: in the plain branch, when `Coordinates.lons` leaves the query unchanged and the dataset
    longitudes and the widened box lie in one common 360° window `[w, w+360)`, the selection is exactly
    the property's box. -/
theorem bbox_exact_partial (dl dla ql qla : Vec) (tol w : ℚ) (i : Nat)
    (hplain : (is360 dl && !(consistent ql dl)) = false) (hq : lonsQ ql dl = ql)
    (hwd : ∀ x ∈ dl, w ≤ x ∧ x < w + 360) (hlo : w ≤ arrMin ql - tol) (hhi : arrMax ql + tol < w + 360) :
    i ∈ selBboxIdsRaw dl dla ql qla tol ↔ ∃ lon lat, (dl.zip dla)[i]? = some (lon, lat) ∧ InBox ql qla tol lon lat := by
  unfold selBboxIdsRaw
  simp only [hplain, hq, Bool.not_false, if_true, mem_whereIdx, Bool.and_eq_true, decide_eq_true_eq, InBox]
  refine exists₂_congr fun lon lat => and_congr_right fun hz => ?_
  have hmem : lon ∈ dl := (List.of_mem_zip (List.mem_of_getElem? hz)).1
  have z : lon + 360 * ((0 : ℤ) : ℚ) = lon := by rw [Int.cast_zero, mul_zero, add_zero]
  constructor
  · rintro ⟨⟨⟨h1, h3⟩, h2⟩, h4⟩
    exact ⟨⟨0, by rw [z]; exact h1, by rw [z]; exact h2⟩, h3, h4⟩
  · rintro ⟨⟨k, h1, h2⟩, h3, h4⟩
    obtain rfl := turns_eq_zero (hwd lon hmem) (hlo.trans h1) (h2.trans_lt hhi)
    rw [z] at h1 h2
    exact ⟨⟨⟨h1, h3⟩, h2⟩, h4⟩

/-- non-vacuity: both conventions equal (0–360), box `[5, 20] ± 1` inside `[0, 360)` -/
example : (is360 [10, 350, 180] && !(consistent [5, 20] [10, 350, 180])) = false ∧ lonsQ [5, 20] [10, 350, 180] = [5, 20] ∧
    (∀ x ∈ ([10, 350, 180] : Vec), (0 : ℚ) ≤ x ∧ x < 0 + 360) ∧ (0 : ℚ) ≤ arrMin [5, 20] - 1 ∧ arrMax [5, 20] + 1 < (0 : ℚ) + 360 := by
  decide +kernel

/-- the clause "same stations whichever convention the dataset uses", for the code as it is -/
def BboxConventionIndependent : Prop :=
  ∀ (dl dl' dla ql qla : Vec) (tol : ℚ), dl.map mod360 = dl'.map mod360 →
    ∀ i, i ∈ selBboxIdsRaw dl dla ql qla tol ↔ i ∈ selBboxIdsRaw dl' dla ql qla tol

/-- **refuted on this tree**: the same three stations as `[10, 180, 350]` and as `[10, 180, −10]` -/
theorem bbox_convention_independent_fails : ¬ BboxConventionIndependent := fun H =>
  absurd ((H [10, 180, 350] [10, 180, -10] [0, 0, 0] [-20, -5] [-1, 1] 0 (by decide +kernel) 2).mpr (by decide +kernel))
    (by rw [bbox_west_box_returns_complement]; decide)

/-- **partial**: two expressions of the dataset that both satisfy the hypotheses of `bbox_exact_partial`
    (e.g. a box inside the eastern hemisphere) select the same stations -/
theorem bbox_convention_independent_partial (dl dl' dla ql qla : Vec) (tol w w' : ℚ) (i : Nat)
    (hres : ∀ (j : Nat) (lon lat : ℚ), (dl.zip dla)[j]? = some (lon, lat) → ∃ lon' : ℚ, (dl'.zip dla)[j]? = some (lon', lat) ∧ ∃ k : ℤ, lon' = lon + 360 * k)
    (hres' : ∀ (j : Nat) (lon' lat : ℚ), (dl'.zip dla)[j]? = some (lon', lat) → ∃ lon : ℚ, (dl.zip dla)[j]? = some (lon, lat) ∧ ∃ k : ℤ, lon = lon' + 360 * k)
    (hplain : (is360 dl && !(consistent ql dl)) = false) (hq : lonsQ ql dl = ql)
    (hwd : ∀ x ∈ dl, w ≤ x ∧ x < w + 360) (hlo : w ≤ arrMin ql - tol) (hhi : arrMax ql + tol < w + 360)
    (hplain' : (is360 dl' && !(consistent ql dl')) = false) (hq' : lonsQ ql dl' = ql)
    (hwd' : ∀ x ∈ dl', w' ≤ x ∧ x < w' + 360) (hlo' : w' ≤ arrMin ql - tol) (hhi' : arrMax ql + tol < w' + 360) :
    i ∈ selBboxIdsRaw dl dla ql qla tol ↔ i ∈ selBboxIdsRaw dl' dla ql qla tol := by
  rw [bbox_exact_partial dl dla ql qla tol w i hplain hq hwd hlo hhi,
    bbox_exact_partial dl' dla ql qla tol w' i hplain' hq' hwd' hlo' hhi']
  constructor
  · rintro ⟨lon, lat, hz, hb⟩
    obtain ⟨_, hz', m, rfl⟩ := hres i lon lat hz
    exact ⟨_, lat, hz', (inBox_add_turns ql qla tol lon lat m).mpr hb⟩
  · rintro ⟨lon', lat, hz', hb⟩
    obtain ⟨_, hz, m, rfl⟩ := hres' i lon' lat hz'
    exact ⟨_, lat, hz, (inBox_add_turns ql qla tol lon' lat m).mpr hb⟩

/-! ## Fixed — the repaired code (Model/SelectFixed.lean): full-strength statements -/
namespace Fixed

/-- **nearest_min** for the repaired distance: the returned station minimises the short-way distance and
    lies within the tolerance (all station lists, all queries, both conventions). -/
theorem nearest_min (sq : ℚ → ℚ) (dl dla ql qla : Vec) (tol : ℚ) (exact : Bool) (ids : List Nat)
    (hlen : dl.length = dla.length) (htol : 0 ≤ tol) (hsq : ∀ r ∈ radRows ldShort dl dla ql qla, SqrtOn sq r)
    (h : selNearestIdsFixed sq dl dla ql qla tol false exact .raise = .ok ids) :
    ids.length = ql.length ∧
      ∀ j (_ : j < ids.length) (h2 : j < (radRows ldShort dl dla ql qla).length),
        IsNearestWithin tol ((radRows ldShort dl dla ql qla)[j]) ids[j] :=
  nearest_min_gen sq ldShort dl dla ql qla tol exact ids hlen htol hsq h

theorem nearest_fails_beyond_tolerance (sq : ℚ → ℚ) (dl dla ql qla : Vec) (tol : ℚ) (unique exact : Bool)
    (hlen : dl.length = dla.length) (htol : 0 ≤ tol) (hv : validate dl ql qla = .ok ())
    (hsq : ∀ r ∈ radRows ldShort dl dla ql qla, SqrtOn sq r)
    (hfar : ∃ r ∈ radRows ldShort dl dla ql qla, ∀ x ∈ r, tol ^ 2 < x) :
    selNearestIdsFixed sq dl dla ql qla tol unique exact .raise = .error .assertionError :=
  nearest_fails_beyond_tolerance_gen sq ldShort dl dla ql qla tol unique exact hlen htol hv hsq hfar

/-- the witness that refutes the code as it is, is answered correctly by the repaired distance -/
example : selNearestIdsFixed (fun x => if x = (1 / 4) ^ 2 then 1 / 4 else if x = (3 / 8) ^ 2 then 3 / 8 else 0)
    [2879 / 8, 1 / 2] [0, 0] [1 / 8] [0] 5 false false .raise = .ok [0] := by decide +kernel

/-- **bbox_exact** for the repaired box test: selected ⇔ inside the query's own `[min, max]` box widened by
    the tolerance, longitudes compared modulo 360 — for every dataset/query convention. -/
theorem bbox_exact (dl dla ql qla : Vec) (tol : ℚ) (i : Nat) :
    i ∈ selBboxIdsRawFixed dl dla ql qla tol ↔
      ∃ lon lat, (dl.zip dla)[i]? = some (lon, lat) ∧ InBox ql qla tol lon lat := by
  simp only [selBboxIdsRawFixed, InBox, mem_whereIdx, Bool.and_eq_true, decide_eq_true_eq, mod360_sub_le_iff, and_assoc]

/-- `ValueError` exactly when no station is inside the box -/
theorem bbox_error_iff (dl dla ql qla : Vec) (tol : ℚ) (hv : validate dl ql qla = .ok ()) :
    selBboxIdsFixed dl dla ql qla tol = .error .valueError ↔
      ∀ (i : Nat) (lon lat : ℚ), (dl.zip dla)[i]? = some (lon, lat) → ¬ InBox ql qla tol lon lat := by
  have e : selBboxIdsFixed dl dla ql qla tol = .error .valueError ↔ selBboxIdsRawFixed dl dla ql qla tol = [] := by
    unfold selBboxIdsFixed
    rw [hv]
    exact ⟨fun h => by_contra fun c => (nomatch (if_neg c).symm.trans h), fun c => if_pos c⟩
  rw [e, List.eq_nil_iff_forall_not_mem]
  simp only [bbox_exact, not_exists, not_and]

/-- **convention_independent** (bbox, repaired): re-expressing the dataset longitudes by whole turns
    (`% 360`, map to [−180,180], …) does not change the selected station indices. -/
theorem convention_independent_bbox (c : ℚ → ℚ) (hc : ∀ x, ∃ k : ℤ, c x = x + 360 * k) (dl dla ql qla : Vec) (tol : ℚ) :
    selBboxIdsRawFixed (dl.map c) dla ql qla tol = selBboxIdsRawFixed dl dla ql qla tol := by
  unfold selBboxIdsRawFixed
  simp only
  rw [whereIdx_map_left]
  congr 1
  funext lon lat
  obtain ⟨k, hk⟩ := hc lon
  rw [mod360_of_turns (x := lon - (arrMin ql - tol)) (y := c lon - (arrMin ql - tol)) ⟨k, by rw [hk]; ring⟩]

/-- **convention_independent** (nearest / idw, repaired): instances of the general theorems -/
theorem convention_independent_nearest (sq : ℚ → ℚ) (dl dl' dla ql ql' qla : Vec) (tol : ℚ)
    (u e : Bool) (m : Missing) (hd : dl.map mod360 = dl'.map mod360) (hq : ql.map mod360 = ql'.map mod360) :
    selNearestIdsFixed sq dl dla ql qla tol u e m = selNearestIdsFixed sq dl' dla ql' qla tol u e m :=
  C14.convention_independent_nearest sq ldShort dl dl' dla ql ql' qla tol u e m hd hq

theorem convention_independent_idw (sq : ℚ → ℚ) (dl dl' dla ql ql' qla : Vec) (tol : ℚ)
    (ms : Option Int) (hd : dl.map mod360 = dl'.map mod360) (hq : ql.map mod360 = ql'.map mod360) :
    selIdwFixed sq dl dla ql qla tol ms = selIdwFixed sq dl' dla ql' qla tol ms :=
  C14.convention_independent_idw sq ldShort dl dl' dla ql ql' qla tol ms hd hq

/-- the witnesses that refute the code as it is are answered correctly by the repaired box -/
example : selBboxIdsFixed [10, 180, 350] [0, 0, 0] [-20, -5] [-1, 1] 0 = .ok [2] ∧
    selBboxIdsFixed [10, 180, -10] [0, 0, 0] [-20, -5] [-1, 1] 6 = .ok [2] ∧
    selBboxIdsFixed [10, 180, 350] [0, 0, 0] [-12, 12] [-1, 1] 3 = .ok [0, 2] ∧
    selBboxIdsFixed [10, 180, -10, -175, 175] [0, 0, 0, 0, 0] [170, 190] [-1, 1] 0 = .ok [1, 3, 4] := by decide +kernel

end Fixed

end WS.C14
