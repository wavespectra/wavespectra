import WsVerif.Model.DimSem
import WsVerif.Model.Stats
import WsVerif.Model.Batch
import WsVerif.Gen.DimsAudit
/-!
# C06 — regenerated audit of the axes every labelled-array call acts along

`Gen.dimsAudit` / `Gen.ufuncAudit` are regenerated from the current source by `harness/translate_dims.py` on every run.
-/
namespace WS.C06
open WS WS.DimSem

/-- **meaning**: a reduction along a spectral axis is computed position by position — extracting position `i` commutes
    with it, for every reducer `g`, every array and every `i` -/
theorem reduce_spectral_get (ax : Axis) (hax : ax ≠ .pos) (g : Vec → Rat) (a : List Mat) (i : Nat) :
    (reduceAx ax g a)[i]? = (a[i]?).map (reduceMat ax g) := by
  cases ax with
  | pos => exact absurd rfl hax
  | freq => simp [reduceAx]
  | dir => simp [reduceAx]

/-- … so it is the single-spectrum reduction applied to the extracted spectrum -/
theorem reduce_spectral_single (ax : Axis) (hax : ax ≠ .pos) (g : Vec → Rat) (a : List Mat) (i : Nat) (m : Mat)
    (hm : a[i]? = some m) : (reduceAx ax g a)[i]? = (reduceAx ax g [m])[0]? := by
  rw [reduce_spectral_get ax hax, hm]
  cases ax with
  | pos => exact absurd rfl hax
  | freq => simp [reduceAx]
  | dir => simp [reduceAx]

/-- changing the spectrum at position `j` does not change the reduced result at another position -/
theorem reduce_spectral_update_other (ax : Axis) (hax : ax ≠ .pos) (g : Vec → Rat) (a : List Mat) (i j : Nat) (x : Mat)
    (hij : i ≠ j) : (reduceAx ax g (a.set j x))[i]? = (reduceAx ax g a)[i]? := by
  rw [reduce_spectral_get ax hax, reduce_spectral_get ax hax, List.getElem?_set_ne (Ne.symm hij)]

/-- a reduction along any other axis is NOT independent: the sum across two positions differs from either spectrum's own -/
theorem reduce_pos_mixes :
    ∃ (g : Vec → Rat) (a : List Mat), (reduceAx .pos g a)[0]? ≠ (reduceAx .pos g [a.headD []])[0]? := by
  refine ⟨fun v => v.foldl (· + ·) 0, [[[1]], [[2]]], ?_⟩
  decide +kernel

/-- **the semantics is the one the statistics model uses**: `oned` of the model (C01) is the `dir`-reduction of `DimSem` with the
    reducer `Δθ·Σ`, so the batched direction integral is, position by position, the model's `oned` of that spectrum -/
theorem reduce_dir_is_oned (ddv : Rat) (a : List Mat) (i : Nat) :
    (reduceAx .dir (fun r => ddv * r.sum) a)[i]? = (a[i]?).map fun m => (Stats.oned ddv m).map fun x => [x] := by
  rw [reduce_spectral_get .dir (by decide)]
  cases a[i]? with
  | none => rfl
  | some m => simp [reduceMat, Stats.oned, List.map_map, Function.comp_def]

/-- … and a statistic computed from it (any function `stat` of the 1-D spectrum: `hs`, `tm01`, moments, …) over a batch is the
    batched operation of `Model/Batch.lean` (`opD1`), i.e. the map of the single-spectrum statistic -/
theorem batched_stat_of_oned {β : Type} (ddv : Rat) (stat : Vec → β) (a : List Mat) :
    (reduceAx .dir (fun r => ddv * r.sum) a).map (fun m => stat (m.map fun r => r.headD 0)) =
      Batch.opD1 (fun m => stat (Stats.oned ddv m)) a := by
  simp only [reduceAx, Batch.opD1, List.map_map]
  apply List.map_congr_left
  intro m _
  simp [reduceMat, Stats.oned, List.map_map, Function.comp_def]

/-- names: only `freq` and `dir` are spectral -/
theorem axisOf_spectral (d : String) : axisOf d ≠ .pos ↔ (d = "freq" ∨ d = "dir") := by
  unfold axisOf
  by_cases h1 : d = "freq"
  · simp [h1]
  · by_cases h2 : d = "dir"
    · simp [h2]
    · simp [h1, h2]

/-- the exceptions on this tree, by name: `hmax` reads the mean time step of the *time axis* (a duration statistic: the
    expected maximum over the record), which is not a per-spectrum quantity by definition -/
def exceptions : List (String × String) := [("SpecArray.hmax", "mean"), ("SpecArray.hmax", "np.diff")]

/-- **every axis-sensitive call of the labelled-array layer (regenerated from the source) acts along `freq` / `dir` only,
    or on a coordinate array** — except the listed `hmax` calls.  A reduction that loses its `dim=`, names another
    dimension, or is applied to the data instead of a coordinate breaks this theorem. -/
theorem gendims_spectral_only :
    ∀ u ∈ Gen.dimsAudit, u.spectralOnly = true ∨ (u.fn, u.op) ∈ exceptions := by decide +kernel

/-- the listed exceptions are exactly the entries that are not spectral-only (no stale exception) -/
theorem gendims_exceptions_exact :
    (Gen.dimsAudit.filter fun u => !u.spectralOnly).map (fun u => (u.fn, u.op)) = exceptions := by decide +kernel

/-- **every `apply_ufunc` is vectorised** (looped over every non-core position) **with core dimensions ⊆ {freq, dir}** and
    output core dimensions ⊆ {part, freq, dir}: the numpy kernels receive one spectrum at a time -/
theorem gendims_ufunc_spectral : ∀ u ∈ Gen.ufuncAudit, u.spectralOnly = true := by decide +kernel

/-- the kernels reached through `apply_ufunc`, in source order (a new or re-routed kernel shows up here) -/
theorem gendims_ufunc_kernels :
    Gen.ufuncAudit.map (fun u => (u.fn, u.kernel)) =
      [("SpecArray.fit_jonswap", "fit_jonswap_params"), ("SpecArray.fit_gaussian", "fit_gaussian_params"),
       ("peak_wave_direction", "npstats.dp"), ("mean_direction_at_peak_wave_period", "npstats.dpm"),
       ("alpha", "npstats.alpha"), ("peak_wave_period", "func"), ("peak_directional_spread", "npstats.dpspr"),
       ("Partition.ptm1", "np_ptm1"), ("Partition.ptm2", "np_ptm2"), ("Partition.ptm3", "np_ptm3"),
       ("Partition.hp01", "func")] := rfl

/-- `_spec_dims` (used as `dim=` by `rmse`) is the spectral dimensions present on the object -/
theorem gendims_spec_dims_text :
    Gen.specDimsText = "return [d for d in self._obj.dims if d in [attrs.FREQNAME, attrs.DIRNAME]]" := rfl

/-- the reductions that carry the statistics are present (the audit is not vacuous): 20 or more named-dimension
    reductions along `freq` and 8 or more along `dir` -/
theorem gendims_nonvacuous :
    20 ≤ (Gen.dimsAudit.filter fun u => u.kind == "dim" && u.dims.contains "freq").length ∧
    8 ≤ (Gen.dimsAudit.filter fun u => u.kind == "dim" && u.dims.contains "dir").length := by decide +kernel

end WS.C06
