import WsVerif.Gen.CText
/-!
# C04 — the C text the transliteration was validated against

`Model/Specpart.lean`, `Model/Neigh.lean` and `Model/Flood.lean` are a hand transliteration of `specpart.c`; the tie to the
real C is the stream comparison on exhaustively enumerated small grids and random large ones.  That comparison was made for
exactly this source text.  The translator (`harness/translate_c.py`) regenerates, on every run, a digest of the normalised
token stream (comments and white space removed) of every function of `specpart.c`; the theorem below pins them.  Any edit of
the C routine — also one that the quick enumeration would not notice, such as a changed tolerance that matters only for
spectra of very small magnitude, or a loop bound that matters only on rare plateau configurations — breaks this obligation;
the check then switches to its deepest search (larger exhaustive spaces, magnitude sweeps) for a failing input.
-/
namespace WS.C04

theorem specpart_c_text : Gen.ctext_specpart =
    [("<file scope>", "113a643e11711aa4"),
     ("partinit", "54188e1a74ac1891"),
     ("partition", "080d86c673f28906"),
     ("ptsort", "c0a724861a02f697"),
     ("ptnghb", "e3bb2e9a48fb3c1a"),
     ("int_minval", "eed54a7560dfd61c"),
     ("fifo_add", "5b44ab4d9cc786f9"),
     ("fifo_empty", "c1b75b554014f46d"),
     ("fifo_first", "d7657c58c5001f39"),
     ("pt_fld", "ef7f752b3a2de822")] ∧
    Gen.ctext_specpart_h = [("<file scope>", "ced05b336c3acfaa")] :=
  ⟨rfl, rfl⟩

end WS.C04
