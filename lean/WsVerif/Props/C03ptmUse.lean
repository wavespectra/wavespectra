import WsVerif.Props.C03ptm
import WsVerif.Props.C03chain
import WsVerif.Props.C01
/-!
# C03 — what the bridges of `Props/C03ptm.lean` buy

The theorems of `Props/C03.lean` / `Props/C03chain.lean` are about `Model/Assembly.lean`; with `genptm_np_ptm{1,2,3}_eq` they
are statements about the functions regenerated from the current source.  Kept apart from `C03ptm.lean` so that a broken
literal list or C-text digest upstream never hides which bridge broke.
-/
namespace WS.C03
open WS WS.Assembly WS.PtmBridge

/-! ## the bins of the end-to-end theorems -/

/-- `mkBins` (the bins of the `…_eq_lists` bridges) is the `binsOf` of `Props/C03chain.lean`, where the label list is the
    output of the watershed model: the conservation theorems there are statements about the regenerated functions -/
theorem genptm_mkBins_eq_binsOf (E : Vec) (labs : List Nat) (ws : List Bool) : mkBins E labs ws = binsOf E labs ws := rfl

/-! ## what the bridges buy: C03 theorems as statements about the regenerated functions -/

theorem genptm_colSum_vals (ps : List Part) (i : Nat) : ((vals ps).map fun a => a.getD i 0).sum = colSum ps i :=
  congrArg List.sum List.map_map

/-- the regenerated `np_ptm1` returns `swells + 1` arrays; `np_ptm2` `swells + 2`; `np_ptm3` `parts` -/
theorem genptm_lengths (key : Vec → Rat) (wscut : Rat) (bins : List Bin) (smooth : List Rat) (s : Nat) :
    (Gen.np_ptm1 key (bE bins) smooth (bL bins) (bW bins) wscut (some s)).length = s + 1
    ∧ (Gen.np_ptm2 key (bE bins) smooth (bL bins) (bW bins) wscut (some s)).length = s + 2
    ∧ (Gen.np_ptm3 key (bE bins) smooth (bL bins) (some s)).length = s := by
  rw [genptm_np_ptm1_eq, genptm_np_ptm2_eq, genptm_np_ptm3_eq]
  simp only [vals_length]
  exact ⟨len_ptm1 key wscut bins s, len_ptm2 key wscut bins s, (len_ptm3 key bins s).1⟩

/-- energy conservation, bin for bin, of the regenerated functions (every bin labelled, at least `nparts` requested) -/
theorem genptm_conserves (key : Vec → Rat) (wscut : Rat) (bins : List Bin) (smooth : List Rat) (s : Nat)
    (hcover : ∀ b ∈ bins, 1 ≤ b.lab) (hreq : nparts bins ≤ s) (i : Nat) (hi : i < bins.length) :
    ((Gen.np_ptm1 key (bE bins) smooth (bL bins) (bW bins) wscut (some s)).map fun a => a.getD i 0).sum = bins[i].e
    ∧ ((Gen.np_ptm2 key (bE bins) smooth (bL bins) (bW bins) wscut (some s)).map fun a => a.getD i 0).sum = bins[i].e
    ∧ ((Gen.np_ptm3 key (bE bins) smooth (bL bins) (some s)).map fun a => a.getD i 0).sum = bins[i].e := by
  rw [genptm_np_ptm1_eq, genptm_np_ptm2_eq, genptm_np_ptm3_eq]
  simp only [genptm_colSum_vals]
  exact ⟨sum_exact_ptm1 key wscut bins s hcover hreq i hi, sum_exact_ptm2 key wscut bins s hcover hreq i hi,
    sum_exact_ptm3 key bins s hcover hreq i hi⟩

/-! ## the sort key -/

/-- the key every `…_hs` bridge is instantiated with is the regenerated `npstats.hs(swell, freq, dir)` (radicand, tail
    fitted) of the partition reshaped to its `(nf, nd)` rows — for at least two directions, which the wind-sea mask and
    `hs` itself need anyway -/
theorem genptm_key_is_npstats_hs (f v : Vec) (a b : Rat) (rest : Vec) :
    npHsKey f (a :: b :: rest) v
      = Gen.npHsE (rowsOf f.length (a :: b :: rest).length v) f (some (a :: b :: rest)) true := by
  rw [C01.gen_npHs_eq]
  simp [npHsKey, npHsRow, Stats.npE, Stats.oned, npDdir]

end WS.C03
