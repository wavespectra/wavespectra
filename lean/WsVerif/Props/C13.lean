import WsVerif.Model.IO.Instruments
import WsVerif.Lemmas.Sums
import WsVerif.Lemmas.Instruments
import WsVerif.Gen.Lits
import WsVerif.Gen.NpKernels
import WsVerif.Props.C10
import Mathlib.Data.Rat.Floor
import Mathlib.Tactic.NormNum
import Mathlib.Tactic.FieldSimp
import Mathlib.Tactic.Ring
import Mathlib.Tactic.Linarith
import Mathlib.Data.List.Perm.Basic
/-!
# C13 — instrument file readers: the numeric contract

Property theorems only, on `Model/IO/Instruments.lean`.  Tokenisation and number/time parsing are not
decided here (DESIGN §1.5-3; carried by the differential check with reference encoders).  `pi` is a
symbolic parameter; trig/power tables are quantified over, with the hypotheses they need stated.
-/
namespace WS.C13
open WS WS.Instr

/-! ## Cartwright normalisation, Spotter / Datawell -/

/-- general form: `Σ_j G_j Δθ = n·Δθ/360` for every table `g` with non-zero sum and any non-zero `π` -/
theorem cartwright_integral (pi dd : ℚ) (g : Vec) (hpi : pi ≠ 0) (hsum : g.sum ≠ 0) (hlen : g.length ≠ 0) :
    ∃ G, cartwrightRow pi g = some G ∧ integ dd G = (g.length : ℚ) * dd / 360 := by
  have hl : (g.length : ℚ) ≠ 0 := Nat.cast_ne_zero.mpr hlen
  have htot : g.sum * (2 * pi / (g.length : ℚ)) ≠ 0 :=
    mul_ne_zero hsum (div_ne_zero (mul_ne_zero two_ne_zero hpi) hl)
  refine ⟨_, if_neg htot, ?_⟩
  unfold integ r2d
  simp only [mul_div_assoc]
  rw [sum_map_mul_const]
  field_simp; ring

/-- `Σ_j G_j Δθ = 1` for every table `g` with non-zero sum, any number `n` of directions with
    `n·Δθ = 360`, any non-zero `π` -/
theorem cartwright_normalised (pi dd : ℚ) (g : Vec) (hpi : pi ≠ 0) (hsum : g.sum ≠ 0)
    (hn : (g.length : ℚ) * dd = 360) :
    ∃ G, cartwrightRow pi g = some G ∧ integ dd G = 1 := by
  obtain ⟨G, hG, hint⟩ := cartwright_integral pi dd g hpi hsum (List.length_pos_of_sum_ne_zero g hsum).ne'
  exact ⟨G, hG, by rw [hint, hn]; norm_num⟩

/-- the normalised spreading function is non-negative when the table is -/
theorem cartwright_nonneg (pi : ℚ) (g G : Vec) (hpi : 0 < pi) (hg : ∀ x ∈ g, 0 ≤ x)
    (h : cartwrightRow pi g = some G) : ∀ y ∈ G, 0 ≤ y := by
  unfold cartwrightRow at h
  dsimp only at h
  split_ifs at h
  obtain rfl := Option.some.inj h
  intro y hy
  obtain ⟨x, hx, rfl⟩ := List.mem_map.mp hy
  have htot : 0 ≤ g.sum * (2 * pi / (g.length : ℚ)) :=
    mul_nonneg (List.sum_nonneg hg) (div_nonneg (mul_nonneg two_pos.le hpi.le) (Nat.cast_nonneg _))
  exact div_nonneg (mul_nonneg (hg x hx) (one_div_nonneg.mpr htot)) (div_nonneg (Nat.ofNat_nonneg 180) hpi.le)

/-- one frequency of a Spotter/Datawell record: the direction integral of the constructed row is
    `efth · n·Δθ/360` … -/
theorem spreadRow_integral_general (pi dd ef : ℚ) (g : Vec) (hpi : pi ≠ 0) (hsum : g.sum ≠ 0)
    (hlen : g.length ≠ 0) :
    (spreadRow pi ef g).map (integ dd) = some (ef * ((g.length : ℚ) * dd / 360)) := by
  obtain ⟨G, hG, hint⟩ := cartwright_integral pi dd g hpi hsum hlen
  unfold spreadRow
  rw [hG, Option.map_some, Option.map_some, ← hint]
  unfold integ
  rw [sum_map_const_mul, mul_left_comm]

/-- … which is `efth_i` itself when `n·Δθ = 360` -/
theorem spreadRow_integrates (pi dd ef : ℚ) (g : Vec) (hpi : pi ≠ 0) (hsum : g.sum ≠ 0)
    (hn : (g.length : ℚ) * dd = 360) :
    (spreadRow pi ef g).map (integ dd) = some ef := by
  rw [spreadRow_integral_general pi dd ef g hpi hsum (List.length_pos_of_sum_ne_zero g hsum).ne', hn]; norm_num

/-- **Spotter**: for every record, integrating the constructed 2-D spectrum over direction gives back
    the file's frequency spectrum, at every frequency -/
theorem spotter_integrates_back (pi dd : ℚ) (efs : Vec) (gs : Mat) (hpi : pi ≠ 0)
    (hlen : gs.length = efs.length)
    (hrows : ∀ g ∈ gs, g.sum ≠ 0 ∧ (g.length : ℚ) * dd = 360) :
    (build2d pi efs gs).map (Option.map (integ dd)) = efs.map some := by
  unfold build2d
  induction efs generalizing gs with
  | nil => simp
  | cons e es ih =>
    cases gs with
    | nil => simp at hlen
    | cons g gt =>
      simp only [List.zipWith_cons_cons, List.map_cons]
      have hg := hrows g (by simp)
      rw [spreadRow_integrates pi dd e g hpi hg.1 hg.2]
      rw [ih gt (by simpa using hlen) (fun g' hg' => hrows g' (by simp [hg']))]

/-- **Datawell**: same with `efth = relative psd · smax` -/
theorem datawell_integrates_back (pi dd smax : ℚ) (rel : Vec) (gs : Mat) (hpi : pi ≠ 0)
    (hlen : gs.length = rel.length)
    (hrows : ∀ g ∈ gs, g.sum ≠ 0 ∧ (g.length : ℚ) * dd = 360) :
    (build2d pi (datawellEf smax rel) gs).map (Option.map (integ dd)) =
      (rel.map fun x => some (x * smax)) := by
  rw [spotter_integrates_back pi dd (datawellEf smax rel) gs hpi
    (by unfold datawellEf; simpa using hlen) hrows]
  unfold datawellEf; simp

/-- requesting the 1-D form (`dd=None`) returns the file's frequency spectrum itself -/
theorem oned_request_unchanged (pi : ℚ) (efs : Vec) (gs : Mat) :
    spotterRead pi none efs gs = .oneD efs := rfl

theorem oned_request_unchanged_datawell (pi smax : ℚ) (rel : Vec) (gs : Mat) :
    datawellRead pi none smax rel gs = .oneD (rel.map fun x => x * smax) := rfl

/-- and the 2-D request is the constructed spectrum whose direction integral is that 1-D form -/
theorem twod_consistent_with_oned (pi dd : ℚ) (efs : Vec) (gs : Mat) (hpi : pi ≠ 0)
    (hlen : gs.length = efs.length)
    (hrows : ∀ g ∈ gs, g.sum ≠ 0 ∧ (g.length : ℚ) * dd = 360) :
    ∃ rows, spotterRead pi (some dd) efs gs = .twoD rows ∧
      rows.map (Option.map (integ dd)) = efs.map some ∧ spotterRead pi none efs gs = .oneD efs :=
  ⟨build2d pi efs gs, rfl, spotter_integrates_back pi dd efs gs hpi hlen hrows, rfl⟩

/-! ## NDBC ASCII -/

/-- `IPI · D2R = 1/180`: the distribution does not depend on the value of π -/
theorem ndbcD_eq (pi r1 r2 c1 c2 : ℚ) (hpi : pi ≠ 0) :
    ndbcD pi r1 r2 c1 c2 = 1 / 180 * (1 / 2 + r1 * c1 + r2 * c2) := by
  unfold ndbcD d2r
  rw [mul_right_comm, one_div_mul_eq_div, div_div_cancel_left' hpi, inv_eq_one_div]

/-- without the trig-sum hypotheses the integral is off by exactly the harmonic sums (what the
    check sees when the caller passes fewer than three direction bins) -/
theorem ndbc_ascii_integral_general (pi dd spden r1 r2 : ℚ) (c1 c2 : Vec) (hpi : pi ≠ 0)
    (hlen : c1.length = c2.length) :
    integ dd (ndbcRow pi spden r1 r2 c1 c2) =
      spden * dd / 180 * ((c1.length : ℚ) / 2 + r1 * c1.sum + r2 * c2.sum) := by
  unfold integ ndbcRow
  simp only [ndbcD_eq _ _ _ _ _ hpi, ← mul_assoc]
  rw [sum_zipWith_affine _ _ _ _ c1 c2 hlen]; ring

/-- **NDBC ASCII**: `Σ_j S(f,θ_j) Δθ = spden(f)` whenever the first- and second-harmonic tables sum to
    zero over the direction bins (true on every uniform full circle with at least three bins) and
    `n·Δθ = 360` -/
theorem ndbc_ascii_integrates (pi dd spden r1 r2 : ℚ) (c1 c2 : Vec) (hpi : pi ≠ 0)
    (hlen : c1.length = c2.length) (h1 : c1.sum = 0) (h2 : c2.sum = 0)
    (hn : (c1.length : ℚ) * dd = 360) :
    integ dd (ndbcRow pi spden r1 r2 c1 c2) = spden := by
  rw [ndbc_ascii_integral_general pi dd spden r1 r2 c1 c2 hpi hlen, h1, h2, mul_zero, mul_zero, add_zero,
    add_zero, show spden * dd / 180 * ((c1.length : ℚ) / 2) = spden * ((c1.length : ℚ) * dd) / 360 by ring, hn]
  norm_num

/-! ## NDBC: `r1`, `r2` of the history format -/

/-- the reader uses the file's `r1`/`r2`: printed·0.01 in the history format (hundredths), the printed
    value in the realtime format -/
theorem ndbc_r_from_file (history : Bool) (printed : ℚ) :
    ndbcR history printed = if history then printed * rHundredth else printed := rfl

/-- the code's double `0.01` is 1/100 to 2·10⁻¹⁹ -/
theorem rHundredth_close : 1 / 100 - 1 / 10 ^ 18 < rHundredth ∧ rHundredth < 1 / 100 + 1 / 10 ^ 18 := by
  unfold rHundredth; constructor <;> norm_num

/-- the direction integral does not see the scale of `r1`, `r2` (why the suite's 1-D/2-D `hs`
    comparison could not see the history-format defect repaired by abaf99d): it is `spden` for every `r1`, `r2` -/
theorem ndbc_integral_blind_to_r (pi dd spden r1 r2 r1' r2' : ℚ) (c1 c2 : Vec) (hpi : pi ≠ 0)
    (hlen : c1.length = c2.length) (h1 : c1.sum = 0) (h2 : c2.sum = 0) (hn : (c1.length : ℚ) * dd = 360) :
    integ dd (ndbcRow pi spden r1 r2 c1 c2) = integ dd (ndbcRow pi spden r1' r2' c1 c2) := by
  rw [ndbc_ascii_integrates pi dd spden r1 r2 c1 c2 hpi hlen h1 h2 hn,
    ndbc_ascii_integrates pi dd spden r1' r2' c1 c2 hpi hlen h1 h2 hn]

/-! ## WW3 station files -/

/-- **WW3 station**: `extract_direction` maps a going-to angle of `x` radians to the coming-from
    direction `(x·180/π + 180) mod 360` in degrees, for every positive `π`; the result is in `[0, 360)` -/
theorem ww3station_direction (pi x : ℚ) (hpi : 0 < pi) :
    ww3Dir pi x = pmod (x * (180 / pi) + 180) 360 ∧ 0 ≤ ww3Dir pi x ∧ ww3Dir pi x < 360 := by
  have hnn := pmod_nonneg (x - 5 / 2 * pi) (mul_pos two_pos hpi)
  -- `|·|` does nothing to a remainder; scaling by `180/π` turns `% 2π` into `% 360`
  have key : ww3Dir pi x = pmod (x * (180 / pi) + 180) 360 := by
    unfold ww3Dir r2d
    rw [absR_of_nonneg hnn, mul_comm, ← pmod_mul_left _ _ _ (div_ne_zero (by norm_num) hpi.ne'),
      show 180 / pi * (2 * pi) = 360 by rw [mul_left_comm, div_mul_cancel₀ _ hpi.ne']; norm_num, C10.pmod_add_pmod _ _ _ (by norm_num),
      ← pmod_sub_period (x * (180 / pi) + 180) 360 (by norm_num)]
    congr 1; field_simp; ring
  exact ⟨key, key ▸ C10.dir_range _⟩

/-- the same in turns: a going-to angle of `t` turns (`x = 2π t`) is reported as `(360 t + 180) mod 360` -/
theorem ww3station_direction_turns (pi t : ℚ) (hpi : 0 < pi) :
    ww3Dir pi (2 * pi * t) = pmod (360 * t + 180) 360 := by
  rw [(ww3station_direction pi (2 * pi * t) hpi).1]
  have : 2 * pi * t * (180 / pi) = 360 * t := by field_simp; ring
  rw [this]

/-- reversing the sense is a bijection of the bins: applying the `+180` map twice is the identity mod 360 -/
theorem ww3station_direction_involutive (d : ℚ) :
    pmod (pmod (d + 180) 360 + 180) 360 = pmod d 360 := pmod_half_turn_twice d

/-- **WW3 station** units and layout: entry `(freq i, dir j)` of the returned spectrum is the file's
    value number `i` of direction block `j`, times `π/180` (m²/Hz/rad → m²/Hz/deg) -/
theorem ww3station_transpose_units (pi : ℚ) (nf : Nat) (raw : Mat) (i j : Nat) (hi : i < nf)
    (hj : j < raw.length) :
    ((ww3Spec pi nf raw).getD i []).getD j 0 = ((raw.getD j []).getD i 0) * (pi / 180) := by
  unfold ww3Spec transpose d2r
  simp only [List.getD_eq_getElem?_getD, List.getElem?_map, List.getElem?_range hi, Option.map_some,
    Option.getD_some, List.getElem?_eq_getElem hj]

/-- shape: `nf` rows of one value per direction block -/
theorem ww3station_shape (pi : ℚ) (nf : Nat) (raw : Mat) :
    (ww3Spec pi nf raw).length = nf ∧ ∀ r ∈ ww3Spec pi nf raw, r.length = raw.length := by
  unfold ww3Spec transpose
  refine ⟨by rw [List.length_map, List.length_map, List.length_range], fun r hr => ?_⟩
  simp only [List.mem_map, List.mem_range] at hr
  obtain ⟨a, ⟨k, _, rfl⟩, rfl⟩ := hr
  rw [List.length_map, List.length_map]

/-- multiplying every value by `k` (here `π/180`: per radian → per degree) is integrating with the bin width
    multiplied by `k` (degrees → radians) -/
theorem integ_map_mul (dd k : ℚ) (row : Vec) : integ dd (row.map fun x => x * k) = integ (dd * k) row := by
  unfold integ
  rw [sum_map_mul_const, mul_assoc, mul_comm k]

/-- the variance of a WW3 station record is kept: integrating the result over direction in degrees
    equals integrating the file's values in radians -/
theorem ww3station_units_integral (pi dd : ℚ) (row : Vec) :
    integ dd (row.map fun x => x * d2r pi) = integ (dd * (pi / 180)) row :=
  integ_map_mul dd (pi / 180) row

/-! ## Obscape, XWaves -/

/-- **Obscape**: values are the file's times `π/180`, so that the integral over direction in degrees
    equals the file's integral in radians -/
theorem obscape_units (pi dd : ℚ) (row : Vec) :
    obscapeRow pi row = row.map (fun x => x * pi / 180) ∧
      integ dd (obscapeRow pi row) = integ (dd * (pi / 180)) row := by
  refine ⟨rfl, ?_⟩
  simp only [obscapeRow, mul_div_assoc]
  exact integ_map_mul dd (pi / 180) row

/-- dividing by `R2D` is multiplying by `π/180`, for every value of `π` (also `0`, where both give `0`) -/
theorem xwavesRow_eq (pi : ℚ) (row : Vec) : xwavesRow pi row = obscapeRow pi row := by
  unfold xwavesRow obscapeRow r2d
  simp only [div_div_eq_mul_div]

/-- **XWaves**: dividing by `R2D` is the same conversion -/
theorem xwaves_units (pi dd : ℚ) (row : Vec) (hpi : pi ≠ 0) :
    xwavesRow pi row = obscapeRow pi row ∧ integ dd (xwavesRow pi row) = integ (dd * (pi / 180)) row :=
  ⟨xwavesRow_eq pi row, xwavesRow_eq pi row ▸ (obscape_units pi dd row).2⟩

/-! ## sorting by time -/

/-- **sorted by time**: the records come out in non-decreasing time order and are exactly the input
    records (as a multiset: nothing dropped, duplicated or altered) -/
theorem sorted_by_time {α : Type} (recs : List (Int × α)) :
    (sortByTime recs).Perm recs ∧ (sortByTime recs).Pairwise (fun a b => a.1 ≤ b.1) :=
  ⟨sortBy_perm _ recs, sortBy_sorted (fun a b => le_total a b) (fun _ _ _ => le_trans) _ recs⟩

/-! ## SWAN ASCII -/

/-- fancy indexing commutes with a map that fixes the out-of-range default -/
theorem takeIdx_map (f : ℚ → ℚ) (hf : f 0 = 0) (l : Vec) (idx : List Nat) :
    takeIdx (l.map f) idx = (takeIdx l idx).map f := by
  unfold takeIdx
  rw [List.map_map]
  apply List.map_congr_left
  intro k _
  rw [Function.comp, List.getD_eq_getElem?_getD, List.getD_eq_getElem?_getD, List.getElem?_map]
  cases l[k]? with
  | none => exact hf.symm
  | some v => rfl

/-- **SWAN `dirorder`**: with `d = dirs % 360`, the returned labels are `d` re-ordered by
    `σ = argsort d`; `σ` is a permutation of the bins, the labels come out sorted and in `[0,360)`,
    and every row of every FACTOR block is re-ordered by the same `σ`, so each (direction, value) pair
    of the file survives -/
theorem swan_dirorder_consistent (d0 : Vec) (row : Vec) (hlen : row.length = d0.length) :
    ∃ σ, swanDirmap true d0 = some σ ∧ σ.Perm (List.range d0.length) ∧
      swanDirs true d0 = takeIdx (d0.map fun x => pmod x 360) σ ∧
      (swanDirs true d0).Pairwise (· ≤ ·) ∧ (∀ x ∈ swanDirs true d0, 0 ≤ x ∧ x < 360) ∧
      (List.zip (swanDirs true d0) (takeIdx row σ)).Perm (List.zip (d0.map fun x => pmod x 360) row) := by
  have hd : (d0.map fun x => pmod x 360).length = d0.length := List.length_map _
  have hdirs : swanDirs true d0 =
      takeIdx (d0.map fun x => pmod x 360) (argsort (d0.map fun x => pmod x 360)) :=
    (takeIdx_map (fun x => pmod x 360) (by decide +kernel) d0 _).symm
  refine ⟨_, rfl, hd ▸ argsort_perm _, hdirs, hdirs ▸ argsort_sorted _, ?_,
    hdirs ▸ argsort_pairs _ row (hlen.trans hd.symm)⟩
  intro x hx
  obtain ⟨y, _, rfl⟩ := List.mem_map.mp hx
  exact C10.dir_range y

/-- without `dirorder` nothing is re-ordered: labels as in the header, rows as in the file -/
theorem swan_no_dirorder (d0 : Vec) : swanDirmap false d0 = none ∧ swanDirs false d0 = d0 := ⟨rfl, rfl⟩

/-- `to_nautical` (CDIR headers): result in `[0,360)`, and the map is an involution mod 360 -/
theorem swan_to_nautical (a : ℚ) :
    0 ≤ toNautical a ∧ toNautical a < 360 ∧ toNautical (toNautical a) = pmod a 360 := by
  unfold toNautical
  refine ⟨(C10.dir_range _).1, (C10.dir_range _).2, ?_⟩
  rw [pmod_sub_pmod _ _ _ (by norm_num), sub_sub_cancel]

/-- **SWAN blocks**: a FACTOR block decodes to `int·factor` (divided by the unit factor), ZERO to all
    zeros, NODATA to all missing; the shapes are those of the header -/
theorem swan_factor_block (nf nd : Nat) (uf fac : ℚ) (vals : List (List Int)) :
    decodeBlock nf nd none uf (.factor fac vals) =
        vals.map (fun row => row.map fun (v : Int) => some ((v : ℚ) * fac / uf)) ∧
      decodeBlock nf nd none uf .zero = List.replicate nf (List.replicate nd (some 0)) ∧
      decodeBlock nf nd none uf .nodata = List.replicate nf (List.replicate nd none) := by
  refine ⟨?_, ?_, rfl⟩
  · unfold decodeBlock; simp only [List.map_map]; rfl
  · unfold decodeBlock; rw [zero_div]

/-- with `dirorder`, column `p` of a decoded FACTOR row is the file's column `σ p`, times the factor -/
theorem swan_factor_block_dirorder (nf nd : Nat) (uf fac : ℚ) (σ : List Nat) (vals : List (List Int)) :
    decodeBlock nf nd (some σ) uf (.factor fac vals) =
      vals.map (fun row => σ.map fun k => some ((row.map fun (v : Int) => (v : ℚ) * fac).getD k 0 / uf)) := by
  unfold decodeBlock takeIdx; simp only [List.map_map]; rfl

/-- ENERGY units (`J/m2/Hz/degr`): every decoded value is the VaDens decoding divided by `E2V` -/
theorem swan_energy_units (nf nd : Nat) (e2v fac : ℚ) (dirmap : Option (List Nat)) (vals : List (List Int)) :
    decodeBlock nf nd dirmap (swanUnitsFactor e2v true) (.factor fac vals) =
      (decodeBlock nf nd dirmap (swanUnitsFactor e2v false) (.factor fac vals)).map
        (fun row => row.map (Option.map (· / e2v))) := by
  unfold decodeBlock swanUnitsFactor
  simp only [List.map_map, if_true, Bool.false_eq_true, if_false, Function.comp_def, Option.map_some, div_one]

/-! ## TRIAXYS grids -/

/-- **TRIAXYS frequencies**: exactly the header's `nf` entries `f0 + i·df` -/
theorem triaxys_grid (f0 df : ℚ) (nf : Nat) :
    triaxysFreqs f0 df nf = (List.range nf).map (fun (i : Nat) => f0 + (i : ℚ) * df) ∧
      (triaxysFreqs f0 df nf).length = nf := by
  unfold triaxysFreqs
  refine ⟨?_, by simp⟩
  apply List.map_congr_left; intro i _; ring

/-- **TRIAXYS directions**: with `k·ddir = 360` the direction axis is `0, ddir, …, 360` (`k+1` columns,
    the file's `0.00 TO 360.00 DEG`) -/
theorem triaxys_dirs (ddir : ℚ) (k : Nat) (hd : 0 < ddir) (hk : (k : ℚ) * ddir = 360) :
    triaxysDirs ddir = (List.range (k + 1)).map fun (i : Nat) => (i : ℚ) * ddir := by
  unfold triaxysDirs arange
  rw [if_neg hd.ne', arangeLen_of_mul_eq 0 (360 + ddir) ddir (k + 1) hd (by rw [← hk]; push_cast; ring)]
  simp only [zero_add]

/-! ## sorted by time, every reader -/

/-- the property's clause for one reader and one list of files (in visiting order): the records come
    back sorted by time, none lost, duplicated or relabelled -/
def SortedByTime {α : Type} (fmt : Fmt) (files : List (List (Int × α))) : Prop :=
  (readerOrder fmt files).Perm files.flatten ∧ (readerOrder fmt files).Pairwise (fun a b => a.1 ≤ b.1)

theorem flatten_map_sort_perm {α : Type} (fs : List (List (Int × α))) :
    ((fs.map sortByTime).flatten).Perm fs.flatten :=
  List.Perm.flatten_congr (List.forall₂_map_left_iff.mpr (List.forall₂_same.mpr fun f _ => (sorted_by_time f).1))

/-- **sorted by time, all readers**: every reader, every order of records and files -/
theorem sorted_by_time_all {α : Type} (fmt : Fmt) (files : List (List (Int × α))) : SortedByTime fmt files := by
  cases fmt
  case spotter =>
    exact ⟨(sorted_by_time _).1.trans (flatten_map_sort_perm files), (sorted_by_time _).2⟩
  all_goals exact ⟨(sorted_by_time files.flatten).1, (sorted_by_time files.flatten).2⟩

/-! ## SWAN: positions of a gridded file -/

/-- **SWAN grid positions**: whatever the order in which the file lists the grid nodes, a spectrum
    shown at (lat `a`, lon `b`) is one the file gives for the node `(b, a)` -/
theorem swan_grid_positions (locs : List (Nat × Nat)) (a b k : Nat) (h : swanGridAt locs a b = some k) :
    locs[k]? = some (b, a) := by
  unfold swanGridAt at h
  rw [Option.map_eq_some_iff] at h
  obtain ⟨p, hp, rfl⟩ := h
  have hm := List.mem_of_getLast? hp
  rw [List.mem_filter] at hm
  have h1 := List.mem_zipIdx_iff_getElem?.mp hm.1
  have h2 : p.1 = (b, a) := by simpa using hm.2
  rw [h1, h2]

/-- and every location listed once is shown at its own node: nothing is lost or displaced -/
theorem swan_grid_positions_complete (locs : List (Nat × Nat)) (hnd : locs.Nodup) (k : Nat) (hk : k < locs.length) :
    swanGridAt locs (locs[k]).2 (locs[k]).1 = some k := by
  unfold swanGridAt
  -- the entries of the file at position `locs[k]` are at index `k` only, and there is one
  have hall : ∀ p ∈ locs.zipIdx.filter fun p => p.1 = ((locs[k]).1, (locs[k]).2), p.2 = k := by
    intro p hp
    obtain ⟨h1, h2⟩ := List.mem_filter.mp hp
    obtain ⟨hp2, h3⟩ := List.getElem?_eq_some_iff.mp (List.mem_zipIdx_iff_getElem?.mp h1)
    exact (List.Nodup.getElem_inj_iff hnd).mp (h3.trans (of_decide_eq_true h2))
  have hne : (locs.zipIdx.filter fun p => p.1 = ((locs[k]).1, (locs[k]).2)) ≠ [] :=
    List.ne_nil_of_mem (a := (locs[k], k))
      (List.mem_filter.mpr ⟨List.mem_zipIdx_iff_getElem?.mpr (List.getElem?_eq_getElem hk), decide_eq_true rfl⟩)
  rw [List.getLast?_eq_some_getLast hne, Option.map_some, hall _ (List.getLast_mem hne)]

/-! ## code as found (before the repairs): the statements that were false, kept for the record -/

/-- NDBC history `r1`/`r2` (before abaf99d): a history file printing `59` (r1 = 0.59) was used as `59` -/
theorem asfound_ndbc_r_fails :
    ¬ ∀ (history : Bool) (printed : ℚ), ndbcRAsFound history printed = if history then printed / 100 else printed := by
  intro h
  have := h true 59
  simp only [ndbcRAsFound, if_true] at this
  norm_num at this

/-- TRIAXYS (before 56dc430): `arange(f0, f0+df·nf, df)` is the same list in exact arithmetic — the
    defect (`nf+1` entries) was one of floating point only -/
theorem asfound_triaxys_grid (f0 df : ℚ) (nf : Nat) (hdf : 0 < df) :
    triaxysFreqsAsFound f0 df nf = triaxysFreqs f0 df nf := by
  unfold triaxysFreqsAsFound triaxysFreqs arange
  rw [arangeLen_of_mul_eq f0 _ df nf hdf (by ring)]
  simp only [mul_comm]

def SortedByTimeAsFound {α : Type} (fmt : Fmt) (files : List (List (Int × α))) : Prop :=
  ∃ out, readerOrderAsFound fmt files = .ok out ∧ out.Perm files.flatten ∧ out.Pairwise (fun a b => a.1 ≤ b.1)

/-- before the repairs the clause held for every reader only on records already in increasing order -/
theorem asfound_sorted_by_time_partial {α : Type} (fmt : Fmt) (files : List (List (Int × α)))
    (h : files.flatten.Pairwise (fun a b => a.1 < b.1)) :
    SortedByTimeAsFound fmt files := by
  have hle : files.flatten.Pairwise (fun a b => a.1 ≤ b.1) := h.imp le_of_lt
  cases fmt
  case ndbc | datawell | obscape => exact ⟨_, rfl, sorted_by_time files.flatten⟩
  case triaxys | swan | xwaves => exact ⟨_, rfl, List.Perm.refl _, hle⟩
  case spotter =>
    -- every file is already sorted, so sorting inside each file changes nothing
    have hs : files.map sortByTime = files :=
      (List.map_congr_left fun f hf =>
        sortBy_of_sorted _ f ((List.pairwise_flatten.mp hle).1 f hf)).trans (List.map_id _)
    exact ⟨_, rfl, hs.symm ▸ List.Perm.refl _, hs.symm ▸ hle⟩
  case ww3station =>
    have hts : (files.flatten.map (·.1)).Pairwise (· < ·) := List.pairwise_map.mpr h
    refine ⟨files.flatten, ?_, List.Perm.refl _, hle⟩
    unfold readerOrderAsFound
    dsimp only
    rw [sortBy_of_sorted (fun t : Int => t) _ (hts.imp le_of_lt), dedupAdj_of_strict _ hts,
      if_pos (List.length_map _), ← List.zip_of_prod rfl rfl]

/-- and failed otherwise: SWAN kept `(2,"a"), (1,"b")` as they were -/
theorem asfound_sorted_by_time_all_fails :
    ¬ ∀ (fmt : Fmt) (files : List (List (Int × String))), SortedByTimeAsFound fmt files := by
  intro h
  obtain ⟨out, h1, _, h3⟩ := h .swan [[(2, "a"), (1, "b")]]
  simp only [readerOrderAsFound, List.flatten_cons, List.flatten_nil, List.append_nil, Except.ok.injEq] at h1
  subst h1
  simp at h3

/-- the WW3 station reader re-labelled: `(2,"a"), (1,"b")` came back as `(1,"a"), (2,"b")` -/
theorem asfound_ww3station_relabels :
    readerOrderAsFound .ww3station [[((2 : Int), "a"), (1, "b")]] = .ok [(1, "a"), (2, "b")] ∧
      ¬ ([((1 : Int), "a"), (2, "b")]).Perm [(2, "a"), (1, "b")] := by
  constructor
  · decide +kernel
  · intro h
    have := h.mem_iff (a := ((1 : Int), "a"))
    simp at this

/-- SWAN grid (before 1f147c9): right for longitude-major listings … -/
theorem asfound_swan_grid_positions_partial (nlat : Nat) (a b : Nat) (ha : a < nlat) :
    (fun k => (k / nlat, k % nlat)) (swanGridPosAsFound nlat a b) = (b, a) := by
  unfold swanGridPosAsFound
  have hn : 0 < nlat := Nat.lt_of_le_of_lt (Nat.zero_le _) ha
  simp only [Prod.mk.injEq]
  constructor
  · rw [Nat.mul_comm, Nat.mul_add_div hn, Nat.div_eq_of_lt ha, Nat.add_zero]
  · rw [Nat.mul_comm, Nat.mul_add_mod, Nat.mod_eq_of_lt ha]

/-- … wrong for latitude-major ones (as SWAN and `to_swan` write them): on a 2×2 grid the spectrum shown
    at (lat 0, lon 1) was the file's location 2, which is node (lon 0, lat 1) -/
theorem asfound_swan_grid_positions_fails :
    ¬ ∀ (nlat nlon : Nat) (loc : Nat → Nat × Nat),
        (∀ a < nlat, ∀ b < nlon, ∃ k < nlat * nlon, loc k = (b, a)) →
        ∀ a < nlat, ∀ b < nlon, loc (swanGridPosAsFound nlat a b) = (b, a) := by
  intro h
  have := h 2 2 (fun k => (k % 2, k / 2)) (by decide) 0 (by decide) 1 (by decide)
  simp [swanGridPosAsFound] at this

/-! ## the integral when `n·Δθ ≠ 360` (readers called with a `dd` that does not divide 360) -/

/-- full statement over every `dd` the readers accept (`dir = arange(0, 360, dd)`) -/
def IntegratesBackAnyDd : Prop :=
  ∀ (pi dd ef : ℚ) (g : Vec), pi ≠ 0 → g.sum ≠ 0 → 0 < dd → g.length = arangeLen 0 360 dd →
    (spreadRow pi ef g).map (integ dd) = some ef

/-- refuted: `dd = 7` gives 52 bins covering 364°, the integral is `efth·364/360` -/
theorem integrates_back_any_dd_fails : ¬ IntegratesBackAnyDd := by
  intro h
  have h1 := h 3 7 1 (List.replicate 52 1) (by norm_num) (by decide +kernel) (by norm_num) (by decide +kernel)
  have h2 := spreadRow_integral_general 3 7 1 (List.replicate 52 1) (by norm_num) (by decide +kernel)
    (by decide +kernel)
  rw [h2] at h1
  simp only [List.length_replicate, Option.some.injEq] at h1
  norm_num at h1

/-- partial = `spotter_integrates_back`: `dd` divides 360 (`arange(0,360,dd)` then has `360/dd` bins) -/
theorem integrates_back_partial (pi dd ef : ℚ) (g : Vec) (k : Nat) (hpi : pi ≠ 0) (hsum : g.sum ≠ 0)
    (hk : (k : ℚ) * dd = 360) (hdd : 0 < dd) (hlen : g.length = arangeLen 0 360 dd) :
    (spreadRow pi ef g).map (integ dd) = some ef := by
  rw [arangeLen_of_mul_eq 0 360 dd k hdd (by rw [hk, sub_zero])] at hlen
  exact spreadRow_integrates pi dd ef g hpi hsum (hlen ▸ hk)

/-! ## T-tier: the constants of the readers, regenerated from the repository source on every run -/

/-- `extract_direction`: `2.5·π`, `2.0·π`, `+270`, `% 360` -/
theorem lits_extract_direction : Gen.lits_ww3station_extract_direction = [5 / 2, 2, 270, 360] := rfl

/-- `construct_spectra`: reshape `(1, 1, -1)` (the `-1` is a unary minus on the literal 1), `0.5`, `2` -/
theorem lits_construct_spectra : Gen.lits_ndbc_ascii_construct_spectra = [1, 1, 1, 1 / 2, 2] := rfl

/-- `read_ndbc_ascii`: default `arange(0, 360, 10)`, 5 files, …, `rscale = 1.0 … else 0.01` -/
theorem lits_read_ndbc_ascii :
    Gen.lits_ndbc_ascii_read_ndbc_ascii = [0, 360, 10, 5, 0, 1, 1, 0, 1, 2, 3, 4, 1, rHundredth] := rfl

/-- `cartwright`: wrap at `180`/`360`, `s = 2/σ² − 1`, exponent `2s` of `cos(0.5·Δθ)`, `2π/n` -/
theorem lits_cartwright :
    Gen.lits_direction_cartwright = [180, 360, 2, 2, 1, 1 / 2, 2, 90, 0, 1, 2] := rfl

/-- `to_nautical`: `np.mod(270 − ang, 360)` -/
theorem lits_to_nautical : Gen.lits_utils_to_nautical = [270, 360] := rfl

/-- `Triaxys.dirs`: `np.arange(0.0, 360.0 + ddir, ddir)`, else `[0.0]` -/
theorem lits_triaxys_dirs : Gen.lits_triaxys_dirs = [0, 360, 0] := rfl

/-! ## non-vacuity: every hypothesis above is satisfiable on a concrete non-trivial input -/
section Examples

-- Cartwright / Spotter / Datawell on 4 directions (Δθ = 90), π := 22/7
example : cartwrightRow (22/7) [1, 1/2, 0, 1/2] = some [1/180, 1/360, 0, 1/360] := by decide +kernel
example := cartwright_normalised (22/7) 90 [1, 1/2, 0, 1/2] (by decide +kernel) (by decide +kernel) (by decide +kernel)
example := cartwright_nonneg (22/7) [1, 1/2, 0, 1/2] _ (by decide +kernel) (by decide +kernel)
  (by decide +kernel : cartwrightRow (22/7) [1, 1/2, 0, 1/2] = some [1/180, 1/360, 0, 1/360])
example := spotter_integrates_back (22/7) 90 [2, 3] [[1, 1/2, 0, 1/2], [0, 1, 1, 0]] (by decide +kernel)
  (by decide) (by decide +kernel)
example : (build2d (22/7) [2, 3] [[1, 1/2, 0, 1/2], [0, 1, 1, 0]]).map (Option.map (integ 90)) =
    [some 2, some 3] := by decide +kernel
example := datawell_integrates_back (22/7) 90 (1/2) [4, 6] [[1, 1/2, 0, 1/2], [0, 1, 1, 0]] (by decide +kernel)
  (by decide) (by decide +kernel)
example := twod_consistent_with_oned (22/7) 90 [2, 3] [[1, 1/2, 0, 1/2], [0, 1, 1, 0]] (by decide +kernel)
  (by decide) (by decide +kernel)
example := integrates_back_partial (22/7) 90 5 [1, 1/2, 0, 1/2] 4 (by decide +kernel) (by decide +kernel)
  (by decide +kernel) (by decide +kernel) (by decide +kernel)
example := spreadRow_integral_general (22/7) 7 5 [1, 1/2, 0, 1/2] (by decide +kernel) (by decide +kernel) (by decide)

-- NDBC on θ = 0, 90, 180, 270 with α1 = α2 = 0: cos = 1,0,−1,0 and cos 2θ = 1,−1,1,−1
example := ndbc_ascii_integrates (22/7) 90 5 (3/10) (1/5) [1, 0, -1, 0] [1, -1, 1, -1] (by decide +kernel)
  (by decide) (by decide +kernel) (by decide +kernel) (by decide +kernel)
example : integ 90 (ndbcRow (22/7) 5 (3/10) (1/5) [1, 0, -1, 0] [1, -1, 1, -1]) = 5 := by decide +kernel
example := ndbc_ascii_integral_general (22/7) 180 5 (3/10) (1/5) [1, -1] [1, 1] (by decide +kernel) (by decide)
example : ndbcR true 59 = 59 * rHundredth ∧ ndbcR false (59/100) = 59/100 := by decide +kernel
example := ndbc_integral_blind_to_r (22/7) 90 5 (3/10) (1/5) 30 20 [1, 0, -1, 0] [1, -1, 1, -1] (by decide +kernel)
  (by decide) (by decide +kernel) (by decide +kernel) (by decide +kernel)

-- WW3 station: going-to 3π/2 rad (towards west) is coming-from 90°
example := ww3station_direction (22/7) (33/7) (by decide +kernel)
example : ww3Dir (22/7) (33/7) = 90 := by decide +kernel
example := ww3station_direction_turns (22/7) (3/4) (by decide +kernel)
example := ww3station_transpose_units (22/7) 2 [[1, 2], [3, 4], [5, 6]] 1 2 (by decide +kernel) (by decide)
example : ww3Spec 180 2 [[1, 2], [3, 4], [5, 6]] = [[1, 3, 5], [2, 4, 6]] := by decide +kernel

example : sortByTime [((3 : Int), "c"), (1, "a"), (2, "b")] = [(1, "a"), (2, "b"), (3, "c")] := by
  decide +kernel
example : sortPerm [30, 10, 20] = [1, 2, 0] := by decide +kernel
example := asfound_sorted_by_time_partial (α := String) .ww3station [[(1, "a"), (2, "b")], [(5, "c")]]
  (by decide +kernel)
example := asfound_sorted_by_time_partial (α := String) .spotter [[(1, "a"), (2, "b")], [(5, "c")]]
  (by decide +kernel)
example : readerOrder .ww3station [[((2 : Int), "a"), (1, "b")]] = [(1, "b"), (2, "a")] := by decide +kernel
example : readerOrder .spotter [[((3 : Int), "c")], [(2, "b"), (1, "a")]] = [(1, "a"), (2, "b"), (3, "c")] := by
  decide +kernel
-- SWAN grid listed latitude-major (x fastest): every node gets its own spectrum
example : swanGridAt [(0, 0), (1, 0), (0, 1), (1, 1)] 0 1 = some 1 ∧ swanGridAt [(0, 0), (1, 0), (0, 1), (1, 1)] 1 0 = some 2 := by
  decide +kernel
example := swan_grid_positions_complete [(0, 0), (1, 0), (0, 1), (1, 1)] (by decide) 2 (by decide)

-- SWAN dirorder on CDIR-style descending directions with a negative entry
example : swanDirs true [265, 175, 85, -5] = [85, 175, 265, 355] ∧
    swanDirmap true [265, 175, 85, -5] = some [2, 1, 0, 3] := by decide +kernel
example := swan_dirorder_consistent [265, 175, 85, -5] [1, 2, 3, 4] (by decide)
example : decodeBlock 1 4 (some [2, 1, 0, 3]) 1 (.factor (1/2) [[2, 4, 6, 8]]) =
    [[some 3, some 2, some 1, some 4]] := by decide +kernel
example : swanDirs0 true [0, 90, 180, 270] = [270, 180, 90, 0] := by decide +kernel

example : triaxysFreqs 0 (1/100) 5 = [0, 1/100, 2/100, 3/100, 4/100] := by decide +kernel
example := asfound_triaxys_grid (3/100) (1/200) 7 (by decide +kernel)
example := triaxys_dirs 90 4 (by decide +kernel) (by decide +kernel)
example : triaxysDirs 90 = [0, 90, 180, 270, 360] := by decide +kernel

end Examples

/-! ## T-tier: regenerated kernels

`utils.to_nautical` (used by the SWAN reader for `CDIR` headers) is regenerated in full by
`harness/translate_np.py` and identified with the model. -/

theorem gen_to_nautical_eq (a : ℚ) : Gen.toNautical a = toNautical a := rfl

end WS.C13
