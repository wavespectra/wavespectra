import WsVerif.Gen.CText
/-!
# C20 — the C text (routine and Python wrapper) the memory-safety / termination arguments were validated against

See `Props/C04ctext.lean`.  The wrapper `specpart_wrap.c` (argument parsing, buffer sizes handed to `partition`, GIL held
throughout) is pinned here as well: the ASan/UBSan runs and the in-bounds theorems of `Props/C20.lean` speak about the routine
as called by this wrapper.
-/
namespace WS.C20

theorem specpart_c_text : Gen.ctext_specpart =
    [("<file scope>", "113a643e11711aa4"),
     ("partinit", "54188e1a74ac1891"),
     ("partition", "080d86c673f28906"),
     ("ptsort", "c0a724861a02f697"),
     ("ptnghb", "e3bb2e9a48fb3c1a"),
     ("int_minval", "eed54a7560dfd61c"),
     ("fifo_add", "5b44ab4d9cc786f9"),
     ("fifo_empty", "c1b75b554014f46d"),
     ("fifo_first", "d7657c58c5001f39"),
     ("pt_fld", "ef7f752b3a2de822")] := rfl

theorem specpart_wrap_c_text : Gen.ctext_specpart_wrap =
    [("<file scope>", "5f9ecf98d0bf8e71"),
     ("PyInit_specpart", "15106dc903bf736d"),
     ("specpart", "1e429983a49150b8")] := rfl

end WS.C20
