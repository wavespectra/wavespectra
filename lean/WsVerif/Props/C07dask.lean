import WsVerif.Model.DimSem
import WsVerif.Model.Chunk
import WsVerif.Gen.DimsAudit
import WsVerif.Props.C07
/-!
# C07 — regenerated rechunk plan of every `apply_ufunc` call

`Gen.daskAudit` is regenerated from the current source by `harness/translate_dims.py` on every run: for every
`xr.apply_ufunc` call its input core dimensions, the `.chunk({dim: value})` calls that precede it in the same function, and
the `allow_rechunk` / `dask=` arguments.  The theorems connect that table with the chunk algebra of `Props/C07.lean`.
-/
namespace WS.C07
open WS WS.Chunk WS.DimSem

/-- what the code does to the chunks of core dimension `d` before the kernel is applied over it -/
def planOf (u : DaskUse) (d : String) (c : Chunks) : Chunks := if u.covers d then rechunkAll c else rechunkNone c

/-- **every `apply_ufunc` of the library (regenerated) runs in `dask="parallelized"` mode and every one of its core
    dimensions is brought to a single chunk first** — by `chunk({d: -1})` in the function or by `allow_rechunk=True`.
    `chunk({d: None})` (the defect that was repaired), a dropped `chunk`, or a new core dimension breaks this theorem. -/
theorem gendask_all_ok : ∀ u ∈ Gen.daskAudit, u.ok = true := by decide +kernel

/-- … hence, for EVERY input chunking of every core dimension of every such call, the kernel application succeeds and
    returns the in-memory value (`rechunkAll_single` of the chunk algebra, instantiated with the regenerated plan) -/
theorem gendask_apply_succeeds {β : Type} (f : List ℚ → β) (u : DaskUse) (hu : u ∈ Gen.daskAudit) (d : String)
    (hd : d ∈ u.core) (c : Chunks) : applyCore f (planOf u d c) = .ok (f (content c)) := by
  have hok := gendask_all_ok u hu
  have hcov : u.covers d = true := by
    simp only [DaskUse.ok, Bool.and_eq_true, List.all_eq_true] at hok
    exact hok.2 d hd
  simp only [planOf, hcov, if_true]
  exact rechunkAll_single f c

/-- the result does not depend on the input chunking -/
theorem gendask_chunking_irrelevant {β : Type} (f : List ℚ → β) (u : DaskUse) (hu : u ∈ Gen.daskAudit) (d : String)
    (hd : d ∈ u.core) (c c' : Chunks) (h : content c = content c') :
    applyCore f (planOf u d c) = applyCore f (planOf u d c') := by
  rw [gendask_apply_succeeds f u hu d hd, gendask_apply_succeeds f u hu d hd, h]

/-- a call whose plan does not cover a core dimension fails on two chunks (why the table matters): the plan of the code as
    found, `chunk({freq: None})`, for the peak statistics -/
theorem gendask_uncovered_fails {β : Type} (f : List ℚ → β) (c : Chunks) (h : 1 < c.length) :
    applyCore f (planOf ⟨"peak_wave_period", "func", ["freq"], [("freq", "None")], false, "parallelized"⟩ "freq" c)
      = .error .valueError := by
  rw [planOf, if_neg (by decide +kernel)]
  exact rechunkNone_fails f c h

/-- the table is not vacuous: eleven calls, the five `xrstats` wrappers rechunk explicitly, the four partition methods rely
    on `allow_rechunk` -/
theorem gendask_shape :
    Gen.daskAudit.length = 11 ∧ (Gen.daskAudit.filter (·.allowRechunk)).map (·.fn) =
      ["Partition.ptm1", "Partition.ptm2", "Partition.ptm3", "Partition.hp01"] ∧
    (Gen.daskAudit.filter fun u => !u.allowRechunk).all (fun u => !u.rechunked.isEmpty) = true :=
  ⟨rfl, rfl, rfl⟩

end WS.C07
