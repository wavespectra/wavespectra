import WsVerif.Props.C14
import WsVerif.Props.C14sel
/-!
# C14: the property theorems restated on the regenerated selectors

`Props/C14sel.lean` identifies `Gen.selNearestIds`, `Gen.selIdw`, `Gen.selBboxIds` (regenerated from
`wavespectra/core/select.py` on every run) with the hand model for all inputs.  Because the bridges are equalities the
headline statements of `Props/C14.lean` (section `Fixed`) transfer verbatim to the generated text; `sqrt` is any oracle
that is an exact, non-negative square root on the radicands (`SqrtOn`).
-/
namespace WS.C14
open WS WS.Select WS.Sel WS.SelBridge

/-- **nearest_min on the regenerated `sel_nearest`** (`missing="raise"`, `unique=False`): one station per query, each
    minimising the short-way distance among all stations and within the tolerance -/
theorem gensel_use_nearest_min (sqrt : ℚ → ℚ) (dl dla ql qla : Vec) (tol : ℚ) (exact : Bool) (ids : List Nat)
    (hlen : dl.length = dla.length) (htol : 0 ≤ tol) (hsq : ∀ r ∈ radRows ldShort dl dla ql qla, SqrtOn sqrt r)
    (h : Gen.selNearestIds sqrt ql qla tol false exact dl dla "raise" = .ok ids) :
    ids.length = ql.length ∧
      ∀ j (_ : j < ids.length) (h2 : j < (radRows ldShort dl dla ql qla).length),
        IsNearestWithin tol ((radRows ldShort dl dla ql qla)[j]) ids[j] := by
  rw [gensel_sel_nearest_eq, (missingOf_eq_raise _).mpr rfl] at h
  exact Fixed.nearest_min (absSq sqrt) dl dla ql qla tol exact ids hlen htol
    (fun r hr => gensel_oracle_sqrtOn sqrt r (hsq r hr)) h

/-- **fails beyond tolerance, on the regenerated `sel_nearest`** -/
theorem gensel_use_nearest_fails_beyond_tolerance (sqrt : ℚ → ℚ) (dl dla ql qla : Vec) (tol : ℚ) (unique exact : Bool)
    (hlen : dl.length = dla.length) (htol : 0 ≤ tol) (hv : validate dl ql qla = .ok ())
    (hsq : ∀ r ∈ radRows ldShort dl dla ql qla, SqrtOn sqrt r)
    (hfar : ∃ r ∈ radRows ldShort dl dla ql qla, ∀ x ∈ r, tol ^ 2 < x) :
    Gen.selNearestIds sqrt ql qla tol unique exact dl dla "raise" = .error .assertionError := by
  rw [gensel_sel_nearest_eq, (missingOf_eq_raise _).mpr rfl]
  exact Fixed.nearest_fails_beyond_tolerance (absSq sqrt) dl dla ql qla tol unique exact hlen htol hv
    (fun r hr => gensel_oracle_sqrtOn sqrt r (hsq r hr)) hfar

theorem selBboxIdsFixed_ok {dl dla ql qla : Vec} {tol : ℚ} {ids : List Nat}
    (h : selBboxIdsFixed dl dla ql qla tol = .ok ids) : ids = selBboxIdsRawFixed dl dla ql qla tol := by
  unfold selBboxIdsFixed at h
  obtain ⟨_, _, h⟩ := bind_eq_ok.mp h
  simp only at h
  split at h
  · cases h
  · cases h; rfl

/-- **bbox_exact on the regenerated `sel_bbox`**: a station index is returned iff the station lies in the query's own
    `[min, max]` box widened by the tolerance, longitudes compared modulo 360 -/
theorem gensel_use_bbox_exact (dl dla ql qla : Vec) (tol : ℚ) (ids : List Nat) (i : Nat)
    (h : Gen.selBboxIds ql qla tol dl dla = .ok ids) :
    i ∈ ids ↔ ∃ lon lat, (dl.zip dla)[i]? = some (lon, lat) ∧ InBox ql qla tol lon lat := by
  rw [gensel_bbox_eq] at h
  rw [selBboxIdsFixed_ok h]
  exact Fixed.bbox_exact dl dla ql qla tol i

/-- **idw_convex on the regenerated `sel_idw`**: every unmasked query gets a convex combination of at most `max_sites`
    stations within the tolerance: one station at distance 0 with weight 1, or ≥ 2 stations with weights ∝ 1/distance -/
theorem gensel_use_idw_convex (sqrt : ℚ → ℚ) (dl dla ql qla : Vec) (tol : ℚ) (ms : Option Int)
    (rows : List (Option LC)) (hsq : ∀ r ∈ radRows ldShort dl dla ql qla, SqrtOn sqrt r)
    (h : Gen.selIdw sqrt ql qla tol ms dl dla = .ok rows) :
    rows.length = ql.length ∧
    ∀ (j : Nat) (hj : j < (radRows ldShort dl dla ql qla).length) (ws : List (Nat × ℚ)), rows[j]? = some (some ws) →
      let d := ((radRows ldShort dl dla ql qla)[j]).map sqrt
      (∀ p ∈ ws, 0 < p.2) ∧ (ws.map (·.2)).sum = 1 ∧ (∀ p ∈ ws, p.1 < d.length ∧ d.getD p.1 0 ≤ tol) ∧
      (∀ m : Nat, ms = some (m : Int) → ws.length ≤ m) ∧
      ((∃ i, ws = [(i, 1)] ∧ d.getD i 0 = 0) ∨
       (2 ≤ ws.length ∧ ∀ p ∈ ws, 0 < d.getD p.1 0 ∧ p.2 = (1 / d.getD p.1 0) / ((ws.map fun q => 1 / d.getD q.1 0).sum))) := by
  rw [gensel_sel_idw_eq] at h
  have hsq' : ∀ r ∈ radRows ldShort dl dla ql qla, SqrtOn (absSq sqrt) r :=
    fun r hr => gensel_oracle_sqrtOn sqrt r (hsq r hr)
  obtain ⟨hrows, hlen, _⟩ := selIdw_rows (absSq sqrt) ldShort dl dla ql qla tol ms rows hsq' h
  refine ⟨hlen, ?_⟩
  intro j hj ws hws
  have hmem := List.getElem_mem hj
  -- on the radicands the oracle is non-negative, so the `np.abs` of the generated code does nothing
  rw [hrows, List.getElem?_map, List.getElem?_eq_getElem hj, Option.map_some, Option.some.injEq,
    List.map_congr_left (f := absSq sqrt) fun x hx => absR_of_nonneg (hsq _ hmem x hx).1] at hws
  exact idw_convex _ tol ms ws (List.forall_mem_map.mpr fun x hx => (hsq _ hmem x hx).1) hws

/-- non-vacuity of the transfers: the witnesses of `Props/C14.lean` on the regenerated functions (stations 359.875°E /
    0.5°E, query 0.125°E: the nearest station is the one across Greenwich; box `[−20, −5]` on a 0–360 dataset); `sel_idw`
    succeeds whenever `Coordinates(...)` does (a worked row: `example : idwRow [4, 1] 10 (some 2) = …` in `Props/C14.lean`) -/
example : Gen.selNearestIds (fun x => if x = (1 / 4) ^ 2 then 1 / 4 else if x = (3 / 8) ^ 2 then 3 / 8 else 0)
      [1 / 8] [0] 5 false false [2879 / 8, 1 / 2] [0, 0] "raise" = .ok [0] ∧
    Gen.selBboxIds [-20, -5] [-1, 1] 0 [10, 180, 350] [0, 0, 0] = .ok [2] ∧
    ∃ rows, Gen.selIdw (fun x => if x = 1 / 4 then 1 / 2 else 0) [0] [0] 2 (some 4) [719 / 2, 1 / 2] [0, 0] = .ok rows := by
  refine ⟨by decide +kernel, by decide +kernel, ?_⟩
  rw [gensel_sel_idw_eq]
  have hv : validate [719 / 2, 1 / 2] [0] [0] = .ok () := by decide +kernel
  unfold selIdwFixed selIdw
  rw [hv]
  exact ⟨_, rfl⟩

end WS.C14
