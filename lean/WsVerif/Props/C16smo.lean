import WsVerif.Model.Smooth
import WsVerif.Model.SmoRt
import WsVerif.Lemmas.Smooth
import WsVerif.Lemmas.SmoBridge
import WsVerif.Gen.SmoKernels
import WsVerif.Props.C16
/-!
# C16 (T-tier) — `smooth_spec` regenerated statement by statement, bridged to the hand model for ALL inputs

`Gen/SmoKernels.lean` is regenerated from the current source of `wavespectra/core/utils.py::smooth_spec` and
`SpecArray.smooth` by `harness/translate_smo.py` (vocabulary `Model/SmoRt.lean`).  The theorems below connect every
generated stage, and the generated whole function, to `Model/Smooth.lean`, about which `Props/C16.lean` is proved.
-/
namespace WS.C16
open WS WS.Smooth

/-! ## 0. Pins: signatures, defaults, forwarding, untranslated plumbing -/

theorem gensmo_sig :
    Gen.smoSmoothSpec_sig = [("dset", ""), ("freq_window", "3"), ("dir_window", "3")] ∧
    Gen.smoAccessor_sig = [("self", ""), ("freq_window", "3"), ("dir_window", "3")] ∧
    Gen.smoAccessor_defaults = Gen.smoSmoothSpec_defaults := ⟨rfl, rfl, rfl⟩

theorem gensmo_accessor_forwarding :
    Gen.smoAccessor_body = ["return smooth_spec(self._obj, freq_window=freq_window, dir_window=dir_window)"] ∧
    Gen.smoAccessor_imports = ["from wavespectra.core.utils import smooth_spec"] := ⟨rfl, rfl⟩

theorem gensmo_plumbing :
    Gen.smoSmoothSpec_plumbing =
      ["raise ValueError(f'Window size must be an odd value to ensure symmetry, got {window}')",
       "kwargs = {'data_vars': 'minimal'} if isinstance(dsout, xr.Dataset) else {}",
       "dsout = dsout.chunk(**{attrs.DIRNAME: -1})",
       "set_spec_attributes(dsout)"] ∧
    Gen.smoSmoothSpec_imports =
      ["import numpy as np", "import xarray as xr", "from wavespectra.core.attributes import attrs",
       "from wavespectra.core.attributes import set_spec_attributes"] ∧
    Gen.smoSmoothSpec_dimnames = ["FREQNAME: &FREQNAME freq", "DIRNAME: &DIRNAME dir"] := ⟨rfl, rfl, rfl⟩

/-- the accessor is the function -/
theorem gensmo_accessor (obj : Smo.DS) (fw dw : Nat) : Gen.smoAccessor obj fw dw = Gen.smoSmoothSpec obj fw dw := rfl

/-! ## 1. Stages -/

/-- (1) the parity loop: ValueError on an even window; otherwise the leaked loop variable is `dir_window` -/
theorem gensmo_validate (fw dw : Nat) :
    Gen.smoValidate fw dw = if fw % 2 = 0 ∨ dw % 2 = 0 then .error .valueError else .ok dw := by
  by_cases h1 : fw % 2 = 0 <;> by_cases h2 : dw % 2 = 0 <;> simp [Gen.smoValidate, Smo.forLeak, Smo.forLeakAux, h1, h2]

/-- (2)+(3) `sortby` and the float32 relabel: the model's sorted columns under the model's labels -/
theorem gensmo_labels (dirs dirs32 : Vec) (e : Mat) :
    Gen.smoLabels (Smo.mkDS dirs dirs32 e) =
      ⟨labelsOf codeSortedLabels dirs dirs32, labelsOf codeSortedLabels dirs dirs32, takeCols (sortPerm dirs) e⟩ := by
  simp [Gen.smoLabels, Smo.mkDS, Smo.sortby, Smo.setDir, Smo.f32, Smo.argsortStable_eq, labelsOf, codeSortedLabels, takeCols]

/-- (4) the circularity test -/
theorem gensmo_isCircular (d : Smo.DS) : Gen.smoIsCircular d = isCircular d.dir := by
  unfold Gen.smoIsCircular isCircular
  simp only [Smo.dirValues, Smo.npDiff_eq, Smo.amax_eq, Smo.amin_eq]
  cases diffs d.dir with
  | nil => rfl
  | cons x xs =>
    -- `len(set(dd)) == 1` says that all differences equal the first
    have h1 : decide ((Smo.listSet (x :: xs)).length = 1) = xs.all (fun y => y == x) := by
      rw [Bool.eq_iff_iff]; simp [Smo.listSet_length_one]
    simp only [h1, Smo.item0_listSet]
    cases xs.all (fun y => y == x) <;> rfl

/-- (5) the ghost blocks: `padLabels` on the labels, `padRow` on every row (the pad width is the first argument, which
    `smoSmoothSpec` feeds with the leaked loop variable) -/
theorem gensmo_pad (w fw dw : Nat) (hw : w ≠ 0) (d : Smo.DS) :
    Gen.smoPad w fw dw d = ⟨padLabels w d.dir, padLabels w d.dir32, d.val.map (padRow w)⟩ := by
  simp [Gen.smoPad, Smo.concatDir, Smo.concat2, Smo.iselLast, Smo.iselFirst, Smo.mapDir, Smo.lastN_pos w hw, padLabels,
    Smo.zipWith_pad, padRow]

/-- (6) the rolling mean -/
theorem gensmo_rolling (w fw dw : Nat) (d : Smo.DS) :
    Gen.smoRolling w fw dw d = ⟨d.dir, rolling fw dw d.dir.length d.val⟩ := rfl

/-- (7) the clip: nothing when the labels already equal the stored ones, else the model's label lookup -/
theorem gensmo_clip (dset : Smo.DS) (r : Smo.RS) :
    Gen.smoClip dset r =
      if r.dir = dset.dir then .ok r else
        match selCols r.dir dset.dir32 r.val with
        | .ok v => .ok ⟨dset.dir32, v⟩
        | .error err => .error err := by
  unfold Gen.smoClip Smo.coordEquals Smo.selDir selCols
  by_cases h : r.dir = dset.dir
  · rw [if_pos h, if_neg (by rw [decide_eq_true h]; decide)]
  · rw [if_neg h, if_pos (by rw [decide_eq_false h]; rfl)]
    cases dset.dir32.all fun d => r.dir.contains d <;> rfl

/-- (8)+(9) original coordinates and the fill -/
theorem gensmo_fill (dset : Smo.DS) (r : Smo.RS) :
    Gen.smoFill dset r = ⟨dset.dir, dset.dir32, fill r.val dset.val dset.dir.length⟩ := rfl

/-! ## 2. The whole function -/

/-- **`smooth_spec` as regenerated from the source = the model the C16 theorems are about**, for every stored label
    list, every float32 image of the same length, every spectrum and every pair of windows -/
theorem gensmo_smooth_spec (dirs dirs32 : Vec) (e : Mat) (fw dw : Nat) (hlen : dirs32.length = dirs.length) :
    Gen.smoSmoothSpec (Smo.mkDS dirs dirs32 e) fw dw = Smooth.smooth dirs dirs32 e fw dw := by
  unfold Gen.smoSmoothSpec Smooth.smooth smoothWith
  rw [gensmo_validate]
  by_cases hpar : fw % 2 = 0 ∨ dw % 2 = 0
  · simp [hpar]
  · have hw : dw ≠ 0 := by omega
    have hL : (labelsOf codeSortedLabels dirs dirs32).length = dirs.length := labelsOf_length _ hlen
    have hrows : (takeCols (sortPerm dirs) e).map (padRow (min dw dirs.length)) = (takeCols (sortPerm dirs) e).map (padRow dw) := by
      apply List.map_congr_left
      intro r hr
      have : r.length = dirs.length := by
        rw [← sortPerm_length dirs]; exact rect_takeCols _ _ r hr
      rw [← this, Smo.padRow_min]
    have hlab : padLabels (min dw dirs.length) (labelsOf codeSortedLabels dirs dirs32) = padLabels dw (labelsOf codeSortedLabels dirs dirs32) := by
      rw [← hL, Smo.padLabels_min]
    simp only [hpar, if_false, gensmo_labels, gensmo_isCircular, hrows, hlab]
    by_cases hc : isCircular (labelsOf codeSortedLabels dirs dirs32) = true
    · simp only [hc, if_true, gensmo_pad _ _ _ hw, gensmo_rolling, gensmo_clip, Smo.mkDS]
      by_cases heq : padLabels dw (labelsOf codeSortedLabels dirs dirs32) = dirs
      · simp only [heq, if_true, gensmo_fill, Smo.out]
      · simp only [heq, if_false]
        cases selCols (padLabels dw (labelsOf codeSortedLabels dirs dirs32)) dirs32 _ <;> rfl
    · have hc' : isCircular (labelsOf codeSortedLabels dirs dirs32) = false := by simpa using hc
      simp only [hc', Bool.false_eq_true, if_false, gensmo_rolling, gensmo_clip, Smo.mkDS]
      by_cases heq : labelsOf codeSortedLabels dirs dirs32 = dirs
      · simp only [heq, if_true, gensmo_fill, Smo.out]
      · simp only [heq, if_false]
        cases selCols (labelsOf codeSortedLabels dirs dirs32) dirs32 _ <;> rfl

example := gensmo_smooth_spec dirsW dirsW specW 1 3 rfl
example := gensmo_pad 3 3 3 (by decide) (Smo.mkDS dirs8 dirs8 spec8)

/-! ## 3. Headline statements of `Props/C16.lean`, restated on the generated function -/

/-- **even windows are rejected** by the regenerated function -/
theorem gensmo_even_rejected (dirs dirs32 : Vec) (e : Mat) (fw dw : Nat) (hlen : dirs32.length = dirs.length)
    (h : fw % 2 = 0 ∨ dw % 2 = 0) :
    Gen.smoSmoothSpec (Smo.mkDS dirs dirs32 e) fw dw = .error .valueError := by
  rw [gensmo_smooth_spec _ _ _ _ _ hlen]; exact even_rejected _ dirs dirs32 e fw dw h

/-- **the grid is kept** by the regenerated function: same direction coordinate in the stored order, same shape -/
theorem gensmo_dims_coords_order_kept (dirs dirs32 : Vec) (e : Mat) (fw dw : Nat) (res : Vec × Mat)
    (hlen : dirs32.length = dirs.length) (h : Gen.smoSmoothSpec (Smo.mkDS dirs dirs32 e) fw dw = .ok res) :
    res.1 = dirs ∧ res.2.length = e.length ∧ ∀ r ∈ res.2, r.length = dirs.length := by
  rw [gensmo_smooth_spec _ _ _ _ _ hlen] at h
  exact dims_coords_order_kept _ dirs dirs32 e fw dw res h

/-- **constant spectra are preserved** by the regenerated function (any storage order, any odd windows) -/
theorem gensmo_const_preserved (dirs dirs32 : Vec) (e : Mat) (fw dw : Nat) (res : Vec × Mat) (c : ℚ)
    (hlen : dirs32.length = dirs.length) (hres : Gen.smoSmoothSpec (Smo.mkDS dirs dirs32 e) fw dw = .ok res)
    (h : ∀ i < e.length, ∀ j < dirs.length, cellAt e i j = c) :
    ∀ i < e.length, ∀ k < dirs.length, cellAt res.2 i k = c := by
  rw [gensmo_smooth_spec _ _ _ _ _ hlen] at hres
  exact const_preserved _ dirs dirs32 e fw dw res c hlen hres h

/-- **every output value lies in the hull of the input values** (hence non-negativity), on the regenerated function -/
theorem gensmo_value_in_hull (dirs dirs32 : Vec) (e : Mat) (fw dw : Nat) (res : Vec × Mat) (lo hi : ℚ)
    (hlen : dirs32.length = dirs.length) (hres : Gen.smoSmoothSpec (Smo.mkDS dirs dirs32 e) fw dw = .ok res)
    (h : ∀ i < e.length, ∀ j < dirs.length, lo ≤ cellAt e i j ∧ cellAt e i j ≤ hi) :
    ∀ i < e.length, ∀ k < dirs.length, lo ≤ cellAt res.2 i k ∧ cellAt res.2 i k ≤ hi := by
  rw [gensmo_smooth_spec _ _ _ _ _ hlen] at hres
  exact value_in_hull _ dirs dirs32 e fw dw res lo hi hlen hres h

/-- **windows `(1, 1)` give the input back, whatever the storage order** — on the regenerated function (this is the
    statement the float32-relabel defect used to refute: `C16.window1_id_fails`) -/
theorem gensmo_window1_id (dirs : Vec) (e : Mat) (hn : dirs.Nodup) (hr : Rect e dirs.length) :
    Gen.smoSmoothSpec (Smo.mkDS dirs dirs e) 1 1 = .ok (dirs, e) := by
  rw [gensmo_smooth_spec _ _ _ _ _ rfl]; exact window1_id_repaired dirs e hn hr

/-- **the result does not depend on the storage order** — on the regenerated function: it is the result for the sorted
    arrangement of the same labelled data, read back in stored order -/
theorem gensmo_storage_invariant (dirs : Vec) (e : Mat) (fw dw : Nat) (hf : fw % 2 = 1) (hd : dw % 2 = 1)
    (hn : dirs.Nodup) (hr : Rect e dirs.length) :
    (Gen.smoSmoothSpec (Smo.mkDS dirs dirs e) fw dw).toOption =
      (Gen.smoSmoothSpec (Smo.mkDS (sortedDirs dirs) (sortedDirs dirs) (takeCols (sortPerm dirs) e)) fw dw).toOption.map fun p =>
        (dirs, takeCols ((List.range dirs.length).map (sortPerm dirs).idxOf) p.2) := by
  rw [gensmo_smooth_spec _ _ _ _ _ rfl, gensmo_smooth_spec _ _ _ _ _ rfl]
  exact storage_invariant_repaired dirs e fw dw hf hd hn hr

example := gensmo_window1_id dirsW specW (by decide +kernel) (by decide +kernel)
example := gensmo_storage_invariant dirsW specW 1 3 rfl rfl (by decide +kernel) (by decide +kernel)
example := gensmo_even_rejected dirs8 dirs8 spec8 2 3 rfl (Or.inl rfl)
example : dirsW.length = dirsW.length ∧ ∀ i < specW.length, ∀ j < dirsW.length, 0 ≤ cellAt specW i j ∧ cellAt specW i j ≤ 7 := by
  decide +kernel
example : ∀ i < [[3, 3, 3, 3, 3, 3, 3, 3]].length, ∀ j < dirsW.length, cellAt [[3, 3, 3, 3, 3, 3, 3, 3]] i j = 3 := by decide +kernel
example : (Gen.smoSmoothSpec (Smo.mkDS dirsW dirsW [[3, 3, 3, 3, 3, 3, 3, 3]]) 1 3).toOption.isSome = true := by decide +kernel
example : (Gen.smoSmoothSpec (Smo.mkDS dirsW dirsW specW) 1 3).toOption = some (dirsW, [[2/3, 0, 7/3, 4, 16/3, 11/3, 8/3, 4/3]]) := by
  decide +kernel

end WS.C16
