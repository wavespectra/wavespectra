import WsVerif.Model.Stats
import WsVerif.Lemmas.Sums
import WsVerif.Lemmas.Moments
import WsVerif.Model.Consts
import WsVerif.Gen.Lits
import WsVerif.Gen.NpKernels
import WsVerif.Model.NpTwins
import WsVerif.Lemmas.NpBridge
import WsVerif.Model.Dispersion
/-!
# C01 — integrated parameters equal their defining integrals

`Stats.*` is the model that mirrors the staging of `SpecArray`
(integrate over direction, then over frequency); `Stats.specMom`/`specDirMom`/`dsum` are the published
definitions written as plain double sums over bins with the dataset's own `Δf_i`, `Δθ`.
All statements hold for every number of frequencies and directions and every list of values.
-/
namespace WS.C01
open WS WS.Stats

/-- direction-integrated spectrum, bin by bin: `oned_i = Δθ · Σ_j E_ij` -/
theorem oned_get (ddv : ℚ) (e : Mat) (i : Nat) (h : i < e.length) :
    (oned ddv e)[i]'(by simpa [oned] using h) = ddv * (e[i]).sum := by
  simp [oned]

/-- core rearrangement: weighting the direction-integrated spectrum equals the double sum -/
theorem weighted_oned_eq_dsum (ddv : ℚ) (w : Vec) (e : Mat) :
    (List.zipWith (· * ·) w (oned ddv e)).sum = dsum ddv w e := by
  unfold dsum oned
  rw [List.zipWith_map_right, List.zipWith_comm]
  congr 2; funext r a
  simp only [mul_assoc, sum_map_mul_const]
  ring

/-- `momf(k)` is the published k-th frequency moment `Σ_i Σ_j f_i^k E_ij Δf_i Δθ` -/
theorem momf_eq_spec (k : Nat) (ddv : ℚ) (f : Vec) (e : Mat) :
    momf k f (oned ddv e) = specMom k ddv f e := by
  unfold momf specMom
  rw [← weighted_oned_eq_dsum]
  simp only [mul_comm]

/-- zeroth moment used by `hs`: `(Sf·df).sum = Σ_i Σ_j E_ij Δf_i Δθ` -/
theorem m0E_eq_spec (ddv : ℚ) (f : Vec) (e : Mat) :
    m0E f (oned ddv e) = dsum ddv (df f) e := by
  unfold m0E dot mulV
  rw [← weighted_oned_eq_dsum, List.zipWith_comm]
  simp only [mul_comm]

/-- `hs = 4·sqrt(E)` with `E` the published variance plus, above the threshold, the parametric tail
    `¼ · f_n · S(f_n)` where `S(f_n) = Δθ Σ_j E_nj` -/
theorem hsE_eq_spec (thr q : ℚ) (tail : Bool) (ddv : ℚ) (f : Vec) (e : Mat) :
    hsE thr q tail f (oned ddv e) =
      dsum ddv (df f) e +
        (if tail = true ∧ thr < lastD f then q * lastD (oned ddv e) * lastD f else 0) := by
  unfold hsE
  simp only [m0E_eq_spec, Bool.and_eq_true, decide_eq_true_eq]

/-- without the tail `hsE` is exactly the double sum -/
theorem hsE_notail (thr q ddv : ℚ) (f : Vec) (e : Mat) :
    hsE thr q false f (oned ddv e) = dsum ddv (df f) e := by
  rw [hsE_eq_spec]; simp

/-- general weights: per-frequency directional moment weighted by `w` equals the double sum -/
theorem momdRow_weighted (ddv : ℚ) (t w : Vec) (e : Mat) :
    (List.zipWith (· * ·) (momdRow ddv t e) w).sum =
      (List.zipWith (fun r d => (List.zipWith (fun x y => x * y * d * ddv) r t).sum) e w).sum := by
  unfold momdRow
  rw [List.zipWith_map_left]
  congr 2; funext r d
  rw [← sum_zipWith_mul_const]
  congr 2; funext x y; ring

/-- weighted first directional moment (`dspr`'s `a`, `b`): `Σ_i Σ_j t_j E_ij Δf_i Δθ` -/
theorem momd_eq_spec (ddv : ℚ) (t f : Vec) (e : Mat) :
    dot (momdRow ddv t e) (df f) = specDirMom ddv t f e := by
  unfold dot mulV specDirMom
  exact momdRow_weighted ddv t (df f) e

/-- `dm`'s vector as coded: the *unweighted* frequency sum of the per-frequency directional moments,
    i.e. `Σ_i Σ_j t_j E_ij Δθ` (no `Δf_i`) -/
theorem dmVec_eq (ddv : ℚ) (s c : Vec) (e : Mat) :
    dmVec ddv s c e =
      ((e.map fun r => (List.zipWith (fun x y => x * y * ddv) r s).sum).sum,
       (e.map fun r => (List.zipWith (fun x y => x * y * ddv) r c).sum).sum) := by
  unfold dmVec momdRow
  simp only [mul_rotate ddv]

/-- `dspr` ingredients are the published weighted moments and the variance -/
theorem dsprABE_eq_spec (ddv : ℚ) (s c f : Vec) (e : Mat) :
    dsprABE ddv s c f e = (specDirMom ddv s f e, specDirMom ddv c f e, dsum ddv (df f) e) := by
  unfold dsprABE
  rw [momd_eq_spec, momd_eq_spec]
  congr 2
  exact m0E_eq_spec ddv f e

/-- `tm01 = m0/m1`, `tm02² = m0/m2` of the published moments (NaN exactly when the denominator is 0) -/
theorem tm01_eq_spec (ddv : ℚ) (f : Vec) (e : Mat) :
    tm01 f (oned ddv e) = divOpt (specMom 0 ddv f e) (specMom 1 ddv f e) := by
  unfold tm01; rw [momf_eq_spec, momf_eq_spec]

theorem tm02Sq_eq_spec (ddv : ℚ) (f : Vec) (e : Mat) :
    tm02Sq f (oned ddv e) = divOpt (specMom 0 ddv f e) (specMom 2 ddv f e) := by
  unfold tm02Sq; rw [momf_eq_spec, momf_eq_spec]

theorem sweSq_eq_spec (ddv : ℚ) (f : Vec) (e : Mat) :
    sweSq f (oned ddv e) =
      (divOpt (specMom 2 ddv f e ^ 2) (specMom 0 ddv f e * specMom 4 ddv f e)).map (1 - ·) := by
  unfold sweSq; rw [momf_eq_spec, momf_eq_spec, momf_eq_spec]

theorem swSq_eq_spec (ddv : ℚ) (f : Vec) (e : Mat) :
    swSq f (oned ddv e) =
      (divOpt (specMom 0 ddv f e * specMom 2 ddv f e) (specMom 1 ddv f e ^ 2)).map (· - 1) := by
  unfold swSq; rw [momf_eq_spec, momf_eq_spec, momf_eq_spec]

/-- Goda peakedness: `2/m0² · Σ_i f_i S_i² Δf_i` with `m0` the published variance -/
theorem goda_eq_spec (ddv : ℚ) (f : Vec) (e : Mat) :
    goda f (oned ddv e) =
      (if (dsum ddv (df f) e) ^ 2 = 0 then none else
        some (2 / (dsum ddv (df f) e) ^ 2 *
          (List.zipWith (· * ·) (List.zipWith (fun s x => s ^ 2 * x) (oned ddv e) f) (df f)).sum)) := by
  unfold goda
  simp only [m0E_eq_spec]

/-- `to_energy` sums to the published variance: `Σ_ij E_ij Δf_i Δθ` -/
theorem toEnergy_sum (ddv : ℚ) (f : Vec) (e : Mat) :
    ((toEnergy ddv f e).map List.sum).sum = dsum ddv (df f) e := by
  unfold toEnergy dsum
  rw [List.map_zipWith]

/-- mean-square slope `Σ_i k_i² S_i Δf_i` as a double sum over bins -/
theorem mss_eq_spec (ddv : ℚ) (k2 f : Vec) (e : Mat) :
    mss k2 f (oned ddv e) = dsum ddv (List.zipWith (· * ·) k2 (df f)) e := by
  unfold mss
  rw [← weighted_oned_eq_dsum, zipWith_zipWith_swap mul_right_comm]

/-- a one-dimensional spectrum gives the same frequency-integrated statistics as the 2-D spectrum it
    was integrated from: every such statistic of the model is a function of `oned` alone. -/
theorem oned_consistent (thr q : ℚ) (tail : Bool) (ddv : ℚ) (f : Vec) (e : Mat) (S : Vec)
    (h : S = oned ddv e) :
    hsE thr q tail f S = hsE thr q tail f (oned ddv e) ∧
    (∀ k, momf k f S = specMom k ddv f e) ∧
    tm01 f S = tm01 f (oned ddv e) ∧ tm02Sq f S = tm02Sq f (oned ddv e) ∧
    goda f S = goda f (oned ddv e) := by
  subst h
  exact ⟨rfl, fun k => momf_eq_spec k ddv f e, rfl, rfl, rfl⟩

theorem dfGo_pos (p c : ℚ) (rest : Vec) (hpc : p < c) (h : (c :: rest).Pairwise (· < ·)) :
    ∀ x ∈ dfGo p c rest, 0 < x := by
  induction rest generalizing p c with
  | nil => exact List.forall_mem_cons.mpr ⟨sub_pos.mpr hpc, fun _ hx => absurd hx List.not_mem_nil⟩
  | cons n rest ih =>
    obtain ⟨hcn, h'⟩ := List.pairwise_cons.mp h
    have hcn := hcn n List.mem_cons_self
    exact List.forall_mem_cons.mpr ⟨div_pos (sub_pos.mpr (hpc.trans hcn)) two_pos, ih c n hcn h'⟩

/-- on a strictly increasing frequency grid every bin width is positive -/
theorem df_pos (f : Vec) (h : f.Pairwise (· < ·)) : ∀ x ∈ df f, 0 < x := by
  match f, h with
  | [], _ => exact fun _ hx => absurd hx List.not_mem_nil
  | [_], _ => exact List.forall_mem_cons.mpr ⟨one_pos, fun _ hx => absurd hx List.not_mem_nil⟩
  | a :: b :: rest, h =>
    obtain ⟨hab, h'⟩ := List.pairwise_cons.mp h
    have hab := hab b List.mem_cons_self
    exact List.forall_mem_cons.mpr ⟨sub_pos.mpr hab, dfGo_pos a b rest hab h'⟩

theorem dfGo_length (p c : ℚ) (rest : Vec) : (dfGo p c rest).length = rest.length + 1 := by
  induction rest generalizing p c with
  | nil => simp [dfGo]
  | cons n rest ih => simp [dfGo, ih]

/-- one bin width per frequency -/
theorem df_length (f : Vec) : (df f).length = f.length := by
  match f with
  | [] => rfl
  | [_] => rfl
  | a :: b :: rest => simp [df, dfGo_length]

/-- non-vacuity: a 3×2 spectrum on an irregular grid; the tail term is active (0.5 > 0.333) -/
example : hsE (333/1000) (1/4) true [1/8, 1/4, 1/2] (oned 180 [[1, 2], [0, 3], [4, 1]]) =
    dsum 180 (df [1/8, 1/4, 1/2]) [[1, 2], [0, 3], [4, 1]] + (1/4) * (180 * 5) * (1/2) := by
  decide +kernel

/-! ### T-tier bridging: the literals of the repository's functions are the property's constants -/

theorem lits_hs : Gen.lits_specarray_hs = [1, Consts.thr, Consts.quarter, 1, 1, 4] := rfl
theorem lits_hrms : Gen.lits_specarray_hrms = [1, Consts.thr, Consts.quarter, 1, 1, 8] := rfl
theorem lits_hmax : Gen.lits_specarray_hmax = [1, 1/2, Consts.hmaxK] := rfl
theorem lits_npstats_hs : Gen.lits_npstats_hs =
    [1, 1, 1, 1, 0, 360, 1, 1/2, 1, 1, 1, Consts.thr, Consts.quarter, 1, 1, 4] := rfl
theorem lits_deep : Gen.lits_utils_celerity = [2, Consts.deep] ∧ Gen.lits_utils_wavelen = [2, Consts.deep, 2] ∧
    Gen.lits_specarray_uss = [Consts.deep, 1, 2, 2, 4] ∧ Gen.lits_specarray_mss = [Consts.deep, 1, 2, 2, 2] ∧
    Gen.lits_specarray_uss_x = [90, Consts.deep, 1, 2, 2, 4, 180] ∧
    Gen.lits_specarray_uss_y = [90, Consts.deep, 1, 2, 2, 4, 180] := ⟨rfl, rfl, rfl, rfl, rfl, rfl⟩
theorem lits_dir : Gen.lits_specarray_momd = [0, 90, 180, 180] ∧ Gen.lits_specarray_dm = [1, 270, 360] ∧
    Gen.lits_npstats_dm = [0, 0, 270, 360] ∧ Gen.lits_npstats_mom1 = [90, 1, 0, 180, 180, 1, 1] :=
  ⟨rfl, rfl, rfl, rfl⟩
theorem lits_widths : Gen.lits_specarray_goda = [2, 2, 2] ∧ Gen.lits_specarray_gw = [4, 2, 2, 2, 2] ∧
    Gen.lits_specarray_dd = [1, 1, 0, 360, 1] ∧ Gen.lits_specarray_df = [1, 1] := ⟨rfl, rfl, rfl, rfl⟩

/-- deep water: `celerity = 1.56/f`, `wavelen = 1.56/f²` satisfy `L·f = C` exactly, and with
    `k = 2π/L`, `ω = 2πf` the phase speed is `ω/k = C` for every value of π -/
theorem deep_water (f pi : ℚ) (hf : f ≠ 0) (hpi : pi ≠ 0) :
    (Consts.deep / f ^ 2) * f = Consts.deep / f ∧
    (2 * pi * f) / (2 * pi / (Consts.deep / f ^ 2)) = Consts.deep / f := by
  have hd : Consts.deep ≠ 0 := by unfold Consts.deep; norm_num
  constructor
  · field_simp
  · field_simp

/-- `dd` does not depend on where the stored direction sequence starts: for a uniform full-circle grid
    with spacing `δ ≤ 180` the first two stored directions differ by `δ` or by `360 − δ` (seam), and
    both give `δ` -/
theorem dd_seam (a b δ : ℚ) (rest : Vec) (hδ : 0 ≤ δ) (hδ2 : δ ≤ 180)
    (h : absR (b - a) = δ ∨ absR (b - a) = 360 - δ) : dd (some (a :: b :: rest)) = δ := by
  show minR (absR (b - a)) (360 - absR (b - a)) = δ
  have hle : δ ≤ 360 - δ := by linarith
  rcases h with h | h <;> rw [h, minR_eq_min]
  · exact min_eq_left hle
  · rw [sub_sub_cancel]; exact min_eq_right hle

/-! ## T-tier: regenerated kernels

`Gen/NpKernels.lean` is regenerated on every run by `harness/translate_np.py` from the *whole bodies* of
`npstats.hs`, `npstats.mom1`, `npstats.dm`, `utils.wavenuma`, `utils.celerity`, `utils.wavelen` (vector grammar:
slices, elementwise arithmetic, row sums, `if`/`else`, unrolled literal loops).  The theorems below identify each
generated definition with the hand-written model for ALL inputs, so a change of a slice, an operator, a comparison,
a literal or the staging in the repository breaks an obligation of C01.  Transcendentals: the final `4·sqrt` of
`hs` is stripped structurally; the sin/cos arrays of `mom1` are oracle tables whose defining argument is itself
regenerated (`npMom1_*_arg`); `** 0.5` in `wavenuma` is an oracle function parameter. -/

/-- `npstats.hs` (radicand): trapezoid over `|f[i+1]−f[i]|` of `E`, plus the tail term -/
theorem gen_npHs_eq (e : Mat) (f : Vec) (dir : Option Vec) (tail : Bool) :
    Gen.npHsE e f dir tail = Stats.npHsE Consts.thr Consts.quarter tail f (npE dir e) := by
  unfold Stats.npHsE
  -- the code's `if c then A + B else A` is the model's `A + if c then B else 0`
  rw [trapz_eq_slices, npDf_eq_slices, add_ite, add_zero]
  rcases dir with _ | _ | ⟨a, _ | ⟨b, rest⟩⟩
  -- fewer than two directions: both sides flatten the matrix
  iterate 3 rfl
  -- two directions: the code maps twice (`ddir * ·` after the row sums), `oned` once
  simp only [Gen.npHsE, List.map_map]
  rfl

/-- non-vacuity of the generated `hs`: 3×2 spectrum stored with the 0/360 wrap between its two directions,
    `Δθ = min(|10 − 350|, 360 − 340) = 20` (the short way round; 340 before the repair), tail active (0.5 > 0.333) -/
example : Gen.npHsE [[1, 2], [0, 3], [4, 1]] [1/8, 1/4, 1/2] (some [350, 10]) true =
    (1/2) * ((1/8) * (20 * 3 + 20 * 3) + (1/4) * (20 * 5 + 20 * 3)) + (1/4) * (20 * 5) * (1/2) := by
  decide +kernel

theorem gen_npHs_factor : Gen.npHsFactor = 4 := rfl

/-- `npstats.mom1` on at least two directions (fewer: `dir[1]` raises IndexError in the code) -/
theorem gen_mom1_eq (e : Mat) (a b : ℚ) (rest s c : Vec) (theta : ℚ) :
    Gen.npMom1 e (a :: b :: rest) theta c s = Stats.npMom1 (a :: b :: rest) s c e := by
  simp only [Gen.npMom1, Stats.npMom1, mom1_rows, npDd, getR, List.getD_cons_zero, List.getD_cons_succ]

theorem gen_mom1_tables :
    Gen.npMom1_cp_fn = "np.cos(np.radians(·))" ∧ Gen.npMom1_sp_fn = "np.sin(np.radians(·))" ∧
    Gen.npMom1_theta_default = 90 := ⟨rfl, rfl, rfl⟩

theorem gen_mom1_arg_eq (d : ℚ) :
    Gen.npMom1_cp_arg Gen.npMom1_theta_default d = Stats.momArg d ∧
    Gen.npMom1_sp_arg Gen.npMom1_theta_default d = Stats.momArg d :=
  ⟨momArg_default d, momArg_default d⟩

theorem gen_dm_eq (e : Mat) (a b : ℚ) (rest s c : Vec) :
    Gen.npDmVec e (a :: b :: rest) c s = Stats.npDmVec (a :: b :: rest) s c e := by
  simp only [Gen.npDmVec, gen_mom1_eq, Stats.npMom1, Stats.npDmVec]

theorem gen_dm_post_eq (pi a : ℚ) : Gen.npDmPost pi a = Stats.dirOfAtan pi a := rfl

theorem gen_wavenuma_poly_eq (x : ℚ) :
    Gen.wavenumaA x = Dispersion.polyA x ∧
    Dispersion.polyA x = 1 + Dispersion.powSum (Dispersion.chenD.drop 1) 1 x := by
  constructor
  · simp only [Gen.wavenumaA, Dispersion.polyA, Dispersion.chenD, Dispersion.horner, getR, List.getD_cons_zero,
      List.getD_cons_succ, List.drop_succ_cons, List.drop_zero]
    ring
  · simp only [Dispersion.polyA, Dispersion.chenD, Dispersion.horner, Dispersion.powSum, List.drop_succ_cons, List.drop_zero]
    ring

example : Gen.wavenumaA 1 = 1 + (5874495353942075 : ℚ) / 9007199254740992 + 8326254991082573 / 18014398509481984
    + 3112888062438487 / 36028797018963968 + 607985949695017 / 9007199254740992 := by decide +kernel

theorem gen_wavenuma_k0h_eq (pi f h : ℚ) : Gen.wavenumaK0h pi f h = Dispersion.k0h pi f h := rfl

theorem gen_wavenuma_eq (pi : ℚ) (sqrt : ℚ → ℚ) (f h : ℚ) :
    Gen.wavenuma pi sqrt f h = Dispersion.wavenuma pi sqrt f h := by
  have hA := (gen_wavenuma_poly_eq (Dispersion.k0h pi f h)).1
  unfold Dispersion.wavenuma
  rw [← hA]
  rfl

theorem gen_celerity_eq (pi : ℚ) (sqrt : ℚ → ℚ) (f : ℚ) (depth : Option ℚ) :
    Gen.celerity pi sqrt f depth = Dispersion.celerity pi sqrt f depth := by
  cases depth with
  | none => rfl
  | some h => simp only [Gen.celerity, Dispersion.celerity, gen_wavenuma_eq]

theorem gen_wavelen_eq (pi : ℚ) (sqrt : ℚ → ℚ) (f : ℚ) (depth : Option ℚ) :
    Gen.wavelen pi sqrt f depth = Dispersion.wavelen pi sqrt f depth := by
  cases depth with
  | none => rfl
  | some h => simp only [Gen.wavelen, Dispersion.wavelen, gen_wavenuma_eq]

theorem gen_deep_eq (pi : ℚ) (sqrt : ℚ → ℚ) (f : ℚ) :
    Gen.celerity pi sqrt f none = Consts.deep / f ∧ Gen.wavelen pi sqrt f none = Consts.deep / f ^ 2 := ⟨rfl, rfl⟩

/-! ## twin vs accessor

`SpecArray.hs` (the accessor) integrates with the `np.gradient` bin widths `df` (`Stats.hsE`), `npstats.hs` (the numpy
twin used by the partitioning code) with the trapezoid rule (`Stats.npHsE`).  On a strictly increasing frequency axis the
interior weights coincide (`(f_{i+1} − f_{i−1})/2`); the end bins get the full one-sided spacing in `df` and half of it in
the trapezoid.  So the two radicands differ **exactly** by half the end-bin weights, with or without the tail (both add
the same tail term).  All lengths `≥ 2`, all values. -/

/-- on an increasing axis `abs(freq[1:] - freq[:-1])` is the plain difference -/
theorem absR_of_lt {a b : ℚ} (h : a < b) : absR (b - a) = b - a := absR_of_nonneg (sub_nonneg.mpr h.le)

/-- the recursion behind `hsE_sub_npHsE`: from the second frequency on, `Σ S·df` is the trapezoid plus half the first
    interior weight plus half the last weight (`d` is irrelevant: `dfGo` is never empty) -/
theorem dfGo_vs_trapz (p c s d : ℚ) (rest srest : Vec) (hlen : srest.length = rest.length)
    (hinc : (c :: rest).Pairwise (· < ·)) :
    dot (s :: srest) (dfGo p c rest) = trapz (npDf (c :: rest)) (s :: srest) +
      ((c - p) / 2 * s + (dfGo p c rest).getLastD d / 2 * lastD (s :: srest)) := by
  induction rest generalizing p c s d srest with
  | nil =>
    obtain rfl := List.length_eq_zero_iff.mp hlen
    simp only [dfGo, dot, mulV, npDf, trapz, lastD, List.zipWith_cons_cons, List.zipWith_nil_left, List.sum_cons,
      List.sum_nil, List.getLastD_cons, List.getLastD_nil]
    ring
  | cons n rest ih =>
    obtain ⟨s', srest, rfl⟩ := List.exists_cons_of_length_eq_add_one hlen
    obtain ⟨hcn, hinc'⟩ := List.pairwise_cons.mp hinc
    have h := ih c n s' ((n - p) / 2) srest (Nat.succ.inj hlen) hinc'
    simp only [dfGo, dot, mulV, npDf, trapz, lastD, absR_of_lt (hcn n List.mem_cons_self), List.zipWith_cons_cons,
      List.sum_cons, List.getLastD_cons] at h ⊢
    rw [h]
    ring

/-- **accessor − twin = half the two end-bin terms of `Σ S·df`**, with or without the tail (both add the same tail term) -/
theorem hsE_sub_npHsE (thr q : ℚ) (tail : Bool) (f S : Vec) (h2 : 2 ≤ f.length) (hlen : S.length = f.length)
    (hinc : f.Pairwise (· < ·)) :
    hsE thr q tail f S - npHsE thr q tail f S = (df f).headD 0 / 2 * S.headD 0 + lastD (df f) / 2 * lastD S := by
  match f, S, h2, hlen with
  | a :: b :: rest, s0 :: s1 :: srest, _, hlen =>
    obtain ⟨hab, hinc'⟩ := List.pairwise_cons.mp hinc
    have h := dfGo_vs_trapz a b s1 (b - a) rest srest (Nat.succ.inj (Nat.succ.inj hlen)) hinc'
    simp only [hsE, npHsE, m0E, df, dot, mulV, npDf, trapz, lastD, absR_of_lt (hab b List.mem_cons_self),
      List.zipWith_cons_cons, List.sum_cons, List.getLastD_cons, List.headD_cons, add_sub_add_right_eq_sub] at h ⊢
    rw [h]
    ring

/-- the last bin width is the full one-sided spacing -/
theorem dfGo_getLastD (p c d : ℚ) (rest : Vec) :
    (dfGo p c rest).getLastD d = (c :: rest).getD rest.length 0 - (p :: c :: rest).getD rest.length 0 := by
  induction rest generalizing p c d with
  | nil => rfl
  | cons n rest ih => simp only [dfGo, List.getLastD_cons, ih, List.length_cons, List.getD_cons_succ]

/-- the same by index, without the tail:
    `hsE − npHsE = (f₁ − f₀)/2 · S₀ + (f_{n−1} − f_{n−2})/2 · S_{n−1}` -/
theorem npHsE_vs_hsE (thr q : ℚ) (f S : Vec) (h2 : 2 ≤ f.length) (hlen : S.length = f.length)
    (hinc : f.Pairwise (· < ·)) :
    hsE thr q false f S - npHsE thr q false f S =
      (f[1] - f[0]) / 2 * S[0] + (f[f.length - 1] - f[f.length - 2]) / 2 * S[S.length - 1] := by
  rw [hsE_sub_npHsE thr q false f S h2 hlen hinc, lastD_eq_getR S]
  match f, S, h2, hlen with
  | a :: b :: rest, s0 :: s1 :: srest, _, hlen =>
    -- the indices `length − 1`, `length − 2` of `a :: b :: rest` compute
    have e1 (n : Nat) : n + 1 + 1 - 1 = n + 1 := rfl
    have e2 (n : Nat) : n + 1 + 1 - 2 = n := rfl
    simp only [df, lastD, getR, List.headD_cons, List.getLastD_cons, dfGo_getLastD, List.length_cons,
      e1, e2, List.getElem_eq_getD (0 : ℚ), List.getD_cons_zero, List.getD_cons_succ, Nat.cast_ofNat]

theorem headD_nonneg {l : Vec} (h : ∀ x ∈ l, 0 ≤ x) : 0 ≤ l.headD 0 := by
  cases l with
  | nil => exact le_rfl
  | cons a _ => exact h a List.mem_cons_self

/-- hence for a non-negative spectrum the twin's radicand never exceeds the accessor's -/
theorem npHsE_le_hsE (thr q : ℚ) (tail : Bool) (f S : Vec) (h2 : 2 ≤ f.length) (hlen : S.length = f.length)
    (hinc : f.Pairwise (· < ·)) (hS : ∀ x ∈ S, 0 ≤ x) :
    npHsE thr q tail f S ≤ hsE thr q tail f S := by
  have hd : ∀ x ∈ df f, 0 ≤ x := fun x hx => (df_pos f hinc x hx).le
  rw [← sub_nonneg, hsE_sub_npHsE thr q tail f S h2 hlen hinc]
  exact add_nonneg (mul_nonneg (div_nonneg (headD_nonneg hd) zero_le_two) (headD_nonneg hS))
    (mul_nonneg (div_nonneg (lastD_forall _ le_rfl hd) zero_le_two) (lastD_forall _ le_rfl hS))

/-- concrete numbers: `f = [1/8, 1/4, 1/2, 7/8]`, `S = [3, 5, 2, 7]`: `(1/8)/2·3 + (3/8)/2·7 = 3/2`, tail or not -/
example : hsE (333/1000) (1/4) false [1/8, 1/4, 1/2, 7/8] [3, 5, 2, 7] -
    npHsE (333/1000) (1/4) false [1/8, 1/4, 1/2, 7/8] [3, 5, 2, 7] = 3/2 := by decide +kernel
example : hsE (333/1000) (1/4) true [1/8, 1/4, 1/2, 7/8] [3, 5, 2, 7] -
    npHsE (333/1000) (1/4) true [1/8, 1/4, 1/2, 7/8] [3, 5, 2, 7] = 3/2 := by decide +kernel
example : ((1/4 - 1/8 : ℚ)) / 2 * 3 + ((7/8 - 1/2 : ℚ)) / 2 * 7 = 3/2 := by decide +kernel
/-- two frequencies: the accessor counts the single interval twice -/
example : hsE (333/1000) (1/4) false [1/10, 3/10] [4, 6] = 2 ∧ npHsE (333/1000) (1/4) false [1/10, 3/10] [4, 6] = 1 := by
  decide +kernel
/-- the hypotheses are satisfiable -/
example : 2 ≤ ([1/8, 1/4, 1/2, 7/8] : Vec).length ∧ ([3, 5, 2, 7] : Vec).length = ([1/8, 1/4, 1/2, 7/8] : Vec).length ∧
    ([1/8, 1/4, 1/2, 7/8] : Vec).Pairwise (· < ·) ∧ (∀ x ∈ ([3, 5, 2, 7] : Vec), 0 ≤ x) := by decide +kernel
example : 2 ≤ ([1/10, 3/10] : Vec).length ∧ ([4, 6] : Vec).length = ([1/10, 3/10] : Vec).length ∧
    ([1/10, 3/10] : Vec).Pairwise (· < ·) := by decide +kernel
/-- `dfGo_vs_trapz`, `absR_of_lt`: satisfiable too -/
example : ([6] : Vec).length = ([3/10] : Vec).length ∧ ((1/10 : ℚ) :: [3/10]).Pairwise (· < ·) ∧ (1/10 : ℚ) < 3/10 := by
  decide +kernel

end WS.C01
