import WsVerif.Props.C02
import WsVerif.Props.C01xr
import WsVerif.Model.PeakXr
import WsVerif.Gen.XrPeakKernels
import WsVerif.Lemmas.XrPeakBridge
/-!
# C02 — T-tier, xarray level: the peak statistics of `SpecArray` are the model

`Gen/XrPeakKernels.lean` is regenerated on every run by `harness/translate_xr2.py` from the bodies of `SpecArray._peak`, `tp`, `fp`,
`dp`, `dpm`, `dpspr`, `alpha`, `gamma`, `hmax`, `scale_by_hs` (`wavespectra/specarray.py`) and of the wrappers of
`wavespectra/core/xrstats.py`.  Each theorem below identifies one generated definition with the hand-written model
(`Model/Peak.lean`, twins in `Model/PeakXr.lean`) for ALL inputs, through the numpy kernels already bridged in `Props/C02.lean`
(`gen_tps_eq`, `gen_npTp_eq`, `gen_dp_eq`, `gen_dpm_eq`, `gen_dpspr_eq`, `gen_alpha_val_eq`).
-/
namespace WS.C02
open WS WS.Stats WS.Peak

/-- **`SpecArray._peak` is `Peak.peakIdx`**: the `concat / diff / > 0 / < 0 / logical_and / where(·, 0) / argmax` pipeline returns the
    first index of the largest value among the interior strict local maxima, `0` when there is none -/
theorem genxrp_peak_eq (a : Vec) : Gen.xrPeak a = peakIdx a := by
  unfold Gen.xrPeak peakIdx
  simp only [peak_mask_eq]

/-- hence the regenerated `_peak` has the property proved for the model -/
theorem genxrp_peak_spec (a : Vec) :
    Gen.xrPeak a = 0 ∨
      (IsInteriorStrictMax a (Gen.xrPeak a) ∧
        ∀ q, IsInteriorStrictMax a q →
          getR a q ≤ getR a (Gen.xrPeak a) ∧ (getR a q = getR a (Gen.xrPeak a) → Gen.xrPeak a ≤ q)) := by
  rw [genxrp_peak_eq]; exact peakIdx_spec a

/-- non-vacuity on the regenerated text: boundary maximum ignored, flat top ignored, first of equal peaks -/
theorem genxrp_peak_examples :
    Gen.xrPeak [10, 1, 2, 5, 2, 1] = 3 ∧ Gen.xrPeak [1, 2, 2, 1] = 0 ∧ Gen.xrPeak [0, 3, 1, 3, 0] = 1 ∧
    Gen.xrPeak [0, 1, 0, 4, 0] = 3 ∧ Gen.xrPeak [3, 2, 1] = 0 ∧ Gen.xrPeak [] = 0 := by decide +kernel

/-- which kernel on which arguments: `tps` when `smooth`, else `tp`, at `ipeak = _peak(dset)`, on `(ipeak, dset, freq)` -/
theorem genxrp_peak_wave_period_eq (f S : Vec) (sm : Bool) :
    Gen.xrpPeakWavePeriod f S sm = if sm then Gen.tps (peakIdx S) S f else Gen.npTp (peakIdx S) S f := by
  simp only [Gen.xrpPeakWavePeriod, genxrp_peak_eq]

/-- the model's peak frequency: smooth (parabolic fit) or discrete -/
def fpModel (sm : Bool) (f S : Vec) : Option ℚ := if sm then fpSmooth f S else fpDiscrete f S

/-- **peak period** = reciprocal of the model's smooth / discrete peak frequency; NaN when there is no peak -/
theorem genxrp_peak_wave_period_model (f S : Vec) (sm : Bool) :
    Gen.xrpPeakWavePeriod f S sm = (fpModel sm f S).map fun x => 1 / x := by
  rw [genxrp_peak_wave_period_eq]
  cases sm
  · simp only [Bool.false_eq_true, if_false, (gen_npTp_eq _ _ _).2, atPeak, fpModel, fpDiscrete]
    split <;> rfl
  · simp only [if_true, gen_tps_eq, fpModel, fpSmooth]
    split <;> rfl

theorem genxrp_peak_wave_period_nan (f S : Vec) (sm : Bool) :
    Gen.xrpPeakWavePeriod f S sm = none ↔ peakIdx S = 0 := by
  rw [genxrp_peak_wave_period_model]
  cases sm <;> simp [fpModel, fpSmooth, fpDiscrete]

theorem genxrp_peak_wave_period_pins :
    Gen.xrpPeakWavePeriod_smooth_default = true ∧
    Gen.xrpPeakWavePeriod_casts = ["ipeak.astype('int64')", "dset.astype('float64')", "dset[attrs.FREQNAME].astype('float32')"] ∧
    Gen.xrpPeakWavePeriod_ufunc = "input_core_dims=[[], [attrs.FREQNAME], [attrs.FREQNAME]], vectorize=True, dask='parallelized', output_dtypes=['float32']" ∧
    Gen.xrpPeakWavePeriod_plumbing = ["if isinstance(dset, xr.Dataset): dset = dset[attrs.SPECNAME]", "dset = dset.chunk({attrs.FREQNAME: -1})",
      "darr.name = 'tp'", "darr.attrs = {'standard_name': attrs.ATTRS.tp.standard_name, 'units': attrs.ATTRS.tp.units}"] :=
  ⟨rfl, rfl, rfl, rfl⟩

/-- `SpecArray.tp(smooth)` = the wrapper on `self.oned()` -/
theorem genxrp_tp_eq (f d : Vec) (E : Mat) (dfv : Vec) (ddv : ℚ) (sm : Bool) :
    Gen.xrTp f d E dfv ddv sm = (fpModel sm f (oned ddv E)).map fun x => 1 / x := by
  simp only [Gen.xrTp, C01.genxr_oned_eq, genxrp_peak_wave_period_model]

/-- `1 / (1 / x)` with numpy's division: NaN/inf where the fitted frequency is 0 -/
def nz (x : ℚ) : Option ℚ := if x = 0 then none else some x

theorem divOpt_one_one_div (x : ℚ) : divOpt 1 (1 / x) = nz x := by
  unfold divOpt nz
  by_cases h : x = 0 <;> simp [h]

/-- `SpecArray.fp(smooth)` = the model's peak frequency (`1 / tp`) -/
theorem genxrp_fp_eq (f d : Vec) (E : Mat) (dfv : Vec) (ddv : ℚ) (sm : Bool) :
    Gen.xrFp f d E dfv ddv sm = (fpModel sm f (oned ddv E)).bind nz := by
  simp only [Gen.xrFp, genxrp_tp_eq]
  cases fpModel sm f (oned ddv E) with
  | none => rfl
  | some x => exact divOpt_one_one_div x

theorem genxrp_tp_fp_defaults : Gen.xrTp_smooth_default = true ∧ Gen.xrFp_smooth_default = true := ⟨rfl, rfl⟩

/-- **`dp`** = the direction coordinate at the first maximum of the frequency-summed spectrum -/
theorem genxrp_dp_eq (f d : Vec) (E : Mat) (dfv : Vec) (ddv : ℚ) :
    Gen.xrDp f d E dfv ddv = getR d (dpIdx d.length E) := by
  simp only [Gen.xrDp, Gen.xrpPeakWaveDirection, gen_dp_eq, dpIdx]

theorem genxrp_dp_pins :
    Gen.xrpPeakWaveDirection_casts = ["ipeak.astype('int64')", "dset[attrs.DIRNAME].astype('float32')"] ∧
    Gen.xrpPeakWaveDirection_ufunc = "input_core_dims=[[], [attrs.DIRNAME]], vectorize=True, dask='parallelized', output_dtypes=['float32']" ∧
    Gen.xrpPeakWaveDirection_plumbing = ["if isinstance(dset, xr.Dataset): dset = dset[attrs.SPECNAME]",
      "if attrs.DIRNAME not in dset.dims: raise ValueError('Cannot calculate dp from frequency spectra.')",
      "if attrs.FREQNAME in dset.dims:", "dset = dset.chunk({attrs.DIRNAME: -1})", "darr.name = 'dp'",
      "darr.attrs = {'standard_name': attrs.ATTRS.dp.standard_name, 'units': attrs.ATTRS.dp.units}"] :=
  ⟨rfl, rfl, rfl⟩

/-- **`dpm`**: the arguments of `arctan2` are the model's first-moment pair at the detected peak row (`none` = NaN) -/
theorem genxrp_dpm_vec_eq (f d : Vec) (E : Mat) (dfv : Vec) (ddv : ℚ) (c s : Vec) :
    Gen.xrDpmVec f d E dfv ddv c s = dpmVec ddv s c E := by
  simp only [Gen.xrDpmVec, Gen.xrpDpmVec, C01.genxr_momd1_eq, C01.genxr_oned_eq, genxrp_peak_eq, gen_dpm_model_eq]

/-- … and the direction is the model's conversion of the oracle angle -/
theorem genxrp_dpm_eq (pi : ℚ) (atan2 : ℚ → ℚ → ℚ) (f d : Vec) (E : Mat) (dfv : Vec) (ddv : ℚ) (c s : Vec) :
    Gen.xrDpm pi atan2 f d E dfv ddv c s = (dpmVec ddv s c E).map fun v => Stats.dirOfAtan pi (atan2 v.1 v.2) := by
  simp only [Gen.xrDpm, genxrp_dpm_vec_eq, gen_dpm_post_eq]

theorem genxrp_dpm_pins :
    Gen.xrpDpmVec_casts = ["ipeak.astype('int64')", "msin.astype('float64')", "mcos.astype('float64')"] ∧
    Gen.xrpDpmVec_ufunc = "input_core_dims=[[], [attrs.FREQNAME], [attrs.FREQNAME]], vectorize=True, dask='parallelized', output_dtypes=['float32']" ∧
    Gen.xrpDpmVec_plumbing = ["if isinstance(dset, xr.Dataset): dset = dset[attrs.SPECNAME]",
      "if attrs.DIRNAME not in dset.dims: raise ValueError('Cannot calculate dp from frequency spectra.')",
      "dset = dset.chunk({attrs.FREQNAME: -1})", "darr.name = 'dpm'",
      "darr.attrs = {'standard_name': attrs.ATTRS.dpm.standard_name, 'units': attrs.ATTRS.dpm.units}"] :=
  ⟨rfl, rfl, rfl⟩

/-- **`dpspr`** = the frequency-dependent spread `fdspr(mom)` (an oracle function of `mom`: its element-wise roots are not translated,
    the call is pinned) at the detected peak row, NaN when there is none.  As coded, `SpecArray.dpspr(mom)` does NOT forward `mom`: the
    wrapper's default (`1`, pinned below) is used — the right-hand side does not depend on `mom`. -/
theorem genxrp_dpspr_eq (f d : Vec) (E : Mat) (dfv : Vec) (ddv : ℚ) (mom : Nat) (fd : Nat → Vec) :
    Gen.xrDpspr f d E dfv ddv mom fd = atPeak (peakIdx (oned ddv E)) (getR (fd 1) (peakIdx (oned ddv E))) := by
  simp only [Gen.xrDpspr, Gen.xrpPeakDirectionalSpread, C01.genxr_oned_eq, genxrp_peak_eq, gen_dpspr_eq,
    Gen.xrpPeakDirectionalSpread_mom_default]

/-- the wrapper itself uses the `mom` it is given -/
theorem genxrp_peak_directional_spread_eq (f d : Vec) (E : Mat) (dfv : Vec) (ddv : ℚ) (mom : Nat) (fd : Nat → Vec) :
    Gen.xrpPeakDirectionalSpread f d E dfv ddv mom fd = atPeak (peakIdx (oned ddv E)) (getR (fd mom) (peakIdx (oned ddv E))) := by
  simp only [Gen.xrpPeakDirectionalSpread, C01.genxr_oned_eq, genxrp_peak_eq, gen_dpspr_eq]

theorem genxrp_dpspr_pins :
    Gen.xrDpspr_mom_default = 1 ∧ Gen.xrpPeakDirectionalSpread_mom_default = 1 ∧
    Gen.xrpPeakDirectionalSpread_fdspr_src = "dset.spec.fdspr(mom=mom)" ∧
    Gen.xrpPeakDirectionalSpread_casts = ["ipeak.astype('int64')", "fdspr.astype('float64')"] ∧
    Gen.xrpPeakDirectionalSpread_ufunc = "input_core_dims=[[], [attrs.FREQNAME]], vectorize=True, dask='parallelized', output_dtypes=['float32']" ∧
    Gen.xrpPeakDirectionalSpread_plumbing = ["if isinstance(dset, xr.Dataset): dset = dset[attrs.SPECNAME]",
      "if attrs.DIRNAME not in dset.dims: raise ValueError('Cannot calculate dpspr from frequency spectra.')",
      "dset = dset.chunk({attrs.FREQNAME: -1})", "darr.name = 'dpspr'",
      "darr.attrs = {'standard_name': attrs.ATTRS.dpspr.standard_name, 'units': attrs.ATTRS.dpspr.units}"] :=
  ⟨rfl, rfl, rfl, rfl, rfl, rfl⟩

/-- **the ingredients of `fdspr`** (`a = msin·df`, `b = mcos·df`, `e = oned·df`, regenerated; the closing formula with its element-wise
    roots is pinned as text) taken at the detected peak row are the model's `Peak.dpsprABE` -/
theorem genxrp_fdspr_abe_eq (f d : Vec) (E : Mat) (ddv : ℚ) (c s : Vec) :
    dpsprABE ddv s c f E =
      (let abe := Gen.xrFdsprABE f d E (df f) ddv 1 c s
       let p := Gen.xrPeak (Gen.xrOned f d E (df f) ddv)
       atPeak p (getR abe.1 p, getR abe.2.1 p, getR abe.2.2 p)) := by
  simp only [Gen.xrFdsprABE, C01.genxr_momd1_eq, C01.genxr_oned_eq, genxrp_peak_eq, getR_zipWith_mul, dpsprABE, atPeak]

/-- … for every `mom`: the `mom`-th powers of the tables, weighted by `df` -/
theorem genxrp_fdspr_abe_mom (f d : Vec) (E : Mat) (ddv : ℚ) (k : Nat) (c s : Vec) :
    Gen.xrFdsprABE f d E (df f) ddv k c s =
      (mulV (momdRow ddv (s.map (· ^ k)) E) (df f), mulV (momdRow ddv (c.map (· ^ k)) E) (df f), mulV (oned ddv E) (df f)) := by
  simp only [Gen.xrFdsprABE, C01.genxr_momd_eq, C01.genxr_oned_eq, mulV]

theorem genxrp_fdspr_pins :
    Gen.xrFdsprABE_mom_default = 1 ∧
    Gen.xrFdspr_formula = ["fdspr = (2 * R2D ** 2 * (1 - (a ** 2 + b ** 2) ** 0.5 / e)) ** 0.5", "return fdspr.rename(f'fdspr{mom:0.0f}')"] ∧
    Gen.xrFdsprABE_guards = [("self.dir is None", "raise ValueError('Cannot calculate dpspr from 1d, frequency spectra.')")] :=
  ⟨rfl, rfl, rfl⟩

/-- `xrstats.alpha`: `npstats.alpha(dset, freq, fp)` with `fp = 1 / peak_wave_period(dset, smooth)` (NaN in → NaN out) -/
theorem genxrp_alpha_eq (pi g : ℚ) (f S : Vec) (sm : Bool) (ex : Vec) :
    Gen.xrpAlpha pi g f S sm ex = ((fpModel sm f S).bind nz).map fun fp => Gen.npAlpha pi g S f fp ex := by
  simp only [Gen.xrpAlpha, genxrp_peak_wave_period_model]
  cases fpModel sm f S with
  | none => rfl
  | some x => simp only [Option.map_some, Option.bind_some, one_div, ← divOpt_one_one_div]

/-- **`alpha`** = the model's tail fit at the model's peak frequency (the `np.exp` table taken at the fit positions) -/
theorem genxrp_alpha_model (pi g fp : ℚ) (f S ex : Vec) (sm : Bool) (h : (fpModel sm f S).bind nz = some fp) :
    Gen.xrpAlpha pi g f S sm ((alphaPos Consts.alphaLo Consts.alphaHi fp f).map fun i => getR ex i) =
      some (alphaVal ((2 * pi) ^ 4 / g ^ 2) (alphaPos Consts.alphaLo Consts.alphaHi fp f) f S ex) := by
  rw [genxrp_alpha_eq, h, Option.map_some, gen_alpha_val_eq]

theorem genxrp_alpha_nan (pi g : ℚ) (f S ex : Vec) (sm : Bool) (h : peakIdx S = 0) : Gen.xrpAlpha pi g f S sm ex = none := by
  rw [genxrp_alpha_eq]
  cases sm <;> simp [fpModel, fpSmooth, fpDiscrete, h]

/-- `SpecArray.alpha(smooth)` = the wrapper on `self.oned()` -/
theorem genxrp_alpha_method_eq (pi g : ℚ) (f d : Vec) (E : Mat) (dfv : Vec) (ddv : ℚ) (sm : Bool) (ex : Vec) :
    Gen.xrAlpha pi g f d E dfv ddv sm ex = Gen.xrpAlpha pi g f (oned ddv E) sm ex := by
  simp only [Gen.xrAlpha, C01.genxr_oned_eq]

theorem genxrp_alpha_pins :
    Gen.xrAlpha_smooth_default = true ∧ Gen.xrpAlpha_smooth_default = true ∧
    Gen.xrpAlpha_casts = ["dset.astype('float64')", "dset[attrs.FREQNAME].astype('float32')", "fp.astype('float32')"] ∧
    Gen.xrpAlpha_ufunc = "input_core_dims=[[attrs.FREQNAME], [attrs.FREQNAME], []], vectorize=True, dask='parallelized', output_dtypes=['float32']" ∧
    Gen.xrpAlpha_plumbing = ["if isinstance(dset, xr.Dataset): dset = dset[attrs.SPECNAME]", "dset = dset.chunk({attrs.FREQNAME: -1})",
      "darr.name = 'alpha'", "darr.attrs = {'standard_name': attrs.ATTRS.alpha.standard_name, 'units': attrs.ATTRS.alpha.units}"] :=
  ⟨rfl, rfl, rfl, rfl, rfl⟩

/-- the polynomial of `gamma` written out, lowest order first (`p[::-1]`) -/
theorem genxrp_gamma_poly (x : ℚ) : polyEval Consts.gammaPoly x =
    0 + ((4674721281115827 : Rat) / 36028797018963968) * x ^ 0 + ((5859173927865775 : Rat) / 18014398509481984) * x ^ 1
      + ((1443119188183783 : Rat) / 2251799813685248) * x ^ 2 + ((-2439742592182793 : Rat) / 18014398509481984) * x ^ 3
      + ((5452958428820197 : Rat) / 144115188075855872) * x ^ 4 := by
  rw [neg_div]
  exact Option.some.inj (gamma_poly_chain _ _ _ _ _ (some x)).symm

/-- **`gamma`** = the twin `XrP.gammaXr` on the model's ingredients: `max E(f) / (0.3125·hs²·fp⁴·fp⁻⁵·0.2865048)` at the model's peak
    frequency, the polynomial `Consts.gammaPoly` when `scaled`, floored at 1 (NaN → 1).  As coded the numerator is the GLOBAL maximum of
    `E(f)` (`C02.gamma_full_fails`). -/
theorem genxrp_gamma_eq (sqrt : ℚ → ℚ) (f d : Vec) (E : Mat) (ddv : ℚ) (sm sc : Bool) :
    Gen.xrGamma sqrt f d E (df f) ddv sm sc =
      XrP.gammaXr Consts.gammaA Consts.gammaB (4 * sqrt (hsE Consts.thr Consts.quarter true f (oned ddv E)))
        (XrP.maxV (oned ddv E)) ((fpModel sm f (oned ddv E)).bind nz) sc Consts.gammaPoly := by
  simp only [Gen.xrGamma, genxrp_fp_eq, C01.genxr_hs_full, C01.genxr_oned_eq, Gen.xrHs_tail_default, neg_div,
    gamma_raw_chain, gamma_poly_chain, where_ge_one]
  rfl

theorem genxrp_gamma_defaults : Gen.xrGamma_smooth_default = true ∧ Gen.xrGamma_scaled_default = true := ⟨rfl, rfl⟩

/-- the unscaled gamma of the twin is the model's `gammaRaw` (floored at 1, NaN → 1) for a non-negative spectrum and an oracle root
    that squares back on the radicand of `hs` -/
theorem genxrp_gamma_raw_model (sqrt : ℚ → ℚ) (a b H p : ℚ) (S cs : Vec) (h : sqrt H ^ 2 = H) (h0 : ∀ x ∈ S, 0 ≤ x) :
    XrP.gammaXr a b (4 * sqrt H) (XrP.maxV S) (some p) false cs =
      match gammaRaw a b H p S with
      | some x => if 1 ≤ x then some x else some 1
      | none => some 1 := by
  have e : (4 * sqrt H) ^ 2 = 16 * H := by rw [mul_pow, h]; norm_num
  unfold XrP.gammaXr gammaRaw
  simp only [Option.bind_some, Bool.false_eq_true, if_false, e, maxV_eq_maxD S h0]
  unfold divOpt
  by_cases hp : p = 0
  · simp [hp]
  · have hp5 : p ^ 5 ≠ 0 := pow_ne_zero 5 hp
    simp only [hp5, if_false, Option.bind_some, hp, false_or]
    by_cases hz : a * (16 * H) * p ^ 4 * (1 / p ^ 5) * b = 0 <;> simp only [hz, ↓reduceIte]

/-- **`hmax = k · hs`** with `k` the model's factor: `sqrt(0.5·log(round(dt / tm02)))` when there is a time axis of more than one
    step, the constant `1.86` (`Consts.hmaxK`) otherwise -/
theorem genxrp_hmax_eq (sqrt log round : ℚ → ℚ) (f d : Vec) (E : Mat) (ddv : ℚ) (hasTime : Bool) (ntime : Nat) (dt : ℚ) :
    Gen.xrHmax sqrt log round f d E (df f) ddv hasTime ntime dt =
      (XrP.hmaxFactor sqrt log round hasTime ntime dt ((tm02Sq f (oned ddv E)).map sqrt)).map
        fun k => k * (4 * sqrt (hsE Consts.thr Consts.quarter true f (oned ddv E))) := by
  simp only [Gen.xrHmax, C01.genxr_tm02_full, C01.genxr_hs_full, XrP.hmaxFactor, Consts.hmaxK, Gen.xrHs_tail_default, gt_iff_lt]
  split
  · cases tm02Sq f (oned ddv E) with
    | none => rfl
    | some t =>
      simp only [Option.map_some, Option.bind_some]
      cases divOpt dt (sqrt t) <;> rfl
  · rfl

/-- without a time axis (or with a single step) the factor is the constant -/
theorem genxrp_hmax_notime (sqrt log round : ℚ → ℚ) (f d : Vec) (E : Mat) (ddv : ℚ) (hasTime : Bool) (ntime : Nat) (dt : ℚ)
    (h : hasTime = false ∨ ntime ≤ 1) :
    Gen.xrHmax sqrt log round f d E (df f) ddv hasTime ntime dt =
      some (Consts.hmaxK * (4 * sqrt (hsE Consts.thr Consts.quarter true f (oned ddv E)))) := by
  rw [genxrp_hmax_eq]
  unfold XrP.hmaxFactor
  rcases h with h | h
  · simp [h]
  · have : ¬ 1 < ntime := by omega
    simp [this]

theorem genxrp_hmax_pins : Gen.xrHmax_dt_src = "np.diff(self._obj.time).astype('timedelta64[s]').mean()" := rfl

/-- **`scale_by_hs`**: the spectrum is multiplied by `(expr / hs)²` where the model's mask holds — the conjunction of the range tests
    on `hs`, `tp()` (smooth) and `dpm()`, each skipped only when BOTH its bounds are at the infinite defaults — and kept elsewhere -/
theorem genxrp_scale_by_hs_eq (pi : ℚ) (atan2 : ℚ → ℚ → ℚ) (sqrt : ℚ → ℚ) (f d : Vec) (E : Mat) (ddv : ℚ)
    (hsLo hsHi tpLo tpHi dpmLo dpmHi : XrP.Bound) (expr : ℚ) (c s : Vec) :
    Gen.xrScaleByHs pi atan2 sqrt f d E (df f) ddv hsLo hsHi tpLo tpHi dpmLo dpmHi expr c s =
      (let hs := 4 * sqrt (hsE Consts.thr Consts.quarter true f (oned ddv E))
       XrP.scaleByHsXr
        (XrP.scaleMask hsLo hsHi tpLo tpHi dpmLo dpmHi hs ((fpModel true f (oned ddv E)).map fun x => 1 / x)
          ((dpmVec ddv s c E).map fun v => Stats.dirOfAtan pi (atan2 v.1 v.2)))
        (XrP.scaleFactor expr hs) E) := by
  simp only [Gen.xrScaleByHs, C01.genxr_hs_full, genxrp_tp_eq, genxrp_dpm_eq, Gen.xrHs_tail_default, Gen.xrTp_smooth_default,
    range_step, range_step_some_true, Bool.true_and, XrP.scaleByHsXr, XrP.scaleMask, XrP.scaleFactor]
  rfl

/-- the defaults are the infinite bounds, and with them nothing is tested (every spectrum is rescaled) -/
theorem genxrp_scale_by_hs_defaults (hs : ℚ) (tp dpm : Option ℚ) :
    Gen.xrScaleByHs_hs_min_default = XrP.Bound.ninf ∧ Gen.xrScaleByHs_hs_max_default = XrP.Bound.pinf ∧
    Gen.xrScaleByHs_tp_min_default = XrP.Bound.ninf ∧ Gen.xrScaleByHs_tp_max_default = XrP.Bound.pinf ∧
    Gen.xrScaleByHs_dpm_min_default = XrP.Bound.ninf ∧ Gen.xrScaleByHs_dpm_max_default = XrP.Bound.pinf ∧
    Gen.xrScaleByHs_expr_src = "eval(expr.lower())" ∧
    XrP.scaleMask .ninf .pinf .ninf .pinf .ninf .pinf hs tp dpm = true := by
  exact ⟨rfl, rfl, rfl, rfl, rfl, rfl, rfl, by simp [XrP.scaleMask, XrP.rangeTest]⟩

/-- one finite bound is enough to activate a test (`or`, not `and`): a lower bound alone on `tp` -/
theorem genxrp_scale_by_hs_one_bound (a hs : ℚ) (tp dpm : Option ℚ) :
    XrP.scaleMask .ninf .pinf (.fin a) .pinf .ninf .pinf hs tp dpm = tp.any fun t => decide (a ≤ t) := by
  cases tp <;> simp [XrP.scaleMask, XrP.rangeTest, XrP.geB, XrP.leB]

/-- the factor is C10's `t² / (16·hsE)` for every oracle root that squares back on the radicand -/
theorem genxrp_scale_factor (sqrt : ℚ → ℚ) (t H : ℚ) (h : sqrt H ^ 2 = H) (h0 : sqrt H ≠ 0) :
    XrP.scaleFactor t (4 * sqrt H) = some (t ^ 2 / (16 * H)) := by
  unfold XrP.scaleFactor divOpt
  simp only [mul_eq_zero, h0, or_false, OfNat.ofNat_ne_zero, if_false, Option.map_some, div_pow, mul_pow, h]
  norm_num

end WS.C02
