import WsVerif.Props.C10
import WsVerif.Props.C02xr
/-!
# C10 — T-tier, xarray level: the regenerated `scale_by_hs` is the `scaleByHs` of the property theorems

`Props/C10.lean` states `scale_by_hs` on the direction-integrated spectrum with the condition as a Boolean parameter.  Here the
regenerated method (`Gen.xrScaleByHs`, bridged in `Props/C02xr.lean`) is read on `oned`: it IS `C10.scaleByHs` with the regenerated mask
(`XrP.scaleMask`) as the condition, so `C10.scale_by_hs` / `scale_by_hs_else` hold of the regenerated text.
-/
namespace WS.C10
open WS WS.Stats WS.Peak

theorem genxrp_scale_by_hs_oned (pi : ℚ) (atan2 : ℚ → ℚ → ℚ) (sqrt : ℚ → ℚ) (f d : Vec) (E E' : Mat) (ddv : ℚ)
    (hsLo hsHi tpLo tpHi dpmLo dpmHi : XrP.Bound) (expr : ℚ) (c s : Vec)
    (h2 : sqrt (hsE Consts.thr Consts.quarter true f (oned ddv E)) ^ 2 = hsE Consts.thr Consts.quarter true f (oned ddv E))
    (h0 : sqrt (hsE Consts.thr Consts.quarter true f (oned ddv E)) ≠ 0)
    (h : Gen.xrScaleByHs pi atan2 sqrt f d E (df f) ddv hsLo hsHi tpLo tpHi dpmLo dpmHi expr c s = some E') :
    oned ddv E' =
      scaleByHs Consts.thr Consts.quarter true expr
        (XrP.scaleMask hsLo hsHi tpLo tpHi dpmLo dpmHi (4 * sqrt (hsE Consts.thr Consts.quarter true f (oned ddv E)))
          ((C02.fpModel true f (oned ddv E)).map fun x => 1 / x)
          ((dpmVec ddv s c E).map fun v => Stats.dirOfAtan pi (atan2 v.1 v.2)))
        f (oned ddv E) := by
  rw [C02.genxrp_scale_by_hs_eq] at h
  simp only [C02.genxrp_scale_factor sqrt expr _ h2 h0, XrP.scaleByHsXr] at h
  unfold scaleByHs
  split at h
  · rename_i hm
    simp only [Option.map_some, Option.some.injEq] at h
    rw [if_pos hm, ← h]
    exact oned_smul ddv _ E
  · rename_i hm
    simp only [Option.some.injEq] at h
    rw [if_neg hm, h]

/-- hence, where the regenerated mask holds, the rescaled spectrum has exactly `hs² = expr²` -/
theorem genxrp_scale_by_hs_target (pi : ℚ) (atan2 : ℚ → ℚ → ℚ) (sqrt : ℚ → ℚ) (f d : Vec) (E E' : Mat) (ddv : ℚ)
    (hsLo hsHi tpLo tpHi dpmLo dpmHi : XrP.Bound) (expr : ℚ) (c s : Vec)
    (h2 : sqrt (hsE Consts.thr Consts.quarter true f (oned ddv E)) ^ 2 = hsE Consts.thr Consts.quarter true f (oned ddv E))
    (h0 : sqrt (hsE Consts.thr Consts.quarter true f (oned ddv E)) ≠ 0)
    (hm : XrP.scaleMask hsLo hsHi tpLo tpHi dpmLo dpmHi (4 * sqrt (hsE Consts.thr Consts.quarter true f (oned ddv E)))
          ((C02.fpModel true f (oned ddv E)).map fun x => 1 / x)
          ((dpmVec ddv s c E).map fun v => Stats.dirOfAtan pi (atan2 v.1 v.2)) = true)
    (h : Gen.xrScaleByHs pi atan2 sqrt f d E (df f) ddv hsLo hsHi tpLo tpHi dpmLo dpmHi expr c s = some E') :
    hsE Consts.thr Consts.quarter true f (oned ddv E') = expr ^ 2 / 16 := by
  rw [genxrp_scale_by_hs_oned pi atan2 sqrt f d E E' ddv hsLo hsHi tpLo tpHi dpmLo dpmHi expr c s h2 h0 h, hm]
  exact scale_by_hs _ _ _ _ _ _ fun hz => h0 ((pow_eq_zero_iff two_ne_zero).mp (h2.trans hz))

end WS.C10
