import WsVerif.Props.C02
/-!
# C20 (Python level) — valid spectra never crash; invalid arguments are rejected

The models are total functions into `Option`/`Except`; these theorems state that on valid input they return a
value or the documented NaN, that every index they use is in range, and that the argument validation rejects
exactly the invalid arguments.
-/
namespace WS.C20py
open WS WS.Stats WS.Peak

/-- whenever a peak is reported, its two neighbours exist: `p−1`, `p+1` are valid indices -/
theorem peak_indices_valid (a : Vec) (h : peakIdx a ≠ 0) : 0 < peakIdx a ∧ peakIdx a + 1 < a.length := by
  rcases C02.peakIdx_spec a with h0 | ⟨⟨h1, h2, _, _⟩, _⟩
  · exact absurd h0 h
  · exact ⟨h1, h2⟩

/-- the peak index is always a valid index of a non-empty spectrum (also when it is the `0` sentinel) -/
theorem peakIdx_lt (a : Vec) (h : a ≠ []) : peakIdx a < a.length := by
  have hne : masked a ≠ [] := fun hm =>
    h (List.length_eq_zero_iff.mp ((C02.masked_length a).symm.trans (congrArg List.length hm)))
  have := (argmaxFirst_spec (masked a) hne).1
  rwa [C02.masked_length] at this

/-- peak statistics are total: a value when a peak exists, NaN otherwise — never an error -/
theorem peak_stats_total (f S : Vec) :
    (peakIdx S = 0 → fpSmooth f S = none ∧ fpDiscrete f S = none) ∧
    (peakIdx S ≠ 0 → (fpSmooth f S).isSome ∧ (fpDiscrete f S).isSome) := by
  unfold fpSmooth fpDiscrete
  exact ⟨fun h => ⟨if_pos h, if_pos h⟩, fun h => by rw [if_neg h, if_neg h]; exact ⟨rfl, rfl⟩⟩

/-- alpha's tail-fit positions are valid indices for every peak frequency, also with 0 or exactly 1 frequency in the
    window (the case that raised `TypeError` before fix 75ed5b2) -/
theorem alpha_total (lo hi fp : ℚ) (f : Vec) (h2 : 2 ≤ f.length) :
    (alphaPos lo hi fp f ≠ []) ∧ ∀ i ∈ alphaPos lo hi fp f, i < f.length := by
  refine ⟨?_, C02.alpha_window_indices_valid lo hi fp f h2⟩
  unfold alphaPos
  split
  · nofun
  · split <;> nofun
  · assumption

/-- integrated statistics are total: ratios are NaN exactly when their denominator vanishes -/
theorem ratio_stats_total (f S : Vec) :
    (tm01 f S = none ↔ momf 1 f S = 0) ∧ (tm02Sq f S = none ↔ momf 2 f S = 0) := by
  exact ⟨divOpt_eq_none_iff _ _, divOpt_eq_none_iff _ _⟩

/-! ### argument validation -/

/-- `split`: `fmax <= fmin` or `dmax <= dmin` (when both are given) is a `ValueError` -/
def splitValidate (fmin fmax dmin dmax : Option Rat) : Except Err Unit :=
  match fmin, fmax with
  | some a, some b => if b ≤ a then .error .valueError else
    match dmin, dmax with
    | some c, some d => if d ≤ c then .error .valueError else .ok ()
    | _, _ => .ok ()
  | _, _ =>
    match dmin, dmax with
    | some c, some d => if d ≤ c then .error .valueError else .ok ()
    | _, _ => .ok ()

theorem exists_some_pair (c d : ℚ) (p : ℚ → ℚ → Prop) :
    (∃ c' d', some c = some c' ∧ some d = some d' ∧ p c' d') ↔ p c d :=
  ⟨fun ⟨_, _, hc, hd, h⟩ => by cases hc; cases hd; exact h, fun h => ⟨c, d, rfl, rfl, h⟩⟩

/-- one `(min, max)` pair of `split`: rejected exactly when both are given and `max ≤ min` -/
theorem pair_rejects_iff (lo hi : Option Rat) :
    (match lo, hi with
      | some c, some d => if d ≤ c then Except.error Err.valueError else Except.ok ()
      | _, _ => .ok ()) = .error .valueError ↔ ∃ c d, lo = some c ∧ hi = some d ∧ d ≤ c := by
  rcases lo with _ | c <;> rcases hi with _ | d
  · simp only [reduceCtorEq, false_and, exists_false]
  · simp only [reduceCtorEq, false_and, exists_false]
  · simp only [reduceCtorEq, false_and, and_false, exists_false]
  · simp only [exists_some_pair, ite_eq_left_iff, reduceCtorEq, imp_false, not_not]

theorem split_rejects_iff (fmin fmax dmin dmax : Option Rat) :
    splitValidate fmin fmax dmin dmax = .error .valueError ↔
      (∃ a b, fmin = some a ∧ fmax = some b ∧ b ≤ a) ∨ (∃ c d, dmin = some c ∧ dmax = some d ∧ d ≤ c) := by
  -- the direction pair is checked the same way whatever the frequency pair was
  rw [← pair_rejects_iff dmin dmax]
  unfold splitValidate
  rcases fmin with _ | a <;> rcases fmax with _ | b
  · simp only [reduceCtorEq, false_and, exists_false, false_or]
  · simp only [reduceCtorEq, false_and, exists_false, false_or]
  · simp only [reduceCtorEq, false_and, and_false, exists_false, false_or]
  · by_cases h : b ≤ a
    · exact iff_of_true (if_pos h) (.inl ⟨a, b, rfl, rfl, h⟩)
    · simp only [exists_some_pair, h, if_false, false_or]

/-- `smooth_spec`: even windows are a `ValueError`, odd windows are accepted -/
def smoothValidate (fw dw : Nat) : Except Err Unit :=
  if fw % 2 = 0 ∨ dw % 2 = 0 then .error .valueError else .ok ()

theorem smooth_rejects_iff (fw dw : Nat) :
    smoothValidate fw dw = .error .valueError ↔ (fw % 2 = 0 ∨ dw % 2 = 0) := by
  unfold smoothValidate
  split
  · exact iff_of_true rfl ‹_›
  · exact iff_of_false nofun ‹_›

/-- `stats`: unknown or non-callable names, a names list of the wrong length, or a non-container are `ValueError` -/
def statsValidate (known callable : String → Bool) (stats : List String) (names : Option (List String)) : Except Err Unit :=
  if (names.getD stats).length ≠ stats.length then .error .valueError
  else if stats.all (fun s => known s && callable s) then .ok () else .error .valueError

theorem stats_rejects_iff (known callable : String → Bool) (stats : List String) (names : Option (List String)) :
    statsValidate known callable stats names = .error .valueError ↔
      ((names.getD stats).length ≠ stats.length ∨ ∃ s ∈ stats, known s = false ∨ callable s = false) := by
  have key : (∃ s ∈ stats, known s = false ∨ callable s = false) ↔
      ¬ (stats.all fun s => known s && callable s) = true := by
    simp only [List.all_eq_true, Bool.and_eq_true, not_forall, not_and_or, Bool.not_eq_true, exists_prop]
  rw [key]
  unfold statsValidate
  split
  · exact iff_of_true rfl (.inl ‹_›)
  · split
    · exact iff_of_false nofun (fun h => h.elim ‹¬ _› (· ‹_›))
    · exact iff_of_true rfl (.inr ‹_›)

example : splitValidate (some (1/10)) (some (1/10)) none none = .error .valueError := by decide +kernel
example : smoothValidate 3 4 = .error .valueError := by decide
example : statsValidate (· == "hs") (fun _ => true) ["hs", "nope"] none = .error .valueError := by decide

end WS.C20py
