import WsVerif.Model.Stats
import WsVerif.Model.Construct
import WsVerif.Lemmas.Sums
import WsVerif.Lemmas.Moments
import WsVerif.Props.C01
import WsVerif.Props.C10
import WsVerif.Gen.Lits
import Mathlib.Tactic.NormNum
import Mathlib.Tactic.LinearCombination
import Mathlib.Algebra.Order.Floor.Ring
/-!
# C15 — constructed parametric spectra have the parameters they were built from

On `Model/Construct.lean` (the constructors) and `Model/Stats.lean` (the accessor
that measures them).  Transcendental factors are tables (DESIGN §1.1): every statement is proved for
*all* tables with the stated hypotheses (positivity; a table that is a function of the wrapped angular
distance), for every number of frequencies and directions.  `sqrt`/`atan2` are in pre-image form:
"`hs` is exactly the requested one" is `hsE = hs²/16`; "measured `dm` is the requested one" is "the moment
vector has no component across the requested direction".

NOT decided here (numerical exploration in `harness/checks/c15.py`): that the TMA depth factor tends to 1
in deep water, and that the first circular moment of the *sampled* `cos^{2s}` table is `s/(s+1)`
(recovery of `dspr`) — both are real analysis (DESIGN §1.5-4).
-/
namespace WS.C15
open WS WS.Stats WS.Construct

theorem mulV_pos (a b : Vec) (ha : ∀ v ∈ a, 0 < v) (hb : ∀ v ∈ b, 0 < v) : ∀ v ∈ mulV a b, 0 < v :=
  forall_mem_zipWith fun x hx y hy => mul_pos (ha x hx) (hb y hy)

theorem mulV_length (n : ℕ) (a b : Vec) (la : a.length = n) (lb : b.length = n) : (mulV a b).length = n := by
  rw [mulV, List.length_zipWith, la, lb, min_self]

theorem dot_pos (a b : Vec) (ha : ∀ v ∈ a, 0 < v) (hb : ∀ v ∈ b, 0 < v) (ha0 : a ≠ []) (hb0 : b ≠ []) :
    0 < dot a b :=
  List.sum_pos _ (mulV_pos a b ha hb) fun h => (List.zipWith_eq_nil_iff.mp h).elim ha0 hb0

theorem scaleV_one (a : Vec) : scaleV 1 a = a := by
  unfold scaleV; simp

theorem scaleV_nonneg (k : ℚ) (hk : 0 ≤ k) (a : Vec) (ha : ∀ v ∈ a, 0 ≤ v) : ∀ v ∈ scaleV k a, 0 ≤ v :=
  List.forall_mem_map.mpr fun x hx => mul_nonneg hk (ha x hx)

theorem scaleV_pos (k : ℚ) (hk : 0 < k) (a : Vec) (ha : ∀ v ∈ a, 0 < v) : ∀ v ∈ scaleV k a, 0 < v :=
  List.forall_mem_map.mpr fun x hx => mul_pos hk (ha x hx)

theorem nonneg_of_pos {l : Vec} (h : ∀ x ∈ l, 0 < x) : ∀ x ∈ l, 0 ≤ x := fun x hx => (h x hx).le

/-- standing hypotheses on a frequency grid: non-empty, strictly increasing, positive; the tail weight
    `q` (the code's `0.25`) is non-negative.  No hypothesis on the threshold `thr`. -/
def GoodGrid (q : ℚ) (f : Vec) : Prop :=
  f ≠ [] ∧ f.Pairwise (· < ·) ∧ (∀ x ∈ f, 0 < x) ∧ 0 ≤ q

theorem hsE_pos (thr q : ℚ) (tail : Bool) (f E : Vec) (hg : GoodGrid q f) (hE : ∀ x ∈ E, 0 < x)
    (hlen : E.length = f.length) : 0 < hsE thr q tail f E := by
  obtain ⟨hne, hinc, hpos, hq⟩ := hg
  have hl : f.length ≠ 0 := fun h => hne (List.eq_nil_of_length_eq_zero h)
  have h1 : 0 < m0E f E := dot_pos E (df f) hE (C01.df_pos f hinc)
    (fun h => hl (by rw [← hlen, h]; rfl)) (fun h => hl (by rw [← C01.df_length, h]; rfl))
  have h2 : 0 ≤ lastD E := lastD_forall E le_rfl (nonneg_of_pos hE)
  have h3 : 0 ≤ lastD f := lastD_forall f le_rfl (nonneg_of_pos hpos)
  unfold hsE
  split
  · exact add_pos_of_pos_of_nonneg h1 (mul_nonneg (mul_nonneg hq h2) h3)
  · rwa [add_zero]

/-! ## A. rescaling to a requested significant height -/

/-- the algebraic core of `scaled` (the statement of DESIGN §3 C15): multiplying by
    `(h/hs)² = h²/(16·H)` gives the radicand `h²/16`, whenever `H ≠ 0` — tail term included.
    This is `C10.scale_by_hs` read for the constructor. -/
theorem scaled_factor_hsE (thr q h : ℚ) (f E : Vec) (hH : hsE thr q true f E ≠ 0) :
    hsE thr q true f (scaleV (h ^ 2 / (16 * hsE thr q true f E)) E) = h ^ 2 / 16 :=
  C10.scale_by_hs thr q true h f E hH

theorem scaled_some (thr q h : ℚ) (f E E' : Vec) (h' : scaled thr q h f E = some E') :
    0 < hsE thr q true f E ∧ E' = scaleV (h ^ 2 / (16 * hsE thr q true f E)) E := by
  simp only [scaled] at h'
  split_ifs at h' with hH
  exact ⟨not_le.mp hH, (Option.some.inj h').symm⟩

/-- **`scaled`**: whenever the spectrum has energy, the result exists (no NaN) and its `hs` radicand is
    exactly `h²/16`, i.e. `4·√m0 = |h|` -/
theorem scaled_hsE (thr q h : ℚ) (f E : Vec) (hH : 0 < hsE thr q true f E) :
    ∃ E', scaled thr q h f E = some E' ∧ hsE thr q true f E' = h ^ 2 / 16 ∧
      E' = scaleV (h ^ 2 / (16 * hsE thr q true f E)) E :=
  ⟨_, if_neg (not_le.mpr hH), scaled_factor_hsE thr q h f E hH.ne', rfl⟩

/-- without energy (`H ≤ 0`) the code divides by zero: the model returns NaN, never a wrong height -/
theorem scaled_none_iff (thr q h : ℚ) (f E : Vec) :
    scaled thr q h f E = none ↔ hsE thr q true f E ≤ 0 := by
  unfold scaled
  by_cases hH : hsE thr q true f E ≤ 0 <;> simp [hH]

/-- the rescaling factor is non-negative: signs of the bins are kept -/
theorem scaled_nonneg (thr q h : ℚ) (f E E' : Vec) (hE : ∀ x ∈ E, 0 ≤ x) (h' : scaled thr q h f E = some E') :
    ∀ x ∈ E', 0 ≤ x := by
  obtain ⟨hH, rfl⟩ := scaled_some thr q h f E E' h'
  exact scaleV_nonneg _ (by positivity) E hE

/-- the final step shared by `pm`, `jonswap`, `tma` and `gaussian`, on any positive table -/
theorem withHs_spec (thr q h : ℚ) (f E : Vec) (hg : GoodGrid q f) (hE : ∀ x ∈ E, 0 < x)
    (hlen : E.length = f.length) :
    ∃ E', withHs thr q (some h) f E = some E' ∧ hsE thr q true f E' = h ^ 2 / 16 ∧
      (∀ x ∈ E', 0 ≤ x) ∧ (h ≠ 0 → ∀ x ∈ E', 0 < x) ∧ E'.length = f.length := by
  have hH := hsE_pos thr q true f E hg hE hlen
  obtain ⟨E', h1, h2, rfl⟩ := scaled_hsE thr q h f E hH
  exact ⟨_, h1, h2, scaleV_nonneg _ (by positivity) E (nonneg_of_pos hE),
    fun hh => scaleV_pos _ (by positivity) E hE, by rw [scaleV_length, hlen]⟩

/-- without `hs` the table product is returned as is -/
theorem withHs_none (thr q : ℚ) (f E : Vec) : withHs thr q none f E = some E := rfl

/-- **Pierson–Moskowitz** with `hs`: exactly that height, non-negative -/
theorem pm_hs (thr q h : ℚ) (f t1 t2 : Vec) (hg : GoodGrid q f) (h1 : ∀ x ∈ t1, 0 < x) (h2 : ∀ x ∈ t2, 0 < x)
    (l1 : t1.length = f.length) (l2 : t2.length = f.length) :
    ∃ E', pm thr q (some h) f t1 t2 = some E' ∧ hsE thr q true f E' = h ^ 2 / 16 ∧ (∀ x ∈ E', 0 ≤ x) := by
  obtain ⟨E', a, b, c, _⟩ := withHs_spec thr q h f (pmRaw t1 t2) hg (mulV_pos t1 t2 h1 h2)
    (mulV_length _ t1 t2 l1 l2)
  exact ⟨E', a, b, c⟩

theorem jonswapRaw_length (n : Nat) (t1 t2 t3 : Vec) (l1 : t1.length = n) (l2 : t2.length = n) (l3 : t3.length = n) :
    (jonswapRaw t1 t2 t3).length = n :=
  mulV_length n _ t3 (mulV_length n t1 t2 l1 l2) l3

/-- **JONSWAP** with `hs`: exactly that height, non-negative -/
theorem jonswap_hs (thr q h : ℚ) (f t1 t2 t3 : Vec) (hg : GoodGrid q f) (h1 : ∀ x ∈ t1, 0 < x)
    (h2 : ∀ x ∈ t2, 0 < x) (h3 : ∀ x ∈ t3, 0 < x)
    (l1 : t1.length = f.length) (l2 : t2.length = f.length) (l3 : t3.length = f.length) :
    ∃ E', jonswap thr q (some h) f t1 t2 t3 = some E' ∧ hsE thr q true f E' = h ^ 2 / 16 ∧
      (∀ x ∈ E', 0 ≤ x) ∧ (h ≠ 0 → ∀ x ∈ E', 0 < x) ∧ E'.length = f.length :=
  withHs_spec thr q h f (jonswapRaw t1 t2 t3) hg (mulV_pos _ t3 (mulV_pos t1 t2 h1 h2) h3)
    (jonswapRaw_length _ t1 t2 t3 l1 l2 l3)

/-- **TMA** with `hs ≠ 0` (rescaled JONSWAP × depth table, rescaled again): exactly that height,
    non-negative.  (`hs = 0` makes the intermediate spectrum vanish and the second rescaling `0/0`.) -/
theorem tma_hs (thr q h : ℚ) (hh : h ≠ 0) (f t1 t2 t3 phi : Vec) (hg : GoodGrid q f) (h1 : ∀ x ∈ t1, 0 < x)
    (h2 : ∀ x ∈ t2, 0 < x) (h3 : ∀ x ∈ t3, 0 < x) (h4 : ∀ x ∈ phi, 0 < x)
    (l1 : t1.length = f.length) (l2 : t2.length = f.length) (l3 : t3.length = f.length)
    (l4 : phi.length = f.length) :
    ∃ E', tma thr q (some h) f t1 t2 t3 phi = some E' ∧ hsE thr q true f E' = h ^ 2 / 16 ∧
      (∀ x ∈ E', 0 ≤ x) := by
  obtain ⟨J, a, _, _, d, e⟩ := jonswap_hs thr q h f t1 t2 t3 hg h1 h2 h3 l1 l2 l3
  obtain ⟨E', a', b', c', _⟩ := withHs_spec thr q h f (mulV J phi) hg (mulV_pos J phi (d hh) h4)
    (mulV_length _ J phi e l4)
  refine ⟨E', ?_, b', c'⟩
  rw [tma, a]; exact a'

/-- **Gaussian** (always rescaled): exactly the requested height, non-negative -/
theorem gaussian_hs (thr q h : ℚ) (f tg : Vec) (hg : GoodGrid q f) (h1 : ∀ x ∈ tg, 0 < x)
    (l1 : tg.length = f.length) :
    ∃ E', gaussian thr q h f tg = some E' ∧ hsE thr q true f E' = h ^ 2 / 16 ∧ (∀ x ∈ E', 0 ≤ x) := by
  obtain ⟨E', a, b, c, _⟩ := withHs_spec thr q h f tg hg h1 l1
  exact ⟨E', a, b, c⟩

/-- **non-negativity of every shape**, with or without `hs`: positive tables give non-negative bins
    (stated on the common final step `withHs`; `pm/jonswap/tma/gaussian` are instances) -/
theorem shapes_nonneg (thr q : ℚ) (h : Option ℚ) (f E E' : Vec) (hE : ∀ x ∈ E, 0 ≤ x)
    (h' : withHs thr q h f E = some E') : ∀ x ∈ E', 0 ≤ x := by
  cases h with
  | none => cases h'; exact hE
  | some hv => exact scaled_nonneg thr q hv f E E' hE h'

/-- TMA is non-negative as well (two `withHs` steps around a product with a non-negative table) -/
theorem tma_nonneg (thr q : ℚ) (h : Option ℚ) (f t1 t2 t3 phi E' : Vec) (h1 : ∀ x ∈ t1, 0 ≤ x)
    (h2 : ∀ x ∈ t2, 0 ≤ x) (h3 : ∀ x ∈ t3, 0 ≤ x) (h4 : ∀ x ∈ phi, 0 ≤ x)
    (h' : tma thr q h f t1 t2 t3 phi = some E') : ∀ x ∈ E', 0 ≤ x := by
  obtain ⟨J, hj, h'⟩ := Option.bind_eq_some_iff.mp h'
  have hJ : ∀ x ∈ J, 0 ≤ x :=
    shapes_nonneg thr q h f (jonswapRaw t1 t2 t3) J
      (zipWith_mul_nonneg _ _ (zipWith_mul_nonneg t1 t2 h1 h2) h3) hj
  exact shapes_nonneg thr q h f (mulV J phi) E' (zipWith_mul_nonneg J phi hJ h4) h'

/-! ## B. JONSWAP with γ = 1 is Pierson–Moskowitz; TMA with depth factor 1 is JONSWAP -/

theorem mulV_ones (a b : Vec) (hb : ∀ x ∈ b, x = 1) (hl : a.length ≤ b.length) : mulV a b = a := by
  unfold mulV
  induction a generalizing b with
  | nil => simp
  | cons x a ih =>
    cases b with
    | nil => simp at hl
    | cons y b =>
      simp only [List.zipWith_cons_cons]
      rw [hb y (by simp), mul_one, ih b (fun v hv => hb v (List.mem_cons_of_mem _ hv))
        (by simpa using hl)]

/-- `γ = 1` makes the peak-enhancement table identically 1 (`1^x = 1`): the JONSWAP product **is** the
    Pierson–Moskowitz product, with or without rescaling -/
theorem jonswap_gamma1_eq_pm (thr q : ℚ) (h : Option ℚ) (f t1 t2 t3 : Vec) (h3 : ∀ x ∈ t3, x = 1)
    (l3 : (mulV t1 t2).length ≤ t3.length) :
    jonswap thr q h f t1 t2 t3 = pm thr q h f t1 t2 := by
  unfold jonswap pm jonswapRaw pmRaw
  rw [mulV_ones _ t3 h3 l3]

/-- algebraic half of the deep-water statement: if the depth table is identically 1 then TMA **is**
    JONSWAP — the second rescaling of an already rescaled spectrum is the identity (`hs ≠ 0`).
    (That `tanh²(kd)/(1+2kd/sinh 2kd) → 1` is analysis: explored numerically.) -/
theorem tma_phi1_eq_jonswap (thr q : ℚ) (h : Option ℚ) (hh : ∀ hv, h = some hv → hv ≠ 0)
    (f t1 t2 t3 phi : Vec) (hg : GoodGrid q f) (h1 : ∀ x ∈ t1, 0 < x) (h2 : ∀ x ∈ t2, 0 < x)
    (h3 : ∀ x ∈ t3, 0 < x) (h4 : ∀ x ∈ phi, x = 1)
    (l1 : t1.length = f.length) (l2 : t2.length = f.length) (l3 : t3.length = f.length)
    (l4 : phi.length = f.length) :
    tma thr q h f t1 t2 t3 phi = jonswap thr q h f t1 t2 t3 := by
  cases h with
  | none =>
    show withHs thr q none f (mulV (jonswapRaw t1 t2 t3) phi) = _
    rw [mulV_ones _ phi h4 (by rw [jonswapRaw_length _ t1 t2 t3 l1 l2 l3, l4])]; rfl
  | some hv =>
    have hv0 := hh hv rfl
    obtain ⟨J, a, b, _, _, e⟩ := jonswap_hs thr q hv f t1 t2 t3 hg h1 h2 h3 l1 l2 l3
    obtain ⟨E', a', _, rfl⟩ := scaled_hsE thr q hv f J (by rw [b]; positivity)
    rw [tma, a, Option.bind_some, mulV_ones J phi h4 (by rw [e, l4]), withHs, a', b,
      mul_div_cancel₀ _ (by norm_num), div_self (pow_ne_zero 2 hv0), scaleV_one]

/-! ## C. directional spreading: wrap, normalisation, non-negativity -/

theorem absR_sub_comm (a b : ℚ) : absR (a - b) = absR (b - a) := by
  rw [absR_eq_abs, absR_eq_abs, abs_sub_comm]

/-- the code's wrap `dth.where(dth <= 180, 360 − dth)` is the distance to the nearest multiple of 360 -/
theorem dth_eq_wrapDist (d dm : ℚ) : dth d dm = C10.wrapDist (d - dm) := by
  rw [dth, C10.wrapDist, minR_eq_min]
  split_ifs with h
  · exact (min_eq_left (by linarith)).symm
  · exact (min_eq_right (by linarith)).symm

/-- for directions and mean direction on the circle `[0, 360)` — mean direction anywhere, also next to
    0/360 — the wrapped distance is the short-way angular distance: in `[0, 180]`, equal to `|d − dm|`
    or `360 − |d − dm|`, whichever is smaller -/
theorem dth_short_way (d dm : ℚ) (hd : 0 ≤ d ∧ d < 360) (hm : 0 ≤ dm ∧ dm < 360) :
    0 ≤ dth d dm ∧ dth d dm ≤ 180 ∧ dth d dm ≤ absR (d - dm) ∧ dth d dm ≤ 360 - absR (d - dm) ∧
      (dth d dm = absR (d - dm) ∨ dth d dm = 360 - absR (d - dm)) := by
  have h0 := absR_nonneg (d - dm)
  have h1 : absR (d - dm) < 360 := absR_eq_abs _ ▸ abs_sub_lt_of_nonneg_of_lt hd.1 hd.2 hm.1 hm.2
  rw [dth_eq_wrapDist, C10.wrapDist, minR_eq_min]
  refine ⟨le_min h0 (by linarith), min_le_iff.mpr ?_, min_le_left _ _, min_le_right _ _, min_choice _ _⟩
  rcases le_total (absR (d - dm)) 180 with h | h
  · exact Or.inl h
  · exact Or.inr (by linarith)

/-- the wrapped distance is symmetric in its arguments -/
theorem dth_comm (d dm : ℚ) : dth d dm = dth dm d := by
  unfold dth
  rw [absR_sub_comm]

/-- **reflection about the mean direction across the 0/360 seam**: the bin at `d' = 2·dm − d (mod 360)`
    is as far from `dm` as the bin at `d` -/
theorem dth_reflect (d d' dm : ℚ) (k : ℤ) (h : d' = 2 * dm - d + 360 * k)
    (h1 : absR (d - dm) < 360) (h2 : absR (d' - dm) < 360) : dth d' dm = dth d dm := by
  have e : d' - dm = (dm - d) + 360 * (k : ℚ) := by rw [h]; ring
  rw [dth_comm d, dth_eq_wrapDist, dth_eq_wrapDist, e]
  rw [e] at h2
  exact C10.wrapDist_wrap (dm - d) k (absR_sub_comm d dm ▸ h1) h2

/-- the normalisation as one constant: the row is the table times `κ = gsum / R2D` -/
theorem cartwrightRow_eq (pi : ℚ) (t : Vec) : cartwrightRow pi t =
    if t.sum * (2 * pi / (t.length : ℚ)) = 0 ∨ pi = 0 then none
    else some (t.map (· * (1 / (t.sum * (2 * pi / (t.length : ℚ))) / (180 / pi)))) := by
  simp only [cartwrightRow, mul_div_assoc]

theorem cartwrightRow_form (pi : ℚ) (t G : Vec) (hG : cartwrightRow pi t = some G) :
    G = t.map (· * (1 / (t.sum * (2 * pi / (t.length : ℚ))) / (180 / pi))) := by
  rw [cartwrightRow_eq] at hG
  split_ifs at hG
  exact (Option.some.inj hG).symm

theorem length_ne_zero_of_sum_ne_zero (t : Vec) (ht : t.sum ≠ 0) : (t.length : ℚ) ≠ 0 :=
  Nat.cast_ne_zero.mpr fun h => ht (by rw [List.eq_nil_of_length_eq_zero h]; rfl)

/-- **Cartwright normalisation** (`gsum`): for every table whose sum is not zero — every number of
    directions, every mean direction and spread, masked (`under_90`) or not, every value of π — the
    result exists and `Σ_j G_j · (360/n) = 1` -/
theorem cartwright_normalised (pi : ℚ) (hpi : pi ≠ 0) (t : Vec) (ht : t.sum ≠ 0) :
    ∃ G, cartwrightRow pi t = some G ∧ G.length = t.length ∧ G.sum * (360 / (t.length : ℚ)) = 1 := by
  have hn := length_ne_zero_of_sum_ne_zero t ht
  have hden : t.sum * (2 * pi / (t.length : ℚ)) ≠ 0 :=
    mul_ne_zero ht (div_ne_zero (mul_ne_zero two_ne_zero hpi) hn)
  refine ⟨_, (cartwrightRow_eq pi t).trans (if_neg (not_or.mpr ⟨hden, hpi⟩)), List.length_map _, ?_⟩
  rw [sum_map_mul_const]
  field_simp
  norm_num

/-- … hence with the accessor's bin width `Δθ` on a full circle (`Δθ · n = 360`): `Δθ · Σ_j G_j = 1` -/
theorem cartwright_integrates (pi ddv : ℚ) (hpi : pi ≠ 0) (t : Vec) (ht : t.sum ≠ 0)
    (hdd : ddv * (t.length : ℚ) = 360) :
    ∃ G, cartwrightRow pi t = some G ∧ G.length = t.length ∧ ddv * G.sum = 1 := by
  obtain ⟨G, a, b, c⟩ := cartwright_normalised pi hpi t ht
  refine ⟨G, a, b, ?_⟩
  rw [eq_div_of_mul_eq (length_ne_zero_of_sum_ne_zero t ht) hdd, mul_comm]
  exact c

/-- the accessor's `Δθ` of a stored uniform full-circle grid of `n ≥ 2` directions is `360/n` wherever
    the stored sequence starts (also with 0/360 between the first two): `C01.dd_seam` -/
theorem full_circle_dd (a b : ℚ) (rest : Vec) (n : ℕ) (hn : 2 ≤ n)
    (h : absR (b - a) = 360 / (n : ℚ) ∨ absR (b - a) = 360 - 360 / (n : ℚ)) :
    dd (some (a :: b :: rest)) * (n : ℚ) = 360 := by
  have hn' : (2 : ℚ) ≤ n := Nat.ofNat_le_cast.mpr hn
  have hpos : (0 : ℚ) < n := two_pos.trans_le hn'
  have h180 : 360 / (n : ℚ) ≤ 180 :=
    (div_le_iff₀ hpos).mpr (le_trans (by norm_num) (mul_le_mul_of_nonneg_left hn' (by norm_num : (0 : ℚ) ≤ 180)))
  rw [C01.dd_seam a b (360 / (n : ℚ)) rest (div_nonneg (by norm_num) hpos.le) h180 h, div_mul_cancel₀ _ hpos.ne']

/-- **non-negativity**: a non-negative table (`cos^{2s} ≥ 0`, mask `0`) gives a non-negative spreading -/
theorem cartwright_nonneg (pi : ℚ) (hpi : 0 < pi) (t G : Vec) (ht : ∀ x ∈ t, 0 ≤ x)
    (hG : cartwrightRow pi t = some G) : ∀ x ∈ G, 0 ≤ x := by
  rw [cartwrightRow_form pi t G hG]
  intro x hx
  obtain ⟨y, hy, rfl⟩ := List.mem_map.mp hx
  have hs : 0 ≤ t.sum := List.sum_nonneg ht
  exact mul_nonneg (ht y hy) (by positivity)

/-- **asymmetric spreading** is Cartwright with per-frequency mean direction and spread: *every*
    frequency row is normalised and non-negative -/
theorem asymmetric_normalised (pi ddv : ℚ) (hpi : 0 < pi) (T : Mat) (nd : ℕ)
    (hrows : ∀ r ∈ T, r.length = nd ∧ r.sum ≠ 0 ∧ ∀ x ∈ r, 0 ≤ x) (hdd : ddv * (nd : ℚ) = 360) :
    ∀ g ∈ spreadRows pi T, ∃ G, g = some G ∧ G.length = nd ∧ ddv * G.sum = 1 ∧ ∀ x ∈ G, 0 ≤ x := by
  intro g hg
  obtain ⟨r, hr, rfl⟩ := List.mem_map.mp hg
  obtain ⟨hl, hs, hp⟩ := hrows r hr
  obtain ⟨G, a, b, c⟩ := cartwright_integrates pi ddv (ne_of_gt hpi) r hs (by rw [hl]; exact hdd)
  exact ⟨G, a, by rw [b, hl], c, cartwright_nonneg pi hpi r G hp a⟩

/-! ### the direction gradient of `asymmetric` across the 0/360 seam (after fix df979f0) -/

/-- `dd` lies in `[−180, 180)` and differs from `dm − dpm` by a whole number of turns: it **is** the
    short-way signed difference, wherever 0/360 falls -/
theorem asymDd_short_way (dm dpm : ℚ) :
    -180 ≤ asymDd dm dpm ∧ asymDd dm dpm < 180 ∧ ∃ k : ℤ, asymDd dm dpm = dm - dpm - 360 * k := by
  unfold asymDd
  obtain ⟨h1, h2⟩ := C10.pmod_range (dm - dpm + 180) 360 (by norm_num)
  refine ⟨by linarith, by linarith, ((dm - dpm + 180) / 360).floor, ?_⟩
  unfold pmod; ring

/-- away from the seam nothing changed: for `|dm − dpm| < 180` the gradient uses `dm − dpm` itself -/
theorem asymDd_plain (dm dpm : ℚ) (h1 : -180 ≤ dm - dpm) (h2 : dm - dpm < 180) : asymDd dm dpm = dm - dpm := by
  unfold asymDd
  rw [pmod_eq_self (by linarith) (by linarith)]; ring

/-- directions are labels on the circle: adding whole turns to `dm` or to `dpm` does not change `dd` -/
theorem asymDd_periodic (dm dpm : ℚ) (k l : ℤ) : asymDd (dm + 360 * k) (dpm + 360 * l) = asymDd dm dpm := by
  unfold asymDd
  have : dm + 360 * (k : ℚ) - (dpm + 360 * (l : ℚ)) + 180 = (dm - dpm + 180) + 360 * ((k - l : ℤ) : ℚ) := by
    push_cast; ring
  rw [this, pmod_add_mul_int _ 360 _ (by norm_num)]

/-- **full-strength seam statement for `asymmetric`**: the per-frequency mean direction is the same
    whether the requested mean direction is given as `dm` or as `dm ± 360·k` — in particular
    `(dm, dpm) = (1°, 359°)` is treated as `(361°, 359°)`: two degrees apart, not 358 -/
theorem asymTheta_dm_periodic (lo hi dfmin dm dpm fm fp : ℚ) (k : ℤ) (f : Vec) :
    asymTheta lo hi dfmin (dm + 360 * k) dpm fm fp f = asymTheta lo hi dfmin dm dpm fm fp f := by
  unfold asymTheta
  have := asymDd_periodic dm dpm k 0
  simp only [Int.cast_zero, mul_zero, add_zero] at this
  rw [this]

/-- the witness of the former finding: `dm = 1°, dpm = 359°` gives the gradient `+2°`, not `−358°` -/
example : asymDd 1 359 = 2 ∧ asymDd 359 1 = -2 ∧ asymDd 11 9 = 2 := by decide +kernel

/-- the per-frequency parameters of `asymmetric` coincide with the Cartwright ones when mean and peak
    parameters agree (`dm = dpm ≥ 0`, `dspr = dpspr ≥ smin`): asymmetric **reduces to** Cartwright -/
theorem asymmetric_reduces (lo hi dfmin smin : ℚ) (hlo : lo ≤ 1) (hhi : 1 ≤ hi) (dm dspr fm fp : ℚ)
    (hdm : 0 ≤ dm) (hds : smin ≤ dspr) (hds0 : 0 ≤ dspr) (f : Vec) :
    asymTheta lo hi dfmin dm dm fm fp f = f.map (fun _ => dm) ∧
    asymSigma lo hi dfmin smin dspr dspr fm fp f = f.map (fun _ => dspr) := by
  -- without a gradient (`dd = 0`, `ds = 0`) every bin gets the peak value, which the limiters
  -- `lo·x ≤ · ≤ hi·x` and `smin ≤ ·` leave alone
  constructor
  · simp only [asymTheta, asymDd_plain dm dm (by simp) (by simp), sub_self, zero_div, zero_mul, add_zero,
      maxR_eq_max, minR_eq_min, max_eq_right (mul_le_of_le_one_left hdm hlo),
      min_eq_right (le_mul_of_one_le_left hdm hhi)]
  · simp only [asymSigma, sub_self, maxR_eq_max, minR_eq_min, max_self, zero_div, zero_mul, add_zero,
      min_eq_right (le_mul_of_one_le_left hds0 hhi), max_eq_right (mul_le_of_le_one_left hds0 hlo), if_pos hds]

/-! ## D. the 2-D spectrum `shape ⊗ spreading` -/

/-- **`construct_partition` integrates back to the 1-D shape**: if every spreading row exists and
    integrates to one with the accessor's `Δθ`, then `oned(efth1d · spread) = efth1d` -/
theorem construct_integrates (ddv : ℚ) (nd : ℕ) (shape : Vec) (G : List (Option Vec))
    (hlen : shape.length ≤ G.length) (hG : ∀ g ∈ G, ∃ r, g = some r ∧ ddv * r.sum = 1) :
    oned ddv (outerRows nd shape G) = shape := by
  unfold oned outerRows
  induction shape generalizing G with
  | nil => simp
  | cons a shape ih =>
    cases G with
    | nil => simp at hlen
    | cons g G =>
      obtain ⟨r, rfl, hr⟩ := hG g (by simp)
      simp only [List.zipWith_cons_cons, List.map_cons]
      rw [ih G (by simpa using hlen) (fun g hg => hG g (List.mem_cons_of_mem _ hg)), sum_map_const_mul,
        mul_left_comm, hr, mul_one]

theorem constRows_mem {α} (n : ℕ) (g x : α) (h : x ∈ constRows n g) : x = g := by
  unfold constRows at h; exact List.eq_of_mem_replicate h

/-- a shape built with `hs`, spread with a normalised spreading: the **2-D spectrum has exactly the
    requested significant height** when measured by the accessor -/
theorem construct_hs (thr q ddv h : ℚ) (nd : ℕ) (f shape : Vec) (G : List (Option Vec))
    (hshape : hsE thr q true f shape = h ^ 2 / 16)
    (hlen : shape.length ≤ G.length) (hG : ∀ g ∈ G, ∃ r, g = some r ∧ ddv * r.sum = 1) :
    hsE thr q true f (oned ddv (outerRows nd shape G)) = h ^ 2 / 16 := by
  rw [construct_integrates ddv nd shape G hlen hG, hshape]

theorem outerRows_const (nd : ℕ) (shape G : Vec) :
    outerRows nd shape (constRows shape.length (some G)) = shape.map fun a => G.map (a * ·) := by
  rw [outerRows, constRows, ← List.map_const', List.zipWith_map_right, List.zipWith_self]

theorem momdRow_outer (ddv : ℚ) (nd : ℕ) (shape G t : Vec) :
    momdRow ddv t (outerRows nd shape (constRows shape.length (some G))) =
      scaleV (List.zipWith (fun x y => ddv * x * y) G t).sum shape := by
  rw [momdRow, outerRows_const, List.map_map, scaleV]
  apply List.map_congr_left
  intro a _
  rw [mul_comm]
  exact sum_zipWith_map_left (fun x y => ddv * x * y) (a * ·) a (fun x y => by ring) G t

theorem oned_outer (ddv : ℚ) (nd : ℕ) (shape G : Vec) :
    oned ddv (outerRows nd shape (constRows shape.length (some G))) = scaleV (ddv * G.sum) shape := by
  rw [oned, outerRows_const, List.map_map, scaleV]
  apply List.map_congr_left
  intro a _
  rw [Function.comp, sum_map_const_mul, mul_left_comm, mul_comm]

theorem dmVec_outer (ddv : ℚ) (nd : ℕ) (shape G s c : Vec) :
    dmVec ddv s c (outerRows nd shape (constRows shape.length (some G))) =
      (shape.sum * (List.zipWith (fun x y => ddv * x * y) G s).sum,
       shape.sum * (List.zipWith (fun x y => ddv * x * y) G c).sum) := by
  rw [dmVec, momdRow_outer, momdRow_outer, sum_scaleV, sum_scaleV]
  exact congrArg₂ Prod.mk (mul_comm _ _) (mul_comm _ _)

/-- the accessor's `dspr` ingredients `(a, b, e)` of `shape ⊗ G` are `m0 · (A, B, I)` with `A, B, I` the
    sine/cosine moments and the integral of the spreading alone: **the measured spread does not depend on
    the frequency shape** (what remains — `√(A²+B²) = s/(s+1)` for the sampled `cos^{2s}` — is analysis) -/
theorem dsprABE_outer (ddv : ℚ) (nd : ℕ) (f shape G s c : Vec) :
    dsprABE ddv s c f (outerRows nd shape (constRows shape.length (some G))) =
      (dot shape (df f) * (List.zipWith (fun x y => ddv * x * y) G s).sum,
       dot shape (df f) * (List.zipWith (fun x y => ddv * x * y) G c).sum,
       dot shape (df f) * (ddv * G.sum)) := by
  rw [dsprABE, momdRow_outer, momdRow_outer, oned_outer, dot_scaleV_left, dot_scaleV_left, dot_scaleV_left]
  exact congrArg₂ Prod.mk (mul_comm _ _) (congrArg₂ Prod.mk (mul_comm _ _) (mul_comm _ _))

theorem sum_neg_of_forall₂ (F : ℚ → ℚ) (l l' : Vec) (h : List.Forall₂ (fun d d' => F d' = -F d) l l') :
    (l'.map F).sum = -(l.map F).sum := by
  induction h with
  | nil => simp
  | cons hab _ ih => simp only [List.map_cons, List.sum_cons, ih, hab]; ring

/-- **symmetry ⇒ no moment across the requested direction.**  `φ` is any function of the wrapped distance
    (the `cos^{2s}` table, masked or not), `ψ` any function of direction (the sine about `dm`).  If the
    stored direction grid is mapped onto itself by the reflection `d ↦ 2·dm − d (mod 360)` — a
    permutation `dirs'` of the bins, which may cross the 0/360 seam — and `ψ` changes sign under it, then
    `Σ_j φ(dth_j) ψ(d_j) = 0`. -/
theorem dm_symmetric (φ ψ : ℚ → ℚ) (dm : ℚ) (dirs dirs' : Vec) (hperm : dirs'.Perm dirs)
    (hrefl : List.Forall₂ (fun d d' => (∃ k : ℤ, d' = 2 * dm - d + 360 * k) ∧ absR (d - dm) < 360 ∧
      absR (d' - dm) < 360 ∧ ψ d' = -ψ d) dirs dirs') :
    (dirs.map fun d => φ (dth d dm) * ψ d).sum = 0 := by
  have h1 : (dirs'.map fun d => φ (dth d dm) * ψ d).sum = (dirs.map fun d => φ (dth d dm) * ψ d).sum :=
    (hperm.map _).sum_eq
  have h2 := sum_neg_of_forall₂ (fun d => φ (dth d dm) * ψ d) dirs dirs'
    (hrefl.imp fun d d' ⟨⟨k, hk⟩, ha, hb, hc⟩ => by
      show φ (dth d' dm) * ψ d' = -(φ (dth d dm) * ψ d)
      rw [dth_reflect d d' dm k hk ha hb, hc]; ring)
  exact self_eq_neg.mp (h1.symm.trans h2)

/-- the component across `(Cm, Sm)` of the moment vector of a spreading `g(d)` sampled on `dirs` -/
theorem across_moment (ddv Cm Sm : ℚ) (g sf cf : ℚ → ℚ) (dirs : Vec) :
    (List.zipWith (fun x y => ddv * x * y) (dirs.map g) (dirs.map sf)).sum * Cm -
      (List.zipWith (fun x y => ddv * x * y) (dirs.map g) (dirs.map cf)).sum * Sm =
      ddv * (dirs.map fun d => g d * (sf d * Cm - cf d * Sm)).sum := by
  induction dirs with
  | nil => simp
  | cons d dirs ih =>
    simp only [List.map_cons, List.zipWith_cons_cons, List.sum_cons]
    linear_combination ih

/-- **measured mean direction = requested one, also across the 0/360 seam.**  A shape times a Cartwright
    spreading about `dm`, on a direction grid that the reflection about `dm` maps onto itself: the
    accessor's moment vector `(msin, mcos)` has no component across the requested direction
    `(Cm, Sm) = (cos, sin)(270° − dm)`, i.e. it is parallel to it.  (`sf, cf` are the accessor's sine and
    cosine tables as functions of direction; the hypothesis on them is the addition theorem of the sine,
    stated on the reflected bins.)  With `construct_dm_same_side` the vector points the same way, so
    `atan2` returns the requested angle. -/
theorem construct_dm_symmetric (pi ddv : ℚ) (φ sf cf : ℚ → ℚ) (dm Cm Sm : ℚ) (dirs dirs' shape G : Vec)
    (hG : cartwrightRow pi (dirs.map fun d => φ (dth d dm)) = some G)
    (hperm : dirs'.Perm dirs)
    (hrefl : List.Forall₂ (fun d d' => (∃ k : ℤ, d' = 2 * dm - d + 360 * k) ∧ absR (d - dm) < 360 ∧
      absR (d' - dm) < 360 ∧ sf d' * Cm - cf d' * Sm = -(sf d * Cm - cf d * Sm)) dirs dirs') :
    (dmVec ddv (dirs.map sf) (dirs.map cf)
        (outerRows dirs.length shape (constRows shape.length (some G)))).1 * Cm -
      (dmVec ddv (dirs.map sf) (dirs.map cf)
        (outerRows dirs.length shape (constRows shape.length (some G)))).2 * Sm = 0 := by
  -- the normalised row is still a function of the wrapped distance: `φ(dth) · κ`
  generalize hκ : (1 / ((dirs.map fun d => φ (dth d dm)).sum *
    (2 * pi / ((dirs.map fun d => φ (dth d dm)).length : ℚ))) / (180 / pi)) = κ
  have h0 := across_moment ddv Cm Sm (fun d => φ (dth d dm) * κ) sf cf dirs
  rw [dm_symmetric (fun x => φ x * κ) (fun d => sf d * Cm - cf d * Sm) dm dirs dirs' hperm hrefl, mul_zero] at h0
  rw [dmVec_outer, cartwrightRow_form pi _ G hG, hκ]
  simp only [List.map_map, Function.comp_def]
  linear_combination shape.sum * h0

/-- … and it points the same way: the component *along* the requested direction is positive as soon as
    the shape has energy and the cosine moment of the spreading about `dm` is positive -/
theorem construct_dm_same_side (ddv : ℚ) (nd : ℕ) (shape G s c : Vec) (Cm Sm : ℚ)
    (hshape : 0 < shape.sum)
    (hcos : 0 < (List.zipWith (fun x y => ddv * x * y) G c).sum * Cm +
      (List.zipWith (fun x y => ddv * x * y) G s).sum * Sm) :
    0 < (dmVec ddv s c (outerRows nd shape (constRows shape.length (some G)))).2 * Cm +
      (dmVec ddv s c (outerRows nd shape (constRows shape.length (some G)))).1 * Sm := by
  rw [dmVec_outer]
  show 0 < shape.sum * _ * Cm + shape.sum * _ * Sm
  rw [mul_assoc, mul_assoc, ← mul_add]
  exact mul_pos hshape hcos

/-! ## E. numpy twins (`core/npstats.py`) -/

theorem trapz_smul (k : ℚ) (d E : Vec) : trapz d (scaleV k E) = k * trapz d E := by
  induction d generalizing E with
  | nil => cases E <;> simp [trapz]
  | cons x d ih =>
    match E with
    | [] | [a] => simp [trapz, scaleV]
    | a :: b :: rest =>
      have := ih (b :: rest)
      simp only [scaleV, List.map_cons, trapz] at this ⊢
      rw [this]; ring

theorem npHsE_smul (thr q : ℚ) (tail : Bool) (k : ℚ) (f E : Vec) :
    npHsE thr q tail f (scaleV k E) = k * npHsE thr q tail f E := by
  unfold npHsE
  rw [trapz_smul, lastD_scaleV]
  split <;> ring

/-- `npstats.jonswap(…, hsig)` has exactly the requested height **as measured by its own twin**
    `npstats.hs` (trapezoid rule).  Measured by the accessor it differs by the half end-bin weights
    (`C01`): the check reports that difference as an observation. -/
theorem npJonswap_hs (thr q h : ℚ) (f t1 t2 t3 : Vec) (hH : 0 < npHsE thr q true f (jonswapRaw t1 t2 t3)) :
    ∃ E', npJonswap thr q (some h) f t1 t2 t3 = some E' ∧ npHsE thr q true f E' = h ^ 2 / 16 := by
  refine ⟨_, if_neg (not_le.mpr hH), ?_⟩
  rw [npHsE_smul, div_mul_eq_mul_div, mul_div_mul_right _ _ hH.ne']

/-- both JONSWAP implementations are the same table product: they differ by one constant factor -/
theorem npJonswap_proportional (thr q h : ℚ) (f t1 t2 t3 E En : Vec)
    (h1 : jonswap thr q (some h) f t1 t2 t3 = some E) (h2 : npJonswap thr q (some h) f t1 t2 t3 = some En) :
    ∃ k1 k2 : ℚ, E = scaleV k1 (jonswapRaw t1 t2 t3) ∧ En = scaleV k2 (jonswapRaw t1 t2 t3) := by
  simp only [npJonswap] at h2
  split_ifs at h2
  exact ⟨_, _, (scaled_some thr q h f _ E h1).2, (Option.some.inj h2).symm⟩

/-! ## F. T-tier: the literals of the repository's constructors are the constants of the statements -/

theorem lits_frequency :
    Gen.lits_construct_pm = [K.alpha, 2, 2, 4, 5, 5/4, 4] ∧
    Gen.lits_construct_jonswap = [K.alpha, K.gamma, K.sigmaA, K.sigmaB, 2, 2, 4, 5, 5, 4, 4, 2, 2, 2, 2] ∧
    Gen.lits_construct_tma = [K.alpha, K.gamma, K.sigmaA, K.sigmaB, 2, 1, 2, 2] ∧
    Gen.lits_construct_gaussian = [4, 2, 2, 1/2, 2] ∧
    Gen.lits_utils_scaled = [2] := ⟨rfl, rfl, rfl, rfl, rfl⟩

theorem lits_direction :
    Gen.lits_construct_cartwright = [180, 360, 2, 2, 1, 1/2, 2, 90, 0, 1, 2] ∧
    Gen.lits_construct_asymmetric = [180, 360, 180, 0, K.dfmin, K.hi, K.lo, K.lo, K.hi, K.smin, K.smin] ∧
    Gen.lits_construct_partition = [0] := ⟨rfl, rfl, rfl⟩

theorem lits_twins :
    Gen.lits_npstats_jonswap = [K.gamma, K.alpha, K.sigmaA, K.sigmaB, 2, 2, 4, 5, 5, 4, 4, 2, 2, 2, 2, 2] ∧
    Gen.lits_npstats_gaussian = [4, 2, 2, 1/2, 2] := ⟨rfl, rfl⟩

/-- `(hs / (4·√H))² = hs²/(16·H)`: the `4` of `SpecArray.hs` is the `16` of the model's factor -/
theorem lits_hs_four : Gen.lits_specarray_hs.getLast? = some 4 ∧ (4 : ℚ) ^ 2 = 16 := ⟨rfl, by norm_num⟩

/-! ## non-vacuity: the hypotheses are satisfiable on concrete, non-trivial inputs -/

section Examples

/-- irregular grid, last frequency above the tail threshold 0.333 (the tail term is active) -/
private def fE : Vec := [1/10, 1/5, 2/5]
private def t1E : Vec := [3, 2, 1]
private def t2E : Vec := [1/2, 1, 1/4]
private def t3E : Vec := [1, 2, 1]
private def phiE : Vec := [1/2, 3/4, 1]
private def onesE : Vec := [1, 1, 1]
private def thrE : ℚ := 333/1000
/-- a normalised spreading on 4 directions with `Δθ = 90`: `90 · Σ G = 1` -/
private def gE : Vec := [1/180, 1/360, 1/360, 0]

/-- (example input) the grid `fE` satisfies the standing hypotheses -/
theorem example_good_grid : GoodGrid (1/4) fE :=
  ⟨by decide, by decide +kernel, by decide +kernel, by norm_num⟩

theorem example_t1_pos : ∀ x ∈ t1E, 0 < x := by decide +kernel
theorem example_t2_pos : ∀ x ∈ t2E, 0 < x := by decide +kernel
theorem example_t3_pos : ∀ x ∈ t3E, 0 < x := by decide +kernel
theorem example_phi_pos : ∀ x ∈ phiE, 0 < x := by decide +kernel
theorem example_pm_pos : ∀ x ∈ pmRaw t1E t2E, 0 < x := mulV_pos _ _ example_t1_pos example_t2_pos

example : hsE thrE (1/4) true fE (pmRaw t1E t2E) = 21/40 := by decide +kernel
example := scaled_factor_hsE thrE (1/4) 3 fE (pmRaw t1E t2E) (by decide +kernel)
example := scaled_hsE thrE (1/4) 3 fE (pmRaw t1E t2E) (by decide +kernel)
example : scaled thrE (1/4) 3 fE (pmRaw t1E t2E) = some [45/28, 15/7, 15/56] := by decide +kernel
example := scaled_nonneg thrE (1/4) 3 fE (pmRaw t1E t2E) [45/28, 15/7, 15/56] (nonneg_of_pos example_pm_pos)
  (by decide +kernel)
example : scaled thrE (1/4) 3 fE [0, 0, 0] = none := (scaled_none_iff _ _ _ _ _).mpr (by decide +kernel)
example := hsE_pos thrE (1/4) true fE (pmRaw t1E t2E) example_good_grid example_pm_pos rfl
example := withHs_spec thrE (1/4) 3 fE (pmRaw t1E t2E) example_good_grid example_pm_pos rfl
example := pm_hs thrE (1/4) 3 fE t1E t2E example_good_grid example_t1_pos example_t2_pos rfl rfl
example := jonswap_hs thrE (1/4) 3 fE t1E t2E t3E example_good_grid example_t1_pos example_t2_pos example_t3_pos
  rfl rfl rfl
example := tma_hs thrE (1/4) 3 (by norm_num) fE t1E t2E t3E phiE example_good_grid example_t1_pos example_t2_pos
  example_t3_pos example_phi_pos rfl rfl rfl rfl
example := gaussian_hs thrE (1/4) 3 fE t2E example_good_grid example_t2_pos rfl
-- the values, computed: each shape built with hs = 3 has radicand 9/16
example : (pm thrE (1/4) (some 3) fE t1E t2E).map (hsE thrE (1/4) true fE) = some (9/16) ∧
    (jonswap thrE (1/4) (some 3) fE t1E t2E t3E).map (hsE thrE (1/4) true fE) = some (9/16) ∧
    (tma thrE (1/4) (some 3) fE t1E t2E t3E phiE).map (hsE thrE (1/4) true fE) = some (9/16) ∧
    (gaussian thrE (1/4) 3 fE t2E).map (hsE thrE (1/4) true fE) = some (9/16) := by decide +kernel
example := shapes_nonneg thrE (1/4) (some 3) fE (pmRaw t1E t2E) [45/28, 15/7, 15/56] (nonneg_of_pos example_pm_pos)
  (by decide +kernel)
example : tma thrE (1/4) (some 3) fE t1E t2E t3E phiE = some [45/64, 45/16, 15/64] := by decide +kernel
example := tma_nonneg thrE (1/4) (some 3) fE t1E t2E t3E phiE [45/64, 45/16, 15/64] (nonneg_of_pos example_t1_pos)
  (nonneg_of_pos example_t2_pos) (nonneg_of_pos example_t3_pos) (nonneg_of_pos example_phi_pos) (by decide +kernel)
example := jonswap_gamma1_eq_pm thrE (1/4) (some 3) fE t1E t2E onesE (by decide +kernel) (by decide +kernel)
example := tma_phi1_eq_jonswap thrE (1/4) (some 3) (by intro hv h; cases h; norm_num) fE t1E t2E t3E onesE example_good_grid
  example_t1_pos example_t2_pos example_t3_pos (by decide +kernel) rfl rfl rfl rfl

-- wrap across the seam: 350° is 15° away from 5°; the bin 340° mirrors the bin 10° about dm = 355°
example := dth_short_way 350 5 (by norm_num) (by norm_num)
example : dth 350 5 = 15 ∧ dth 5 350 = 15 ∧ dth 10 355 = 15 ∧ dth 340 355 = 15 := by decide +kernel
example := dth_reflect 10 340 355 (-1) (by norm_num) (by decide +kernel) (by decide +kernel)

-- normalisation (π = 22/7: the statements hold for every value of π)
example := cartwright_normalised (22/7) (by norm_num) [1, 3, 1, 0] (by decide +kernel)
example := cartwright_integrates (22/7) 90 (by norm_num) [1, 3, 1, 0] (by decide +kernel) (by norm_num)
example : cartwrightRow (22/7) [1, 3, 1, 0] = some [1/450, 1/150, 1/450, 0] := by decide +kernel
example := cartwright_nonneg (22/7) (by norm_num) [1, 3, 1, 0] [1/450, 1/150, 1/450, 0] (by decide +kernel)
  (by decide +kernel)
-- stored grid starting at 315°, seam between the first two directions: Δθ is still 90
example := full_circle_dd 315 45 [135, 225] 4 (by norm_num) (Or.inr (by decide +kernel))
example := asymmetric_normalised (22/7) 90 (by norm_num) [[1, 3, 1, 0], [0, 2, 2, 1]] 4 (by decide +kernel)
  (by norm_num)
example := asymmetric_reduces K.lo K.hi K.dfmin K.smin (by decide +kernel) (by decide +kernel) 30 20 (3/25) (1/10)
  (by norm_num) (by decide +kernel) (by norm_num) fE

example : (90 : ℚ) * gE.sum = 1 := by decide +kernel
example := construct_integrates 90 4 [1, 3, 2] (constRows 3 (some gE)) (by decide)
  (fun g hg => ⟨gE, constRows_mem _ _ _ hg, by decide +kernel⟩)
example : ∃ E', pm thrE (1/4) (some 3) fE t1E t2E = some E' ∧
    hsE thrE (1/4) true fE (oned 90 (outerRows 4 E' (constRows 3 (some gE)))) = 3 ^ 2 / 16 := by
  obtain ⟨E', a, b, _, _, l⟩ := withHs_spec thrE (1/4) 3 fE (pmRaw t1E t2E) example_good_grid example_pm_pos rfl
  exact ⟨E', a, construct_hs thrE (1/4) 90 3 4 fE E' _ b (by rw [l]; decide)
    (fun g hg => ⟨gE, constRows_mem _ _ _ hg, by decide +kernel⟩)⟩

/-- the accessor's tables on the grid 0, 90, 180, 270: `sin(270° − d)`, `cos(270° − d)` -/
private def sfE (d : ℚ) : ℚ := if d = 0 then -1 else if d = 180 then 1 else 0
private def cfE (d : ℚ) : ℚ := if d = 90 then -1 else if d = 270 then 1 else 0
/-- any function of the wrapped distance -/
private def phE (x : ℚ) : ℚ := 180 - x
private def dirsE : Vec := [0, 90, 180, 270]
/-- reflection about `dm = 315°` — **across the 0/360 seam**: 0 ↔ 270, 90 ↔ 180 -/
private def dirsE' : Vec := [270, 180, 90, 0]

/-- (example input) the reflection about 315° permutes the bins 0, 90, 180, 270 across the seam -/
theorem example_reflection_across_seam : List.Forall₂ (fun (d d' : ℚ) => (∃ k : ℤ, d' = 2 * 315 - d + 360 * k) ∧ absR (d - 315) < 360 ∧
    absR (d' - 315) < 360 ∧ sfE d' * 1 - cfE d' * (-1) = -(sfE d * 1 - cfE d * (-1))) dirsE dirsE' :=
  .cons ⟨⟨-1, by norm_num⟩, by decide +kernel⟩
  (.cons ⟨⟨-1, by norm_num⟩, by decide +kernel⟩
  (.cons ⟨⟨-1, by norm_num⟩, by decide +kernel⟩
  (.cons ⟨⟨-1, by norm_num⟩, by decide +kernel⟩ .nil)))

example : dirsE'.Perm dirsE := by decide
example := dm_symmetric phE (fun d => sfE d * 1 - cfE d * (-1)) 315 dirsE dirsE' (by decide) example_reflection_across_seam
example : cartwrightRow (22/7) (dirsE.map fun d => phE (dth d 315)) = some [1/240, 1/720, 1/720, 1/240] := by
  decide +kernel
/-- requested direction 315° = direction vector `(cos, sin)(−45°) ∝ (1, −1)`: the measured vector is parallel -/
example := construct_dm_symmetric (22/7) 90 phE sfE cfE 315 1 (-1) dirsE dirsE' [1, 3, 2]
  [1/240, 1/720, 1/720, 1/240] (by decide +kernel) (by decide) example_reflection_across_seam
example : dmVec 90 (dirsE.map sfE) (dirsE.map cfE)
    (outerRows 4 [1, 3, 2] (constRows 3 (some [1/240, 1/720, 1/720, 1/240]))) = (-3/2, 3/2) := by decide +kernel
example := construct_dm_same_side 90 4 [1, 3, 2] [1/240, 1/720, 1/720, 1/240] (dirsE.map sfE) (dirsE.map cfE) 1 (-1)
  (by norm_num) (by decide +kernel)

example : 0 < npHsE thrE (1/4) true fE (jonswapRaw t1E t2E t3E) := by decide +kernel
example := npJonswap_hs thrE (1/4) 3 fE t1E t2E t3E (by decide +kernel)
example : (npJonswap thrE (1/4) (some 3) fE t1E t2E t3E).map (npHsE thrE (1/4) true fE) = some (9/16) ∧
    (npJonswap thrE (1/4) (some 3) fE t1E t2E t3E).map (hsE thrE (1/4) true fE) = some (297/464) := by decide +kernel
example := npJonswap_proportional thrE (1/4) 3 fE t1E t2E t3E [45/44, 30/11, 15/88] [135/116, 90/29, 45/232]
  (by decide +kernel) (by decide +kernel)

end Examples

end WS.C15
