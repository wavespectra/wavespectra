import WsVerif.Model.IO.Swan
import WsVerif.Model.IO.Octopus
import WsVerif.Model.IO.Pack
import WsVerif.Model.IO.WW3
import WsVerif.Model.IO.Funwave
import WsVerif.Lemmas.Round
import WsVerif.Lemmas.Instruments
import WsVerif.Props.C10
import WsVerif.Gen.Lits
import WsVerif.Gen.Fmts
import Mathlib.Data.List.Basic
import Mathlib.Data.List.Sort
/-!
# C11 — writing a dataset and reading it back returns the same spectra

Property theorems on the file-format models (`Model/IO/*`), at the level of numbers and orderings
(formatting and parsing are runtime behaviour, DESIGN §1.5-3).  Every statement holds for every grid
size, every number of locations / time steps and every chunk size.
-/
namespace WS.C11
open WS WS.IO

/-! ## A. decimal rounding (re-exported from `Lemmas/Round`) -/

/-- `%5.0f`, `np.around`: rounding half to even moves a value by at most ½ -/
theorem round_half_even_err (x : ℚ) : |((rhe x : ℤ) : ℚ) - x| ≤ 1 / 2 := rhe_err x

/-- `'%.{d}f'` moves a value by at most half a unit of the last decimal -/
theorem fixed_point_err (d : Nat) (x : ℚ) : |quant d x - x| ≤ 1 / (2 * pow10 d) := quant_err d x

/-- the exponent search used for `'%0.8E'` returns the decimal exponent of every positive number -/
theorem decimal_exponent_found (x : ℚ) (hx : 0 < x) :
    pow10i (decExp x) ≤ x ∧ x < pow10i (decExp x + 1) := decExp_spec x hx

/-- `'%0.8E'` (nine significant digits): relative error at most `5·10⁻⁹` -/
theorem nine_digit_err (x : ℚ) (hx : 0 < x) : |sig9 x - x| ≤ x * (5 / 1000000000) := sig9_err x hx

/-! ## B. SWAN ASCII: numbers -/
section SwanNumbers
open Swan

/-- one bin of a `FACTOR` block: with `fac = max/9998`, any printed factor `facP` and `0 ≤ x ≤ max`,
    the count is in `0..9998` and the value read back is within `fac/2 + 9998·|facP − fac|` of `x`:
    half a grid step of `fac`, plus the count times the error of the printed factor -/
theorem swan_bin (fac facP x : ℚ) (hfac : 0 < fac) (hx0 : 0 ≤ x) (hx : x ≤ maxCount * fac) :
    0 ≤ rhe (x / fac) ∧ rhe (x / fac) ≤ 9998 ∧
      |decBin fac facP x - x| ≤ fac / 2 + 9998 * |facP - fac| := by
  obtain ⟨h0, h1⟩ := rhe_grid_mem fac x 0 9998 hfac (by rwa [Int.cast_zero, zero_mul])
    (by rwa [Int.cast_ofNat])
  refine ⟨h0, h1, ?_⟩
  have hq0 : (0 : ℚ) ≤ (rhe (x / fac) : ℤ) := Int.cast_nonneg h0
  have hq1 : ((rhe (x / fac) : ℤ) : ℚ) ≤ 9998 := by rw [← Int.cast_ofNat]; exact Int.cast_le.mpr h1
  have e : decBin fac facP x - x = (rhe (x / fac) * fac - x) + rhe (x / fac) * (facP - fac) := by
    rw [decBin, mul_sub, sub_add_sub_cancel']
  rw [e]
  refine (abs_add_le _ _).trans (add_le_add (rhe_grid_err fac x hfac) ?_)
  rw [abs_mul, abs_of_nonneg hq0]
  exact mul_le_mul_of_nonneg_right hq1 (abs_nonneg _)

/-- with the factor printed by `'%0.8E'` the bound is `fac·(½ + 5·10⁻⁵)`, i.e. just above `max/19996` -/
theorem swan_bin_sig9 (fac x : ℚ) (hfac : 0 < fac) (hx0 : 0 ≤ x) (hx : x ≤ maxCount * fac) :
    |decBin fac (sig9 fac) x - x| ≤ fac * (1 / 2 + 5 / 100000) := by
  linarith [(swan_bin fac (sig9 fac) x hfac hx0 hx).2.2, sig9_err fac hfac]

/-- every value `0 ≤ v < 9999.5` is printed by `%5.0f` as a number below `10⁴`: at most four digits, so the
    5-wide fields of a row stay blank-separated -/
theorem swan_field_fits (v : ℚ) (h0 : 0 ≤ v) (h1 : v < 9999 + 1 / 2) : 0 ≤ rhe v ∧ rhe v < 10 ^ 4 :=
  ⟨le_rhe v 0 (by rwa [Int.cast_zero]),
    rhe_lt v _ (by rw [← lt_sub_iff_add_lt]; exact h1.trans_eq (by norm_num))⟩

/-- header resolutions: positions `%0.6f` within `5·10⁻⁷`°, frequencies `%11.5f` within `5·10⁻⁶` Hz,
    directions `%11.4f` within `5·10⁻⁵`° -/
theorem swan_header_resolution (x : ℚ) :
    |quant 6 x - x| ≤ 5 / 10 ^ 7 ∧ |quant 5 x - x| ≤ 5 / 10 ^ 6 ∧ |quant 4 x - x| ≤ 5 / 10 ^ 5 :=
  ⟨(quant_err 6 x).trans_eq (by norm_num [pow10]), (quant_err 5 x).trans_eq (by norm_num [pow10]),
    (quant_err 4 x).trans_eq (by norm_num [pow10])⟩

/-- every bin of a NaN-free spectrum is at most `spec.max()` -/
theorem le_specMax (m : Mat) (r : Vec) (hr : r ∈ m) (x : ℚ) (hx : x ∈ r) : x ≤ specMax m :=
  (le_maxD m.flatten _).2 x (List.mem_flatten.mpr ⟨r, hr, hx⟩)

theorem specMax_le (m : Mat) (b : ℚ) (hb : 0 ≤ b) (h : ∀ r ∈ m, ∀ x ∈ r, x ≤ b) : specMax m ≤ b := by
  have hall : ∀ x ∈ m.flatten, x ≤ b := fun x hx =>
    let ⟨r, hr, hxr⟩ := List.mem_flatten.mp hx
    h r hr x hxr
  refine (maxD_le_iff _ _ b).mpr ⟨?_, hall⟩
  cases hm : m.flatten with
  | nil => exact hb
  | cons a t => exact hall a (hm ▸ List.mem_cons_self)

/-- **SWAN round trip of a spectrum with data** (no NaN, positive maximum, non-negative bins): the block is a
    `FACTOR` block, it is read back bin for bin as `round(x/fac)·fac'`, and every bin is within
    `fac/2 + 9998·|fac' − fac| ≤ fac·(½ + 5·10⁻⁵)` of what was written -/
theorem swan_roundtrip (nf nd : Nat) (e : OMat) (hfin : hasNaN e = false) (hpos : 0 < facOf e)
    (hnn : ∀ r ∈ vals e, ∀ x ∈ r, 0 ≤ x) :
    decode nf nd (encode e) =
        (vals e).map (fun r => r.map fun x => some (decBin (facOf e) (sig9 (facOf e)) x)) ∧
    ∀ r ∈ vals e, ∀ x ∈ r,
      |decBin (facOf e) (sig9 (facOf e)) x - x| ≤ facOf e / 2 + 9998 * |sig9 (facOf e) - facOf e| ∧
      |decBin (facOf e) (sig9 (facOf e)) x - x| ≤ facOf e * (1 / 2 + 5 / 100000) := by
  constructor
  · unfold encode
    simp only [hfin, Bool.false_eq_true, if_false, not_le.mpr hpos, decode, List.map_map]
    congr 1; funext r
    simp only [Function.comp, List.map_map]
    rfl
  · intro r hr x hx
    have hmax : x ≤ maxCount * facOf e :=
      (le_specMax (vals e) r hr x hx).trans_eq (mul_div_cancel₀ _ (by norm_num [maxCount])).symm
    exact ⟨(swan_bin _ _ x hpos (hnn r hr x hx) hmax).2.2, swan_bin_sig9 _ x hpos (hnn r hr x hx) hmax⟩

/-- an all-zero spectrum is written as `ZERO` and read back as zeros -/
theorem swan_zero (nf nd : Nat) :
    decode nf nd (encode (List.replicate nf (List.replicate nd (some 0)))) =
      List.replicate nf (List.replicate nd (some 0)) := by
  have hn : hasNaN (List.replicate nf (List.replicate nd (some (0 : ℚ)))) = false := by simp [hasNaN]
  have hmax : facOf (List.replicate nf (List.replicate nd (some (0 : ℚ)))) ≤ 0 := by
    refine div_nonpos_of_nonpos_of_nonneg (specMax_le _ 0 le_rfl ?_) (by norm_num [maxCount])
    intro r hr x hx
    rw [vals, List.map_replicate, List.map_replicate] at hr
    rw [List.eq_of_mem_replicate hr] at hx
    exact (List.eq_of_mem_replicate hx).le
  unfold encode
  simp only [hn, Bool.false_eq_true, if_false, hmax, if_true, decode]

/-- a spectrum with a missing value anywhere is written as `NODATA` and read back all-missing:
    all-missing spectra survive, partially missing ones lose their data (one flag per spectrum) -/
theorem swan_nodata (nf nd : Nat) (e : OMat) (h : hasNaN e = true) :
    decode nf nd (encode e) = List.replicate nf (List.replicate nd none) := by
  unfold encode; simp only [h, if_true, decode]

end SwanNumbers

/-! ## C. SWAN ASCII: locations (reader after fix 1f147c9: blocks placed by their header position) -/
section SwanLayout
open Swan

theorem mem_insU (x z : ℚ) (l : Vec) : z ∈ insU x l ↔ z = x ∨ z ∈ l := by
  induction l with
  | nil => exact List.mem_singleton.trans (or_iff_left List.not_mem_nil).symm
  | cons y ys ih =>
    unfold insU
    split_ifs with h1 h2
    · exact List.mem_cons
    · rw [h2, List.mem_cons, ← or_assoc, or_self]
    · rw [List.mem_cons, ih, List.mem_cons]; exact or_left_comm

theorem mem_sortedUniq (l : Vec) (z : ℚ) : z ∈ sortedUniq l ↔ z ∈ l := by
  induction l with
  | nil => rfl
  | cons a t ih => exact (mem_insU a z _).trans ((or_congr_right ih).trans List.mem_cons.symm)

theorem getR_idxOf (l : Vec) (x : ℚ) (h : x ∈ l) : getR l (l.idxOf x) = x := by
  rw [getR_eq_getElem _ _ (List.idxOf_lt_length_iff.mpr h), List.getElem_idxOf]

/-- the cell a block is placed in carries the block's own header position -/
theorem swan_fixed_label (xs ys : Vec) (k : Nat) (hx : k < xs.length) (hy : k < ys.length) :
    fixedLabel xs ys k = (getR xs k, getR ys k) := by
  unfold fixedLabel fixedCell
  simp only
  rw [getR_idxOf _ _ ((mem_sortedUniq xs _).mpr (getR_mem xs k hx)),
    getR_idxOf _ _ ((mem_sortedUniq ys _).mpr (getR_mem ys k hy))]

/-- **every block is read back under the (lon, lat) it was written with** — stations, station lists that
    happen to fill a lattice (in any order), grids of any shape, `as_site` on or off -/
theorem swan_positions_kept (asSite : Bool) (xs ys : Vec) (k : Nat) (hx : k < xs.length) (hy : k < ys.length) :
    readLabel asSite xs ys k = (getR xs k, getR ys k) := by
  unfold readLabel
  split
  · exact swan_fixed_label xs ys k hx hy
  · rfl

/-- two blocks share a grid cell only if they were written with the same position (no overwriting) -/
theorem swan_fixed_cell_inj (xs ys : Vec) (k k' : Nat) (hx : k < xs.length) (hy : k < ys.length)
    (hx' : k' < xs.length) (hy' : k' < ys.length) (h : fixedCell xs ys k = fixedCell xs ys k') :
    (getR xs k, getR ys k) = (getR xs k', getR ys k') := by
  rw [← swan_fixed_label xs ys k hx hy, ← swan_fixed_label xs ys k' hx' hy']
  unfold fixedLabel
  rw [h]

/-- **gridded datasets** as `to_swan` writes them (`stack(site=(lat, lon))`, latitude-major, any coordinate order):
    every block comes back at its own grid position -/
theorem swan_grid_kept (lats lons : Vec) (k : Nat) (hk : k < (gridHeader lats lons).length) :
    readLabel false ((gridHeader lats lons).map (·.1)) ((gridHeader lats lons).map (·.2)) k =
      (gridHeader lats lons).getD k (0, 0) := by
  rw [swan_positions_kept false _ _ k (by simpa using hk) (by simpa using hk),
    getR_map_of_lt _ _ (0, 0) k hk, getR_map_of_lt _ _ (0, 0) k hk]

end SwanLayout

/-! ## C′. SWAN locations, **code as found** (before 1f147c9): refuted statements kept for the record -/
section SwanLayoutAsFound
open Swan

/-- full statement for the old reader -/
def OldSwanPositionsKept : Prop :=
  ∀ (asSite : Bool) (xs ys : Vec) (k : Nat), xs.length = ys.length → k < xs.length →
    readLabelOld asSite xs ys k = (getR xs k, getR ys k)

/-- refuted: two stations on one meridian listed north to south came back swapped -/
theorem old_swan_positions_fails : ¬ OldSwanPositionsKept := by
  intro h
  have := h false [100, 100] [5, 3] 0 rfl (by norm_num)
  revert this
  decide +kernel

/-- full statement for gridded datasets with the old reader -/
def OldSwanGridKept : Prop :=
  ∀ (lats lons : Vec) (k : Nat), lats.Pairwise (· < ·) → lons.Pairwise (· < ·) →
    k < lats.length * lons.length →
    readLabelOld false ((gridHeader lats lons).map (·.1)) ((gridHeader lats lons).map (·.2)) k =
      (gridHeader lats lons).getD k (0, 0)

/-- refuted by a 2×3 grid: the block written at `(lat 0, lon 20)` was read back at `(lat 1, lon 10)` -/
theorem old_swan_grid_fails : ¬ OldSwanGridKept := by
  intro h
  have := h [0, 1] [10, 20, 30] 1 (by decide +kernel) (by decide +kernel) (by norm_num)
  revert this
  decide +kernel

/-- what was true of the old reader: station read-back kept positions … -/
theorem old_swan_positions_partial (asSite : Bool) (xs ys : Vec) (k : Nat)
    (h : isGrid xs ys = false ∨ asSite = true) :
    readLabelOld asSite xs ys k = (getR xs k, getR ys k) := by
  unfold readLabelOld
  rcases h with h | h <;> simp [h]

/-- … and a grid header was read correctly exactly when the blocks were longitude-major ascending -/
theorem old_swan_grid_partial (xs ys : Vec) (k : Nat) (hg : isGrid xs ys = true) :
    readLabelOld false xs ys k = (getR xs k, getR ys k) ↔
      (getR xs k = getR (sortedUniq xs) (k / (sortedUniq ys).length) ∧
       getR ys k = getR (sortedUniq ys) (k % (sortedUniq ys).length)) := by
  unfold readLabelOld
  simp only [hg, Bool.not_false, Bool.and_self, if_true, Prod.mk.injEq]
  exact and_congr eq_comm eq_comm

end SwanLayoutAsFound

/-! ## D. SWAN ASCII: direction order (`dirorder=True`) -/
section SwanDirs
open Swan

theorem insBy_eq {α : Type} (le : α → α → Bool) (x : α) (l : List α) :
    insBy le x l = List.orderedInsert (fun a b => le a b = true) x l := by
  induction l with
  | nil => rfl
  | cons y ys ih => simp only [insBy, List.orderedInsert, ih]

theorem sortBy_eq {α : Type} (le : α → α → Bool) (l : List α) :
    sortBy le l = List.insertionSort (fun a b => le a b = true) l := by
  induction l with
  | nil => rfl
  | cons y ys ih =>
    have : sortBy le (y :: ys) = insBy le y (sortBy le ys) := rfl
    rw [this, ih, insBy_eq]; rfl

/-- labels and data columns move together: the output is a rearrangement of the (label mod 360, column) pairs -/
theorem swan_dirorder_perm {α : Type} (cols : List (ℚ × α)) :
    (dirOrder cols).Perm (cols.map fun p => (pmod p.1 360, p.2)) := by
  unfold dirOrder
  rw [sortBy_eq]
  exact List.perm_insertionSort _ _

/-- the labels come out sorted -/
theorem swan_dirorder_sorted {α : Type} (cols : List (ℚ × α)) :
    (dirOrder cols).Pairwise fun a b => a.1 ≤ b.1 := by
  unfold dirOrder
  rw [sortBy_eq]
  simp only [decide_eq_true_eq]
  have : Std.Total fun a b : ℚ × α => a.1 ≤ b.1 := ⟨fun a b => le_total _ _⟩
  have : IsTrans (ℚ × α) fun a b => a.1 ≤ b.1 := ⟨fun a b c => le_trans⟩
  exact List.pairwise_insertionSort _ _

/-- … and lie in `[0, 360)` -/
theorem swan_dirorder_range {α : Type} (cols : List (ℚ × α)) :
    ∀ p ∈ dirOrder cols, 0 ≤ p.1 ∧ p.1 < 360 := by
  intro p hp
  obtain ⟨q, _, rfl⟩ := List.mem_map.mp ((swan_dirorder_perm cols).mem_iff.mp hp)
  exact C10.dir_range q.1

end SwanDirs

/-! ## E. chunked writing (`ntime`) -/
section Chunks

/-- the blocks of the Octopus loop laid end to end are the time steps from `i0` on, each once and in order, whatever
    the end `i1 > i0` of the first block and the step `n ≥ 1` -/
theorem octLoop_spec (T n : Nat) (hn : 1 ≤ n) :
    ∀ (fuel i0 i1 : Nat), i0 < i1 → T - i0 < fuel →
      (Octopus.octLoop T n fuel i0 i1).flatten = List.range' i0 (T - i0) := by
  intro fuel
  induction fuel with
  | zero => exact fun _ _ _ h => absurd h (Nat.not_lt_zero _)
  | succ f ih =>
    intro i0 i1 h01 hf
    unfold Octopus.octLoop
    split_ifs with hlt
    · rw [List.flatten_cons, ih i1 (i1 + n) (Nat.lt_add_of_pos_right hn)
        ((Nat.sub_lt_sub_left hlt h01).trans_le (Nat.le_of_lt_succ hf))]
      -- the block `[i0, min i1 T)`, then the steps from `i1` on (none when `T < i1`)
      by_cases hle : i1 ≤ T
      · rw [Nat.min_eq_left hle, ← Nat.sub_add_sub_cancel hle h01.le, Nat.add_comm, ← List.range'_append_1,
          Nat.add_sub_cancel' h01.le]
      · rw [Nat.min_eq_right (Nat.le_of_not_le hle), Nat.sub_eq_zero_of_le (Nat.le_of_not_le hle)]
        exact List.append_nil _
    · rw [Nat.sub_eq_zero_of_le (not_lt.mp hlt)]; rfl

/-- `to_swan`'s loop test `i1 <= T or i0 < T` is `i0 < T` as long as `i0 < i1`: it writes what the Octopus loop writes -/
theorem swanLoop_eq_flatten (T n : Nat) (hn : 1 ≤ n) :
    ∀ (fuel i0 i1 : Nat), i0 < i1 →
      Swan.swanLoop T n fuel i0 i1 = (Octopus.octLoop T n fuel i0 i1).flatten := by
  intro fuel
  induction fuel with
  | zero => intro _ _ _; rfl
  | succ f ih =>
    intro i0 i1 h01
    have hc : (i1 ≤ T ∨ i0 < T) ↔ i0 < T := ⟨fun h => h.elim (fun h' => by omega) id, Or.inr⟩
    unfold Swan.swanLoop Octopus.octLoop
    simp only [hc]
    split_ifs
    · rw [List.flatten_cons, ih _ _ (by omega)]; rfl
    · rfl

theorem effNtime_pos (T ntime : Nat) (hT : 1 ≤ T) :
    1 ≤ Octopus.effNtime T ntime ∧ Octopus.effNtime T ntime ≤ T := by
  unfold Octopus.effNtime; split <;> omega

/-- **`to_octopus(ntime=n)` (after fix d2d41be) writes every time step exactly once, in order**, for every number
    of time steps `T ≥ 1` and every `ntime` (`0` = `None`) -/
theorem octopus_chunked_eq (T ntime : Nat) (hT : 1 ≤ T) : Octopus.written T ntime = List.range T := by
  have hn := (effNtime_pos T ntime hT).1
  unfold Octopus.written Octopus.blocks
  rw [octLoop_spec T _ hn _ _ _ (by omega) (by omega), List.range_eq_range', Nat.sub_zero]

/-- **`to_swan(ntime=n)` writes every time step exactly once, in order**, for every number of time steps
    `T ≥ 1` and every `ntime` (`0` = `None`) -/
theorem swan_chunked_eq (T ntime : Nat) (hT : 1 ≤ T) : Swan.swanWritten T ntime = List.range T := by
  have hn : 1 ≤ Swan.effNtime T ntime := (effNtime_pos T ntime hT).1
  unfold Swan.swanWritten
  rw [swanLoop_eq_flatten T _ hn _ _ _ (by omega)]
  exact octopus_chunked_eq T ntime hT

/-- what `read_octopus` returns: the first header block, i.e. the first `ntime` time steps -/
theorem octopus_read_first (T ntime : Nat) (hT : 1 ≤ T) :
    Octopus.readBack T ntime = List.range (Octopus.effNtime T ntime) := by
  obtain ⟨hn, hle⟩ := effNtime_pos T ntime hT
  unfold Octopus.readBack Octopus.blocks Octopus.octLoop
  rw [if_pos (by omega), List.headD_cons, Nat.min_eq_left hle, List.range_eq_range', Nat.sub_zero]

/-- **full statement**: the read-back has every time step -/
def OctopusAllRead : Prop := ∀ T ntime : Nat, 1 ≤ T → Octopus.readBack T ntime = List.range T

/-- refuted on this tree (known finding F29): 4 time steps with `ntime=2` are all written (two header blocks)
    but only the first block is read -/
theorem octopus_read_fails : ¬ OctopusAllRead := by
  intro h
  have := h 4 2 (by norm_num)
  revert this
  decide +kernel

/-- what is true of the code: unchunked writing (`ntime=None` or `ntime ≥ T`) round-trips every time step -/
theorem octopus_read_partial (T ntime : Nat) (hT : 1 ≤ T) (h : ntime = 0 ∨ T ≤ ntime) :
    Octopus.readBack T ntime = List.range T := by
  have he : Octopus.effNtime T ntime = T := by unfold Octopus.effNtime; split <;> omega
  rw [octopus_read_first T ntime hT, he]

end Chunks

/-! ## F. Octopus: numbers -/
section OctopusNumbers
open Octopus

/-- a bin stored with weight `w` (`y ≈ x·w`, off by at most `δ`) and divided by the reader's own weight `w'`
    comes back within `δ/w'` plus the relative error of the weights (Octopus and Funwave both store `E·Δf·Δθ`) -/
theorem reweigh_err (w w' x y δ : ℚ) (hw' : 0 < w') (h : |y - x * w| ≤ δ) :
    |y / w' - x| ≤ δ / w' + |x| * |w / w' - 1| := by
  have e : y / w' - x = (y - x * w) / w' + x * (w / w' - 1) := by
    rw [sub_div, mul_sub, mul_one, mul_div_assoc, sub_add_sub_cancel]
  rw [e]
  refine (abs_add_le _ _).trans (add_le_add ?_ (abs_mul _ _).le)
  rw [abs_div, abs_of_pos hw']
  exact div_le_div_of_nonneg_right h hw'.le

/-- **Octopus round trip of one bin**: stored as `E·w` (`w = Δf·Δθ`) with 7 decimals and divided by the reader's
    own `w' = Δf'·Δθ'`: within `0.5·10⁻⁷/w'` plus the relative error of the bin widths -/
theorem octopus_roundtrip (w w' x : ℚ) (hw' : 0 < w') :
    |rtBin w w' x - x| ≤ 1 / (2 * pow10 7) / w' + |x| * |w / w' - 1| :=
  reweigh_err w w' x _ _ hw' (quant_err 7 (x * w))

/-- when the reader's bin widths are the writer's the error is the energy quantum alone -/
theorem octopus_roundtrip_same_widths (w x : ℚ) (hw : 0 < w) :
    |rtBin w w x - x| ≤ 1 / (2 * pow10 7) / w := by
  have := octopus_roundtrip w w x hw
  rwa [div_self hw.ne', sub_self, abs_zero, mul_zero, add_zero] at this

/-- zero energy comes back as zero -/
theorem octopus_zero (w w' : ℚ) : rtBin w w' 0 = 0 := by
  unfold rtBin q7; rw [zero_mul, quant_zero, zero_div]

/-- **full statement**: a missing energy comes back missing -/
def OctopusMissingKept : Prop := ∀ w' : ℚ, 0 < w' → rtMissing w' = none

/-- refuted on this tree: `missing_val` is written but never decoded -/
theorem octopus_missing_fails : ¬ OctopusMissingKept :=
  fun h => Option.some_ne_none _ (h 1 one_pos)

/-- what comes back instead: `-99999/(Δf'·Δθ')` -/
theorem octopus_missing_value (w' : ℚ) : rtMissing w' = some (-99999 / w') := by
  unfold rtMissing q7 quant missing
  have : (-99999 : ℚ) * pow10 7 = ((-999990000000 : ℤ) : ℚ) := by norm_num [pow10]
  rw [this, rhe_int]
  norm_num [pow10]

end OctopusNumbers

/-! ## G. netCDF packing -/
section Packing
open Pack

theorem pack_scale_pos : 0 < scale := by unfold scale; norm_num

/-- signed values: anything in the int32 range comes back within half a quantum unless its count is the fill value
    `-32768` (i.e. `x ≈ -0.32768`, which the format reads as missing — negative energies are out of scope) -/
theorem pack_roundtrip_signed (x : ℚ) (h0 : (imin : ℚ) * scale ≤ x) (h1 : x ≤ (imax : ℚ) * scale)
    (hf : enc (some x) ≠ fill) :
    inRange (enc (some x)) = true ∧ ∃ y, dec (enc (some x)) = some y ∧ |y - x| ≤ scale / 2 := by
  have hm := rhe_grid_mem scale x imin imax pack_scale_pos h0 h1
  refine ⟨?_, _, if_neg hf, rhe_grid_err scale x pack_scale_pos⟩
  simp only [inRange, enc, hm.1, hm.2, decide_true, Bool.and_self]

/-- **packed netCDF round trip**: every `0 ≤ x ≤ (2³¹−1)·scale` fits int32, does not collide with the fill
    value and comes back within half a quantum (`≤ 0.5·10⁻⁵`) -/
theorem pack_roundtrip (x : ℚ) (h0 : 0 ≤ x) (h1 : x ≤ (imax : ℚ) * scale) :
    inRange (enc (some x)) = true ∧ enc (some x) ≠ fill ∧
      ∃ y, dec (enc (some x)) = some y ∧ |y - x| ≤ scale / 2 := by
  have hs := pack_scale_pos
  have a0 : (0 : ℤ) ≤ rhe (x / scale) := le_rhe _ 0 (by rw [Int.cast_zero]; exact div_nonneg h0 hs.le)
  have hne : enc (some x) ≠ fill := by show rhe (x / scale) ≠ -32768; omega
  have hmin : (imin : ℚ) * scale ≤ x :=
    (mul_nonpos_of_nonpos_of_nonneg (by norm_num [imin]) hs.le).trans h0
  exact ⟨(pack_roundtrip_signed x hmin h1 hne).1, hne, (pack_roundtrip_signed x hmin h1 hne).2⟩

/-- the quantum is the double `1e-5`, below `1.0000000000000001·10⁻⁵` -/
theorem pack_quantum : scale / 2 ≤ 1 / 200000 + 1 / 10 ^ 21 := by unfold scale; norm_num

/-- missing values: NaN ↦ fill ↦ NaN -/
theorem pack_nan : dec (enc none) = none := if_pos rfl

/-- zero comes back as zero -/
theorem pack_zero : dec (enc (some 0)) = some 0 := by
  have : enc (some 0) = 0 := by
    show rhe ((0 : ℚ) / scale) = 0
    rw [zero_div]; exact_mod_cast rhe_int 0
  rw [this]; simp [dec, fill]

end Packing

/-! ## H. WW3 netCDF -/
section WW3
open WW3

/-- **energy density**: `× 180/π` on write and `× π/180` on read is exact for every value of π ≠ 0 -/
theorem ww3_roundtrip (pi x : ℚ) (hpi : pi ≠ 0) : dec pi (enc pi x) = x := by
  unfold dec enc; field_simp

/-- **directions**: flipping to going-to and back is the identity modulo 360 … -/
theorem ww3_dir_twice (d : ℚ) : flipDir (flipDir d) = pmod d 360 := Instr.pmod_half_turn_twice d

/-- … hence an involution on `[0, 360)` (a label `360` comes back as `0`) -/
theorem ww3_dir_involution (d : ℚ) (h0 : 0 ≤ d) (h1 : d < 360) : flipDir (flipDir d) = d := by
  rw [ww3_dir_twice, pmod_eq_self h0 h1]

/-- lon/lat expanded over `T ≥ 1` time steps and reduced with `isel(time=0)` are unchanged -/
theorem ww3_lonlat {α : Type} (T : Nat) (hT : 1 ≤ T) (x d : α) :
    reduceTime (expandOverTime T x) d = x := by
  obtain ⟨n, rfl⟩ := Nat.exists_eq_add_of_le' hT
  rfl

end WW3

/-! ## I. Funwave -/
section FunwaveSec
open Funwave

/-- **energy is recovered exactly** (before the 8-decimal print) when the reader's `Δf·Δθ` is the grid's:
    `a = √(8·E·w)/2` enters through its defining equation -/
theorem funwave_energy (w x a : ℚ) (hw : w ≠ 0) (ha : a ^ 2 = amp2 w x) : a ^ 2 / (w * 2) = x := by
  rw [ha]; unfold amp2; field_simp; ring

theorem sq_err (a q δ : ℚ) (ha : 0 ≤ a) (h : |q - a| ≤ δ) : |q ^ 2 - a ^ 2| ≤ δ * (2 * a + δ) := by
  have hqa : |q + a| ≤ 2 * a + δ := by
    rw [← sub_add_add_cancel q a a, ← two_mul, add_comm]
    exact (abs_add_le _ _).trans (add_le_add (abs_of_nonneg (mul_nonneg two_pos.le ha)).le h)
  rw [sq_sub_sq, abs_mul, mul_comm]
  exact mul_le_mul h hqa (abs_nonneg _) ((abs_nonneg _).trans h)

/-- **Funwave round trip of one bin** with the printed amplitude: error from the `10⁻⁸` amplitude quantum plus the
    relative error of the reader's bin widths -/
theorem funwave_roundtrip (w w' x a : ℚ) (hw' : 0 < w') (ha0 : 0 ≤ a) (ha : a ^ 2 = amp2 w x) :
    |decBin w' a - x| ≤
      (1 / (2 * pow10 8)) * (2 * a + 1 / (2 * pow10 8)) / (2 * w') + |x| * |w / w' - 1| := by
  -- the stored quantity is `q²/2 ≈ a²/2 = E·w`
  have h : |quant 8 a ^ 2 / 2 - x * w| ≤ (1 / (2 * pow10 8)) * (2 * a + 1 / (2 * pow10 8)) / 2 := by
    rw [show x * w = a ^ 2 / 2 by rw [ha, amp2]; ring, ← sub_div, abs_div, abs_two]
    exact div_le_div_of_nonneg_right (sq_err a _ _ ha0 (quant_err 8 a)) two_pos.le
  have := reweigh_err w w' x _ _ hw' h
  rw [div_div, div_div] at this
  unfold decBin q8
  rwa [mul_comm w' 2]

/-- Cartesian going-to directions lie in `(-180, 180]` -/
theorem funwave_cart_range (d : ℚ) : -180 < cart d ∧ cart d ≤ 180 := by
  unfold cart
  have := C10.dir_range (270 - d)
  simp only
  split <;> constructor <;> linarith [this.1, this.2]

/-- **directions**: nautical ↦ Cartesian ↦ nautical is the identity modulo 360, with results in `(0, 360]`
    (`0` is reported as `360`) -/
theorem funwave_dir (d : ℚ) :
    pmod (naut (cart d)) 360 = pmod d 360 ∧ 0 < naut (cart d) ∧ naut (cart d) ≤ 360 := by
  have h360 : (360 : ℚ) ≠ 0 := by norm_num
  have key : pmod (270 - cart d) 360 = pmod d 360 := by
    unfold cart
    simp only
    split
    · rw [show 270 - (pmod (270 - d) 360 - 360) = 270 - pmod (270 - d) 360 + 360 by ring,
        pmod_add_period _ _ h360, pmod_sub_pmod _ _ _ h360]
      congr 1; ring
    · rw [pmod_sub_pmod _ _ _ h360]; congr 1; ring
  have hr := C10.dir_range (270 - cart d)
  unfold naut
  simp only
  split
  · rename_i h0
    refine ⟨?_, by norm_num, le_rfl⟩
    rw [← key, h0]; decide +kernel
  · rename_i h0
    exact ⟨(pmod_idem _ _ h360).trans key, lt_of_le_of_ne hr.1 (Ne.symm h0), hr.2.le⟩

end FunwaveSec

/-! ## J. tie to the repository source (T-tier): literals and format strings regenerated on every run -/
section Bridging

/-- `write_spectra`: `fac = max/9998.0`, the `fac <= 0` test, `'%0.8E'` (nine significant digits = `sig9`)
    and `'%5.0f'` (integer counts = `rhe`, 5-wide fields = `swan_field_fits`) -/
theorem lits_swan_write : Gen.lits_swan_write_spectra = [Swan.maxCount, 0] ∧
    Gen.fmts_swan_write_spectra = ["0.8E", "%5.0f"] := ⟨rfl, rfl⟩

/-- header resolutions: positions `%0.6f`, frequencies `%11.5f`, directions `%11.4f`; times to the second -/
theorem fmts_swan_header : Gen.fmts_swan_write_header.filter (fun f => f.endsWith "f}\n") =
    ["{:2}{:<0.6f}{:2}{:<0.6f}\n", "{:>11.5f}\n", "{:>11.4f}\n"] ∧
    Gen.fmts_output_swan = ["%Y%m%d.%H%M%S"] := ⟨by decide +kernel, rfl⟩

/-- `to_netcdf(packed=True)`: `scale_factor = 1e-5`, `_FillValue = -32768` -/
theorem lits_netcdf_packing : Gen.lits_output_netcdf = [Pack.scale, -(Pack.fill : ℚ)] := rfl

/-- WW3: `(dir + 180) % 360` on write and on read -/
theorem lits_ww3 : Gen.lits_output_ww3.take 6 = [0, 2, 2, 0, 180, 360] ∧ Gen.lits_input_ww3 = [0, 0, 180, 360] :=
  ⟨rfl, rfl⟩

/-- Funwave: `(270 - dir) % 360`, `> 180 ⇒ - 360` on write; `sqrt(E·df·dd·8)/2`; `(270 - dir) % 360`, `0 ↦ 360`,
    `amp² / (df·dd·2)` on read; amplitudes `%12.8f`, frequencies `%10.5f`, directions `%10.3f` -/
theorem lits_funwave : Gen.lits_output_funwave = [270, 360, 180, 180, 360, 90, 90, 1, 0] ∧
    Gen.lits_output_funwave_spectrum = [0, 1, 1, 0, 8, 2, 0, 1, 360, 1] ∧
    Gen.lits_input_funwave = [0, 2, 0, 0, 0, 0, 0, 0, 270, 360, 0, 0, 0, 360, 1, 2, 2, 1] ∧
    Gen.fmts_output_funwave_spectrum =
      [">5d", ">5d", ">10.3f", "%10.5f   - Freq\n", "%10.3f   - Dire\n", "%12.8f", "%12.8f", "%12.3f"] :=
  ⟨rfl, rfl, rfl, rfl⟩

/-- Octopus: default `fcut = 0.125`, `missing_val = -99999`; energies and frequencies `%8.7f`, directions `%0.0f`,
    positions `%0.6f`, record times to the minute on both sides -/
theorem lits_octopus : Gen.lits_output_octopus.take 2 = [1 / 8, -Octopus.missing] ∧
    Gen.fmts_output_octopus.take 10 =
      ["{:8.7f}", "{:0.0f},", "{:8.7f}", "%d-%b-%Y %H:%M:%S", "%Y%m", "%d%H%M", "%Y%m%d_%Hz", "0.6f", "0.6f", "0.2f"] ∧
    Gen.fmts_input_octopus = ["%Y%m%d%H%M"] := ⟨rfl, rfl, rfl⟩

end Bridging

/-! ## non-vacuity: the hypotheses are satisfiable on concrete, non-trivial inputs; the model evaluated on samples -/
section Examples
open Swan

/-- a 2×3 spectrum: max 5/2, fac = 5/19996 -/
private def eS : OMat := [[some (1/3), some (2/7), some (5/2)], [some 0, some 1, some (1/1000)]]

example : hasNaN eS = false ∧ 0 < facOf eS ∧ (∀ r ∈ vals eS, ∀ x ∈ r, 0 ≤ x) := by decide +kernel
example := swan_roundtrip 2 3 eS (by decide +kernel) (by decide +kernel) (by decide +kernel)
example : encode eS = .factor (25005001 / 100000000000) [[1333, 1143, 9998], [0, 3999, 4]] := by decide +kernel
example : sig9 (5 / 19996) = 25005001 / 100000000000 ∧ decExp (5 / 19996) = -4 := by decide +kernel
example := swan_bin (5/19996) (25005001 / 100000000000) (1/3) (by decide +kernel) (by decide +kernel) (by decide +kernel)
example := swan_bin_sig9 (5/19996) (1/3) (by decide +kernel) (by decide +kernel) (by decide +kernel)
example := swan_field_fits (19997/2) (by decide +kernel) (by decide +kernel)
example : rhe (19997/2) = 9998 ∧ rhe (5/2) = 2 ∧ rhe (7/2) = 4 ∧ rhe (-5/2) = -2 := by decide +kernel
example := swan_nodata 2 2 [[some 1, none], [some 2, some 3]] (by decide +kernel)
example := nine_digit_err (5/19996) (by decide +kernel)
example := decimal_exponent_found (5/19996) (by decide +kernel)
-- a tie in the ninth digit goes to the even neighbour: 2⁻¹³ = 1.220703125e-4 ↦ 1.22070312e-4
example : sig9 (1 / 8192) = 122070312 / 1000000000000 := by decide +kernel

example : isGrid [100, 100] [5, 3] = true ∧ isGrid [100, 101.5, 100] [-10, -9, -9] = false := by decide +kernel
example := old_swan_positions_partial false [100, 101.5, 100] [-10, -9, -9] 1 (Or.inl (by decide +kernel))
example := (old_swan_grid_partial [10, 10, 20, 20] [0, 1, 0, 1] 2 (by decide +kernel)).mpr (by decide +kernel)
example := swan_fixed_label [10, 20, 30, 10, 20, 30] [0, 0, 0, 1, 1, 1] 1 (by decide +kernel) (by decide +kernel)
example := swan_positions_kept false [100, 100] [5, 3] 0 (by decide +kernel) (by decide +kernel)
example := swan_grid_kept [0, 1] [10, 20, 30] 1 (by decide +kernel)
example : readLabelOld false [10, 20, 30, 10, 20, 30] [0, 0, 0, 1, 1, 1] 1 = (10, 1) ∧
    readLabel false [10, 20, 30, 10, 20, 30] [0, 0, 0, 1, 1, 1] 1 = (20, 0) := by decide +kernel
example : gridHeader [0, 1] [10, 20, 30] = [(10, 0), (20, 0), (30, 0), (10, 1), (20, 1), (30, 1)] := by decide +kernel
example : dirOrder [((315 : ℚ), 'a'), (0, 'b'), (45, 'c'), (-90, 'd')] = [(0, 'b'), (45, 'c'), (270, 'd'), (315, 'a')] := by
  decide +kernel

example := swan_chunked_eq 5 2 (by decide +kernel)
example : swanWritten 5 2 = [0, 1, 2, 3, 4] ∧ swanWritten 5 7 = [0, 1, 2, 3, 4] := by decide +kernel
example := octopus_chunked_eq 5 2 (by decide +kernel)
example : Octopus.blocks 5 2 = [[0, 1], [2, 3], [4]] ∧ Octopus.readBack 5 2 = [0, 1] := by decide +kernel
example := octopus_read_partial 4 0 (by decide +kernel) (Or.inl rfl)
example := octopus_read_partial 4 9 (by decide +kernel) (Or.inr (by decide +kernel))

-- Octopus numbers: Δf·Δθ = 9/2 on write, 9/2 + 9/10⁷ on read
example := octopus_roundtrip (9/2) (9/2 + 9/10000000) (1/3) (by decide +kernel)
example := octopus_roundtrip_same_widths (9/2) (1/3) (by decide +kernel)
example : Octopus.rtBin (9/2) (9/2) (1/3) = 1/3 ∧ Octopus.rtBin 1 1 (1/3) = 3333333/10000000 := by decide +kernel
example : Octopus.decode [1/10, 1/5, 2/5] [0, 90, 180, 270] (Octopus.encode [1/10, 1/5, 2/5] [90, 180, 270, 0]
    [[some 1, some 2, some 3, some 4], [some 5, some 6, some 7, some 8], [some 9, some 10, some 11, none]]).2.2 =
    [[some 4, some 1, some 2, some 3], [some 8, some 5, some 6, some 7], [some (-11111/2), some 9, some 10, some 11]] := by
  decide +kernel

example := pack_roundtrip (1/3) (by decide +kernel) (by decide +kernel)
example : Pack.enc (some (1/3)) = 33333 ∧ Pack.enc none = -32768 := by decide +kernel
example := pack_roundtrip_signed (-1/3) (by decide +kernel) (by decide +kernel)
  (by decide +kernel)
-- the one collision of the format: the count -32768 is the fill value
example : Pack.dec (Pack.enc (some (-32768 * Pack.scale))) = none := by decide +kernel

-- WW3 (π replaced by 22/7: any non-zero value)
example := ww3_roundtrip (22/7) (5/3) (by decide +kernel)
example := ww3_dir_involution 359 (by decide +kernel) (by decide +kernel)
example : WW3.flipDir 359 = 179 ∧ WW3.flipDir 360 = 180 ∧ WW3.flipDir (WW3.flipDir 360) = 0 := by decide +kernel
example := ww3_lonlat 3 (by decide +kernel) (5 : ℚ) 0

-- Funwave: E = 1/9, w = 9/2 ⇒ a² = 1, a = 1
example : (1 : ℚ) ^ 2 = Funwave.amp2 (9/2) (1/9) := by decide +kernel
example := funwave_energy (9/2) (1/9) 1 (by decide +kernel) (by decide +kernel)
example := funwave_roundtrip (9/2) (9/2) (1/9) 1 (by decide +kernel) (by decide +kernel) (by decide +kernel)
example : Funwave.cart 0 = -90 ∧ Funwave.cart 90 = 180 ∧ Funwave.naut (-90) = 360 ∧ Funwave.naut 180 = 90 := by
  decide +kernel
example : (Funwave.roundtrip [1/10, 1/5, 2/5] (some [0, 90, 180, 270])
    [[some 1, some 2, some 3, some 4], [some 5, some 6, some 7, some 8], [some 9, some 10, some 11, some 12]]).2.1 =
    [90, 180, 270, 360] := by decide +kernel

end Examples

end WS.C11
