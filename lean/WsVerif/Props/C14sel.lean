import WsVerif.Lemmas.SelBridge
import WsVerif.Gen.LonConv
import WsVerif.Gen.SelKernels
/-!
# C14, T-tier: the decision logic of `wavespectra/core/select.py` regenerated from the source

`harness/translate_sel.py` translates `Coordinates.__init__/_validate/_swap_longitude_convention/lons/distance/nearer/
nearest` and the decision parts of `sel_nearest`, `sel_idw`, `sel_bbox` into `Gen/SelKernels.lean` on every run
(vocabulary `Model/SelRt.lean`).  The theorems below identify each generated definition with the hand-written model
(`Model/Select.lean` with the repaired distance / box of `Model/SelectFixed.lean` — the code as it is now) **for all
inputs**.  Every property theorem of `Props/C14.lean` (section `Fixed`) is about that model, so with these bridges it
is a theorem about what the source says *now*; an edit of the source changes the generated text and a bridge stops
compiling.

Square roots: the generated kernels take the oracle `sqrt : ℚ → ℚ` as their first parameter and return
`np.abs(np.sqrt(·))`; the model applies its oracle `sq` bare.  The bridges are stated with the model's oracle
`fun x => absR (sqrt x)` (no hypothesis), and `gensel_oracle_nonneg` removes the `absR` for an oracle that is
non-negative — which the driver checks for every table entry (`Ops/Select.lean`, `sqEntryOk`) and `SqrtOn` states.
-/
namespace WS.C14
open WS WS.Select WS.Sel WS.SelBridge

/-- for a non-negative oracle the `np.abs` around `np.sqrt` is the identity -/
theorem gensel_oracle_nonneg (sqrt : ℚ → ℚ) (h : ∀ x, 0 ≤ sqrt x) : absSq sqrt = sqrt := by
  funext x; exact absR_of_nonneg (h x)

/-- an exact square-root oracle stays one under `np.abs` -/
theorem gensel_oracle_sqrtOn (sqrt : ℚ → ℚ) (S : List ℚ) (h : SqrtOn sqrt S) : SqrtOn (absSq sqrt) S := by
  intro x hx
  obtain ⟨h0, h1⟩ := h x hx
  unfold absSq
  rw [absR_of_nonneg h0]
  exact ⟨h0, h1⟩

/-- `_is_180` / `_is_360` (scalar kernels of `translate.py`, `Gen/LonConv.lean`; the same statements as `C14.is180_bridge`,
    `C14.is360_bridge`, repeated here so that this file does not depend on `Props/C14.lean`) -/
theorem gensel_is180_eq : Gen.is180 = Select.is180 := funext fun _ => if_true_false _

theorem gensel_is360_eq : Gen.is360 = Select.is360 := funext fun _ => if_true_false _

/-- `_swap_longitude_convention` -/
theorem gensel_swap_eq (a : Vec) : Gen.selSwap a = swapConv a := by
  unfold Gen.selSwap swapConv
  rw [gensel_is180_eq, gensel_is360_eq]
  have h : maskSet a (vgtS a 180) (vsubS (maskGet a (vgtS a 180)) 360) = a.map to180 := by
    show maskSet a (a.map fun x => decide (x > 180)) ((maskGet a (a.map fun x => decide (x > 180))).map fun x => x - 360) = _
    rw [maskSet_map]
    apply List.map_congr_left
    intro x _
    simp [to180]
  simp only [h]
  rfl

/-- the `consistent` flag of `__init__` -/
theorem gensel_consistent_eq (ql dl : Vec) : Gen.selConsistent ql dl = consistent ql dl := by
  unfold Gen.selConsistent consistent
  rw [gensel_is360_eq]
  exact if_true_false _

/-- `Coordinates.__init__` + `_validate`: same exceptions in the same order (`AssertionError` for unequal lengths, then
    `ValueError` for an empty query or dataset), otherwise the `consistent` flag -/
theorem gensel_init_eq (ql qla dl dla : Vec) :
    Gen.selInit ql qla dl dla = (validate dl ql qla).map fun _ => consistent ql dl := by
  unfold Gen.selInit validate
  simp only [gensel_consistent_eq, List.isEmpty_iff, Bool.not_eq_true', decide_eq_false_iff_not, ← ite_or,
    apply_ite (Except.map _)]
  rfl

/-- the property `Coordinates.lons` -/
theorem gensel_lons_eq (ql dl : Vec) : Gen.selLons ql dl = lonsQ ql dl := by
  unfold Gen.selLons lonsQ consistent
  rw [gensel_is360_eq, gensel_swap_eq]

/-- **distance**: the generated `Coordinates.distance` is the model's distance row with the longitude difference taken
    the SHORT way round (`ldShort`), for stations and query in any convention -/
theorem gensel_distance_eq (sqrt : ℚ → ℚ) (dl dla : Vec) (lon lat : ℚ) :
    Gen.selDistance sqrt dl dla lon lat = distRow (absSq sqrt) ldShort dl dla lon lat := by
  unfold Gen.selDistance distRow distSqRow distSq ldShort mod360 absSq
  simp only [vabs, vmap, vadd, vpow, vmin, ssubV, vsubS, vmodS, List.map_map, List.zipWith_map_right,
    List.zipWith_self, List.zipWith_map_left, List.map_zipWith, Function.comp_def]

/-- **nearest**: the generated `Coordinates.nearest` returns the FIRST index of the smallest short-way distance and
    that distance — the `argminFirst` of the model's distance row -/
theorem gensel_nearest_eq (sqrt : ℚ → ℚ) (dl dla : Vec) (lon lat : ℚ) :
    Gen.selNearest sqrt dl dla lon lat =
      (argminFirst (distRow (absSq sqrt) ldShort dl dla lon lat),
        (distRow (absSq sqrt) ldShort dl dla lon lat).getD (argminFirst (distRow (absSq sqrt) ldShort dl dla lon lat)) 0) := by
  unfold Gen.selNearest
  simp only [gensel_distance_eq, argmin_eq]
  rfl

/-- an early exit nested under a guard is a chain of guarded exits -/
theorem ite_guard {α : Type} (a b c : Prop) [Decidable a] [Decidable b] [Decidable c] (E A T : α) :
    (if a then (if b then E else if c then A else T) else T) = if a ∧ b then E else if a ∧ c then A else T := by
  by_cases a <;> simp [*]

/-- the generated loop body of `sel_nearest` is one iteration of the model's `nearestLoop` on the distance row of the
    query: strict `closest_dist > tolerance`, `missing == "raise"` → `AssertionError`, `"ignore"` → skip, any other string
    falls through; `exact and closest_dist > 0` → `AssertionError`; `unique and closest_id in station_ids` → skip -/
theorem gensel_nearest_step_eq (sqrt : ℚ → ℚ) (tol : ℚ) (unique exact : Bool) (dl dla : Vec) (missing : String)
    (acc : List Nat) (q : ℚ × ℚ) :
    Gen.selNearestIds_loop1 sqrt tol unique exact dl dla missing acc q =
      nearestStep tol unique exact (missingOf missing) acc (distRow (absSq sqrt) ldShort dl dla q.1 q.2) := by
  unfold Gen.selNearestIds_loop1 nearestStep
  simp only [gensel_nearest_eq, missingOf_eq_raise, missingOf_eq_ignore, ← ite_guard, Bool.and_eq_true,
    decide_eq_true_eq, beq_iff_eq]

/-- **sel_nearest**: the generated function returns the model's station list (repaired distance) or raises the same
    exception, for every query / dataset convention, tolerance, `unique`, `exact` and `missing` string -/
theorem gensel_sel_nearest_eq (sqrt : ℚ → ℚ) (ql qla : Vec) (tol : ℚ) (unique exact : Bool) (dl dla : Vec) (missing : String) :
    Gen.selNearestIds sqrt ql qla tol unique exact dl dla missing =
      selNearestIdsFixed (absSq sqrt) dl dla ql qla tol unique exact (missingOf missing) := by
  unfold Gen.selNearestIds selNearestIdsFixed selNearestIds
  rw [gensel_init_eq, gensel_lons_eq]
  cases hv : validate dl ql qla with
  | error e => rfl
  | ok u =>
    have hloop : List.foldlM (Gen.selNearestIds_loop1 sqrt tol unique exact dl dla missing) [] (List.zip (lonsQ ql dl) qla) =
        nearestLoop tol unique exact (missingOf missing) (distRows (absSq sqrt) ldShort dl dla ql qla) [] := by
      rw [nearestLoop_eq_foldlM, distRows, ← List.map_uncurry_zip_eq_zipWith, List.foldlM_map]
      congr 1
      funext acc q
      exact gensel_nearest_step_eq sqrt tol unique exact dl dla missing acc q
    simp only [Except.map, Except.bind, bind, hloop]
    cases nearestLoop tol unique exact (missingOf missing) (distRows (absSq sqrt) ldShort dl dla ql qla) [] with
    | error e => rfl
    | ok ids => cases ids <;> rfl

/-- **nearer**: the generated `Coordinates.nearer` keeps the model's neighbours — stations sorted by distance (stable:
    equal distances in index order, the tie order recorded in `Model/SelRt.lean`), those with `distance <= tolerance`
    (non-strict), the first `max_sites` (`None`: all) — and returns their distances -/
theorem gensel_nearer_eq (sqrt : ℚ → ℚ) (dl dla : Vec) (lon lat tol : ℚ) (ms : Option Int) :
    Gen.selNearer sqrt dl dla lon lat tol ms =
      ((nearer (distRow (absSq sqrt) ldShort dl dla lon lat) tol ms).map (fun p => p.2),
       (nearer (distRow (absSq sqrt) ldShort dl dla lon lat) tol ms).map (fun p => p.1)) := by
  unfold Gen.selNearer
  simp only [gensel_distance_eq]
  exact nearer_vocab _ tol ms

/-- the generated loop bodies are the restatements used in `Lemmas/SelBridge.lean` -/
theorem gensel_idw_loops_shape : Gen.selIdw_loop2 = cStep ∧ Gen.selIdw_loop3 = wStep := ⟨rfl, rfl⟩

/-- **idw, one query**: the generated loop body appends the model's `idwRow` of the query's distance row: `none` (masked)
    when no station is within the tolerance or only one that is not at distance 0; one station with weight 1 at distance 0
    (exact-station rule, the collection stops there); otherwise weights `(1/d_i) · (1 / Σ_j 1/d_j)` in order of distance -/
theorem gensel_idw_step_eq (sqrt : ℚ → ℚ) (tol : ℚ) (ms : Option Int) (dl dla : Vec) (acc : List (Option LC)) (q : ℚ × ℚ) :
    Gen.selIdw_loop1 sqrt tol ms dl dla none acc q =
      acc ++ [idwRow (distRow (absSq sqrt) ldShort dl dla q.1 q.2) tol ms] := by
  have hnn : ∀ p ∈ nearer (distRow (absSq sqrt) ldShort dl dla q.1 q.2) tol ms, 0 ≤ p.1 := fun p hp =>
    inRangeSorted_nonneg (absSq_row_nonneg sqrt dl dla q.1 q.2) tol p (nearer_subset hp)
  unfold Gen.selIdw_loop1
  simp only [gensel_nearer_eq, gensel_idw_loops_shape.1, gensel_idw_loops_shape.2]
  rw [idwRow_eq_rowM]
  generalize nearer (distRow (absSq sqrt) ldShort dl dla q.1 q.2) tol ms = N at hnn ⊢
  obtain ⟨b, hb⟩ := cStep_collect N [] [] 0
  rw [List.zip_map', hb, ← rowOf_collect N hnn 0, rowOf, apply_ite (fun r : Option LC => acc ++ [r]),
    apply_ite (fun r : Option LC => acc ++ [r])]
  rfl

/-- **sel_idw**: the generated function returns, per query, the model's masked / weighted combination (repaired distance),
    or raises the same exception -/
theorem gensel_sel_idw_eq (sqrt : ℚ → ℚ) (ql qla : Vec) (tol : ℚ) (ms : Option Int) (dl dla : Vec) :
    Gen.selIdw sqrt ql qla tol ms dl dla = selIdwFixed (absSq sqrt) dl dla ql qla tol ms := by
  unfold Gen.selIdw selIdwFixed selIdw
  rw [gensel_init_eq, gensel_lons_eq]
  cases hv : validate dl ql qla with
  | error e => rfl
  | ok u =>
    have hloop : ∀ (l : List (ℚ × ℚ)) (acc : List (Option LC)),
        List.foldl (Gen.selIdw_loop1 sqrt tol ms dl dla none) acc l =
          acc ++ l.map fun q => idwRow (distRow (absSq sqrt) ldShort dl dla q.1 q.2) tol ms := by
      intro l
      induction l with
      | nil => intro acc; simp
      | cons q l ih => intro acc; rw [List.foldl_cons, gensel_idw_step_eq, ih]; simp
    simp only [Except.map, Except.bind, bind, hloop, List.nil_append]
    unfold distRows
    rw [← List.map_uncurry_zip_eq_zipWith, List.map_map]
    rfl

/-- **for a non-negative oracle** (what the driver checks of every table entry, what `SqrtOn` states) the `np.abs` around
    `np.sqrt` disappears: the generated selectors ARE the model's `selNearestIdsFixed` / `selIdwFixed` with the same oracle -/
theorem gensel_selectors_nonneg_oracle (sqrt : ℚ → ℚ) (h : ∀ x, 0 ≤ sqrt x) (ql qla : Vec) (tol : ℚ) (dl dla : Vec) :
    (∀ (unique exact : Bool) (missing : String),
      Gen.selNearestIds sqrt ql qla tol unique exact dl dla missing =
        selNearestIdsFixed sqrt dl dla ql qla tol unique exact (missingOf missing)) ∧
    (∀ ms : Option Int, Gen.selIdw sqrt ql qla tol ms dl dla = selIdwFixed sqrt dl dla ql qla tol ms) ∧
    (∀ lon lat, Gen.selDistance sqrt dl dla lon lat = distRow sqrt ldShort dl dla lon lat) := by
  refine ⟨fun u e m => ?_, fun ms => ?_, fun lon lat => ?_⟩
  · rw [gensel_sel_nearest_eq, gensel_oracle_nonneg sqrt h]
  · rw [gensel_sel_idw_eq, gensel_oracle_nonneg sqrt h]
  · rw [gensel_distance_eq, gensel_oracle_nonneg sqrt h]

/-- non-vacuity: a non-negative oracle that is an exact square root on the radicands of a Pythagorean layout -/
example : (∀ x : ℚ, 0 ≤ (fun x : ℚ => if x = 25 then (5 : ℚ) else 0) x) ∧
    Gen.selNearestIds (fun x => if x = 25 then 5 else 0) [13] [4] 5 false false [10, 16] [0, 8] "raise" = .ok [0] := by
  refine ⟨fun x => ?_, by decide +kernel⟩
  show (0 : ℚ) ≤ if x = 25 then (5 : ℚ) else 0
  split <;> norm_num

/-- **bbox membership**: the generated `sel_bbox` selects exactly the model's repaired (`Fixed`) station list — box in the
    query's own numbers widened by the tolerance, longitudes compared modulo 360 — and raises the same exceptions
    (`AssertionError` / `ValueError` of `Coordinates(...)`, `ValueError` for an empty selection) -/
theorem gensel_bbox_eq (ql qla : Vec) (tol : ℚ) (dl dla : Vec) :
    Gen.selBboxIds ql qla tol dl dla = selBboxIdsFixed dl dla ql qla tol := by
  unfold Gen.selBboxIds selBboxIdsFixed selBboxIdsRawFixed
  rw [gensel_init_eq]
  cases hv : validate dl ql qla with
  | error e => rfl
  | ok u =>
    simp only [Except.map, Except.bind, bind, amin_eq, amax_eq, bbox_where, List.length_eq_zero_iff, decide_eq_true_eq]

/-! ## convention of the reported longitudes

The statement `if coords.consistent is False: dsout.lon.values = coords._swap_longitude_convention(dsout.lon.values)` of
each selector is translated (`…Report`); what `dsout.lon.values` holds before it is xarray plumbing and pinned as text
(`…_tail_src`): the stored longitudes of the selected stations (`dset.isel(**{attrs.SITENAME: station_ids})`, read as
`Sel.take stored ids`) for `sel_nearest`/`sel_bbox`, `coords.lons` for `sel_idw`. -/

theorem gensel_report_eq (ql dl v : Vec) :
    Gen.selNearestIdsReport (Gen.selConsistent ql dl) v = if consistent ql dl then v else swapConv v := by
  unfold Gen.selNearestIdsReport
  rw [gensel_consistent_eq, gensel_swap_eq]
  cases consistent ql dl <;> rfl

theorem gensel_report_nearest_eq (stored ql dl : Vec) (ids : List Nat) :
    Gen.selNearestIdsReport (Gen.selConsistent ql dl) (Sel.take stored ids) = reportStations stored ql dl ids :=
  gensel_report_eq ql dl _

theorem gensel_report_bbox_eq (stored ql dl : Vec) (ids : List Nat) :
    Gen.selBboxIdsReport (Gen.selConsistent ql dl) (Sel.take stored ids) = reportStations stored ql dl ids :=
  gensel_report_eq ql dl _

theorem gensel_report_idw_eq (ql dl : Vec) :
    Gen.selIdwReport (Gen.selConsistent ql dl) (Gen.selLons ql dl) = reportIdw ql dl :=
  (gensel_report_eq ql dl _).trans (by rw [gensel_lons_eq]; rfl)

/-! ## literals, defaults, and source text that is pinned instead of translated -/

/-- `distance`: `% 360` twice, `360 - dlon`, two squares; the `xr.DataArray` unwrapping is the identity (pinned text) -/
theorem gensel_pins_distance :
    Gen.selDistance_lits = [360, 360, 360, 2, 2] ∧ Gen.selDistance_defaults = [] ∧
    Gen.selDistance_unwrap_src = "if isinstance(dist, xr.DataArray):\n    dist = dist.values" := by
  exact ⟨rfl, rfl, rfl⟩

/-- `_swap_longitude_convention`: `% 360`, `> 180` twice, `- 360`; `nearest`, `lons`: no literal, no default -/
theorem gensel_pins_convention :
    Gen.selSwap_lits = [360, 180, 180, 360] ∧ Gen.selSwap_defaults = [] ∧ Gen.selLons_lits = [] ∧
    Gen.selLons_defaults = [] ∧ Gen.selNearest_lits = [] ∧ Gen.selNearest_defaults = [] := by
  exact ⟨rfl, rfl, rfl, rfl, rfl, rfl⟩

/-- `Coordinates.__init__`: where each field comes from (`np.array` is the identity; the dataset's own coordinate is the
    default of `dset_lons/dset_lats` — xarray plumbing, pinned), and the stations-only test of `_validate` (pinned) -/
theorem gensel_pins_init :
    Gen.selInit_fields = [("dset", "dset"), ("_lons", "np.array(lons)"), ("lats", "np.array(lats)"), ("dset_lons", "dset[attrs.LONNAME].values if dset_lons is None else dset_lons"), ("dset_lats", "dset[attrs.LATNAME].values if dset_lats is None else dset_lats"), ("consistent", "selConsistent")] ∧
    Gen.selInit_stations_only_src = "if attrs.LONNAME in self.dset.dims or attrs.LATNAME in self.dset.dims or attrs.SITENAME not in self.dset.dims:\n    raise NotImplementedError('sel only supports stations not gridded data.')" ∧
    Gen.selInit_lits = [] := by
  exact ⟨rfl, rfl, rfl⟩

/-- the names the translated text relies on (`np`, `xr`, `attrs`, `logging`) are bound by exactly these imports; the
    translator also checks that the module defines nothing else than `logger`, `Coordinates` (with its nine methods) and
    the three selectors, so that no builtin (`min`, `max`, `len`, `sum`, `zip`, `abs`, `float`) is shadowed -/
theorem gensel_pins_imports :
    Gen.sel_imports = ["import logging", "import numpy as np", "import xarray as xr",
      "from wavespectra.core.attributes import attrs, set_spec_attributes"] := rfl

/-- `SpecDataset.sel` (not translated: dictionary dispatch and `**kwargs`): `method="idw"`, `tolerance=2.0` by default; the
    table `idw/bbox/nearest/None → sel_idw/sel_bbox/sel_nearest/sel_nearest`, `ValueError` for any other method,
    `exact=True` for `method=None`, the dataset's own coordinates as default `dset_lons/dset_lats`, all passed by keyword -/
theorem gensel_pins_dispatch :
    Gen.selDispatch_defaults = [("method", "'idw'"), ("tolerance", "2.0"), ("dset_lons", "None"), ("dset_lats", "None")] ∧
    Gen.selDispatch_tolerance_default = 2 ∧
    Gen.selDispatch_args = ["self", "lons", "lats", "method", "tolerance", "dset_lons", "dset_lats"] ∧
    Gen.selDispatch_src = ["funcs = {'idw': sel_idw, 'bbox': sel_bbox, 'nearest': sel_nearest, None: sel_nearest}", "try:\n    func = funcs[method]\nexcept KeyError:\n    raise ValueError(f\"Method '{method}' not supported, valid ones are {list(funcs.keys())}\")", "if method is None:\n    kwargs.update({'exact': True})", "if dset_lons is None:\n    dset_lons = self.dset[attrs.LONNAME].values", "if dset_lats is None:\n    dset_lats = self.dset[attrs.LATNAME].values", "dsout = func(dset=self.dset, lons=lons, lats=lats, tolerance=tolerance, dset_lons=dset_lons, dset_lats=dset_lats, **kwargs)", "return dsout"] := by
  exact ⟨rfl, rfl, rfl, rfl⟩

/-- `nearer`: defaults `tolerance=np.inf`, `max_sites=None` (every caller in the module passes both) -/
theorem gensel_pins_nearer :
    Gen.selNearer_defaults = [("tolerance", "np.inf"), ("max_sites", "None")] ∧ Gen.selNearer_lits = [] := by
  exact ⟨rfl, rfl⟩

/-- `sel_nearest`: defaults (`tolerance=2.0`, `unique=False`, `exact=False`, `missing="raise"`), literals (`2.0`, `> 0`) and
    the xarray tail (pinned verbatim: `isel` of the selected stations, the reporting `if`, the new `site` index) -/
theorem gensel_pins_sel_nearest :
    Gen.selNearestIds_defaults = [("tolerance", "2.0"), ("unique", "False"), ("exact", "False"), ("dset_lons", "None"), ("dset_lats", "None"), ("missing", "'raise'")] ∧
    Gen.selNearestIds_tolerance_default = 2 ∧ Gen.selNearestIds_lits = [2, 0] ∧
    Gen.selNearestIds_tail_src = ["dsout = dset.isel(**{attrs.SITENAME: station_ids})", "if coords.consistent is False:\n    dsout.lon.values = coords._swap_longitude_convention(dsout.lon.values)", "dsout = dsout.assign_coords({attrs.SITENAME: np.arange(len(station_ids))})", "return dsout"] := by
  exact ⟨rfl, rfl, rfl, rfl⟩

/-- `sel_bbox`: default `tolerance=0.0`, literals (`0.0`, `% 360`, `[0]`, `size == 0`) and the xarray tail (pinned) -/
theorem gensel_pins_sel_bbox :
    Gen.selBboxIds_defaults = [("tolerance", "0.0"), ("dset_lons", "None"), ("dset_lats", "None")] ∧
    Gen.selBboxIds_tolerance_default = 0 ∧ Gen.selBboxIds_lits = [0, 360, 0, 0] ∧
    Gen.selBboxIds_tail_src = ["dsout = dset.isel(**{attrs.SITENAME: station_ids})", "if coords.consistent is False:\n    dsout.lon.values = coords._swap_longitude_convention(dsout.lon.values)", "dsout = dsout.assign_coords({attrs.SITENAME: np.arange(len(station_ids))})", "return dsout"] := by
  exact ⟨rfl, rfl, rfl, rfl⟩

/-- `sel_idw`: defaults `tolerance=2.0`, `max_sites=4`, literals and the xarray tail (pinned: concatenation, transposition,
    `site/lon/lat` from `coords.lons/lats`, the reporting `if`, attributes) -/
theorem gensel_pins_sel_idw :
    Gen.selIdw_defaults = [("tolerance", "2.0"), ("max_sites", "4"), ("dset_lons", "None"), ("dset_lats", "None")] ∧
    Gen.selIdw_tolerance_default = 2 ∧ Gen.selIdw_max_sites_default = 4 ∧
    Gen.selIdw_lits = [2, 4, 0, 0, 0, 1, 1, 0, 1, 0, 1, 0, 0, 0] ∧
    Gen.selIdw_tail_src = ["dsout = xr.concat(dsout, dim=attrs.SITENAME)", "for dvar in dsout.data_vars:\n    if set(dsout[dvar].dims) == set(dset[dvar].dims):\n        dsout[dvar] = dsout[dvar].transpose(*dset[dvar].dims)", "dsout[attrs.SITENAME] = np.arange(len(coords.lons))", "dsout[attrs.LONNAME] = (attrs.SITENAME, coords.lons)", "dsout[attrs.LATNAME] = (attrs.SITENAME, coords.lats)", "if coords.consistent is False:\n    dsout.lon.values = coords._swap_longitude_convention(dsout.lon.values)", "dsout.attrs = dset.attrs", "set_spec_attributes(dsout)", "return dsout"] := by
  exact ⟨rfl, rfl, rfl, rfl, rfl⟩

end WS.C14
