import WsVerif.Model.Neigh
import WsVerif.Model.Flood
import WsVerif.Model.Specpart
import WsVerif.Lemmas.Fld
/-!
# C20 (stretch half) — the flooding loops of `pt_fld` stay inside their buffers and terminate

Namespace `WS.C20fld`.  `Model/Specpart.lean` transliterates `pt_fld` loop by loop
(`scan1a`/`step1a`, `nbr1b`/`step1b`, `nbr1c`/`flood1c`/`step1c`, `sweepPix`/`step2`, `levelStep`, `ptFld`); every array
access goes through `rd`/`wr`, which raise the `oob` flag (the `Bool` state of `M = StateM Bool`) when the index is
outside the array, and every `for(;;)` of the C runs on fuel, reporting exhaustion (`brk = false` ⇒ `fuelOut`).
All statements below are about **running** the model function from the flag `false`: `(f … false).2 = false` is
"no out-of-range access", the break flag `= true` is "the loop left through one of the C's `break`s, the fuel sufficed".

The theorems here are read off two Hoare triples (`Std.Do`) per loop, proved in `Lemmas/Fld/*.lean` (see `Lemmas/Fld.lean`):
* `Fld/S1a`, `S1b`, `S1c`, `S2`, `Top`, `Sort`, `Part` (`*_spec`): the flag stays down, the fuel suffices, the structural
  invariants (`QRep`, `Post1a`, `QC`, `Idle`), and `Ghost tr E (TR …)`: if the run records its ghost trace (and, for a
  loop entered in the middle, `E` holds of the trace handed in), the label effect of the trace is the concrete label
  array.  The `*_safe` theorems below take `E := False`, the `*_trace_labels` theorems `tr := true`, `E := True`.
* `Fld/G1a`, `G1b`, `G1c`, `GTop`, `G2` (`*_specG`): the simulation relation of `Fld/Sim` between the concrete arrays and
  the state of the abstract flooding machine after the trace so far; `Fld/GCtx` supplies its context for `partition`.
`partition` as a whole is executed once (`Fld.partitionM_run`); both layers reach it from there.

Static facts assumed by the loop theorems (all satisfied by what `partition` hands to `pt_fld`, see the examples and
`table_ok`): `NbOK n nb` — the neighbour table has `9n` slots, counts `0..8`, entries valid pixels;
`IndOK n ind` — `ind` lists each pixel `0..n-1` exactly once; buffers of size `n`; `2 ≤ n` (a non-constant spectrum has
at least two bins).

**Proved for all inputs**
* (b) FIFO discipline: `fifo_add_discipline`, `fifo_first_discipline`, `fifo_empty_test` — the circular buffer
  `(iq, iq_start, iq_end)` of `n` slots represents a list of at most `n` live entries (`QRep`); `fifo_add` on a
  non-full queue appends without touching live entries, `fifo_first` on a non-empty queue returns the oldest entry,
  `iq_start == iq_end` is the emptiness test as long as fewer than `n` entries are live; indices stay in `[0, n)`.
  In particular the uninitialised (`malloc`) content of `iq` is never read: every read is of a live entry.
* (a) `step1a_safe` (marking loop), `flood1c_safe`, `step1c_safe` (seeding / flooding), (c) `step1b_safe`
  (distance-ordered propagation; the fictitious pixel `-100` is never used as an index; occupancy `≤ n`),
  (d) `step2_safe` (five sweeps), (e) `levelStep_safe`, `ptFld_safe`: no out-of-range access, every `for(;;)`
  terminates within its fuel, the queue is empty between phases.
* `table_ok`: the table built by `ptnghb` satisfies `NbOK` for every grid; `ptsort_safe`: the executable counting
  sort makes no out-of-range access and returns a listing of the pixels (`IndOK`), for every level map in range;
  `ptsort_eq_spec`, `partition_ind_sorted`: it returns exactly `ptsortSpec` (sorted by level, stable).
* **`partition_memory_safe : G1Statement`** and **`partition_terminates : G2Statement`**: for every grid
  `nk, nth ≥ 1`, every `ihmax ≥ 1`, every integer spectrum of `nk·nth` values, every filling of the uninitialised
  queue buffer and with or without ghost trace, `partition` (copy-in, range, constant branch, levels, `ptsort`,
  `pt_fld`, copy-out) never raises the out-of-bounds flag and never reports fuel exhaustion.

* towards (G3): `valid_trace_labels` (on any valid trace the abstract `lab`/`K`/`snap` are the label effect `effRun` of
  the trace), `ptFld_trace_labels` (the label effect of the trace emitted by `pt_fld` is the concrete `imo`, the last
  seed number is `npart` — for all inputs), `ptFld_valid_trace_labels`, `partition_trace_labels`,
  `partition_valid_trace_labels` (hence validity alone implies that the abstract labels are the returned label map:
  the `labelsOk` half of `SP.verdict` needs no per-input check once the trace is valid).

* **`partition_trace_valid : G3Statement`**: the emitted ghost trace is accepted by `Flood.traceValid` on the grid's graph
  for all inputs (`partition_trace_run`: it is `Flood.Valid`); `ptFld_trace_valid` is the same for `pt_fld` on any graph
  and table related by `Ctx` (`Lemmas/Fld/Sim.lean`), `partition_ctx` provides that context; with
  `partition_valid_trace_labels` this gives `partition_abstract_labels` / `partition_abstract_final` (used by
  `Props/C04sound.lean`: `partition_sound`).  What the simulation carries through the loops: 1a marks exactly the level's
  pixels (sortedness of `ind`) and queues those touching a lower level; 1b keeps
  the queue in geodesic-distance order (`D` processed, `A` current distance, fictitious pixel, `B` next distance), every
  dequeued pixel has a final labelled neighbour of smaller distance, and when the queue is empty no `MASK` pixel
  touches a labelled one (symmetry of the table); 1c floods each new seed with the queue as the abstract frontier; step 2
  reads the snapshot.
-/
namespace WS.C20fld
open WS.SP WS.Fld WS.Neigh

/-! ## the stretch goals, at full strength -/

/-- (G1) memory safety of the whole routine: for every grid, every level count, every integer spectrum of the grid's
    size and every initial content of the queue buffer, `partition` never raises the out-of-bounds flag.
    Proved: `partition_memory_safe`. -/
def G1Statement : Prop :=
  ∀ (nk nth ihmax : Nat), 1 ≤ nk → 1 ≤ nth → 1 ≤ ihmax → ∀ (spec : Array Int), spec.size = nk * nth →
    ∀ (iqFill : Int) (tr : Bool), (partition nk nth ihmax (table nk nth) spec iqFill tr).oob = false

/-- (G2) termination: the fuel of the three `for(;;)` loops always suffices.  Proved: `partition_terminates`. -/
def G2Statement : Prop :=
  ∀ (nk nth ihmax : Nat), 1 ≤ nk → 1 ≤ nth → 1 ≤ ihmax → ∀ (spec : Array Int), spec.size = nk * nth →
    ∀ (iqFill : Int) (tr : Bool), (partition nk nth ihmax (table nk nth) spec iqFill tr).fuelOut = false

/-- (G3) the ghost trace of the transliteration is always a valid trace of the abstract flooding machine on the
    grid's graph.  Proved: `partition_trace_valid` (it was checked per explored input by `harness/checks/c04.py`). -/
def G3Statement : Prop :=
  ∀ (nk nth ihmax : Nat), 1 ≤ nk → 1 ≤ nth → 1 ≤ ihmax → ∀ (spec : Array Int), spec.size = nk * nth →
    ∀ (iqFill : Int),
      let r := partition nk nth ihmax (table nk nth) spec iqFill true
      r.const = false → (Flood.traceValid (graphOf nk nth (rows nk nth) r.imi) r.trace).1 = true

/-! ## (b) FIFO discipline -/

/-- `fifo_add` on a queue with a free slot: the new element is appended, live entries are untouched, `iq_end` stays in
    `[0, n)` and the written slot is inside the buffer. -/
theorem fifo_add_discipline {n : Nat} {iq : Array Int} {qs qe : Int} {q : List Int} (h : QRep n iq qs qe q)
    (hfree : q.length < n) (v : Int) :
    (0 ≤ qe ∧ qe.toNat < iq.size) ∧ QRep n (iq.set! qe.toNat v) qs (fifoNextEnd n qe) (q ++ [v]) :=
  ⟨by have := h.qe_range; omega, h.add hfree v⟩

/-- `fifo_first` on a non-empty queue: the slot read is inside the buffer and holds the oldest live entry; the rest of
    the queue is what remains. -/
theorem fifo_first_discipline {n : Nat} {iq : Array Int} {qs qe v : Int} {q : List Int} (h : QRep n iq qs qe (v :: q)) :
    (0 ≤ qs ∧ qs.toNat < iq.size) ∧ iq[qs.toNat]! = v ∧ QRep n iq (fifoNextStart n qs) qe q :=
  ⟨h.qs_ok, h.pop.1, h.pop.2⟩

/-- `fifo_empty` (`iq_start == iq_end`) decides emptiness as long as fewer than `n` entries are live. -/
theorem fifo_empty_test {n : Nat} {iq : Array Int} {qs qe : Int} {q : List Int} (h : QRep n iq qs qe q)
    (hl : q.length < n) : qs = qe ↔ q = [] :=
  h.empty_iff hl

example : QRep 3 #[7, 8, 9] 2 1 [9, 7] :=
  ⟨rfl, by decide, by decide, by decide, by decide, by
    intro i hi
    have : i = 0 ∨ i = 1 := by simp at hi; omega
    rcases this with rfl | rfl <;> rfl⟩

/-! ## static facts -/

/-- the neighbour table of every grid satisfies the bounds the loops rely on -/
theorem table_ok (mk mth : Nat) : NbOK (mk * mth) (table mk mth) := WS.Fld.table_ok mk mth

/-! ## (a) step 1a and step 1c, (c) step 1b, (d) step 2, (e) composition -/

/-- 1a: from an empty queue and a cursor in range, the marking loop makes no out-of-range access, leaves through a
    `break` (fuel `n+1` suffices), and hands over a queue of distinct valid `MASK` pixels with one slot spare. -/
theorem step1a_safe {n : Nat} {nb imi ind : Array Int} (ih : Int) (tr : Bool) {imo imd iq : Array Int} {qs qe m : Int}
    (trace : Array Flood.Step)
    (hnb : NbOK n nb) (hind : IndOK n ind) (hi : imi.size = n) (hs : imo.size = n) (hd : imd.size = n)
    (hq : QRep n iq qs qe []) (hm0 : 0 ≤ m) (hm1 : m < n) :
    let r := step1a n nb imi ind ih tr imo imd iq qe m trace false
    r.2 = false ∧ r.1.2.2.2.2.2.2 = true ∧ Post1a n r.1.1 r.1.2.1 r.1.2.2.1 qs r.1.2.2.2.1 :=
  have h := (triple_iff _ _ _).mp (step1a_spec hnb hind hi 0 qs ih tr imo imd iq qe m trace) false
    ⟨rfl, Ghost.vacuous, hs, hd, hq, hm0, hm1⟩
  ⟨h.1, h.2.2⟩

/-- 1b: from the queue left by 1a, the propagation loop makes no out-of-range access (the fictitious pixel is never
    used as an index, the queue never holds more than `n` entries), leaves through its `break` within `4n+8`
    iterations, and leaves the queue empty. -/
theorem step1b_safe {n : Nat} {nb : Array Int} (tr : Bool) {imo imd iq : Array Int} {qs qe : Int}
    (trace : Array Flood.Step) (hnb : NbOK n nb) (h : Post1a n imo imd iq qs qe) :
    let r := step1b n nb tr imo imd iq qs qe trace false
    r.2 = false ∧ r.1.2.2.2.2.2.2 = true ∧ r.1.1.size = n ∧ r.1.2.1.size = n ∧
      QRep n r.1.2.2.1 r.1.2.2.2.1 r.1.2.2.2.2.1 [] :=
  have h := (triple_iff _ _ _).mp (step1b_spec hnb 0 tr imo imd iq qs qe trace) false ⟨rfl, Ghost.vacuous, h⟩
  ⟨h.1, h.2.2⟩

/-- 1c, inner `for(;;)`: flooding a new basin from a queue of distinct non-`MASK` pixels makes no out-of-range
    access, stops through the emptiness test within `n+2` iterations, and leaves the queue empty. -/
theorem flood1c_safe {n : Nat} {nb : Array Int} (tr : Bool) {icl : Int} {imo iq : Array Int} {qs qe : Int}
    (trace : Array Flood.Step) (q : List Int)
    (hnb : NbOK n nb) (hs : imo.size = n) (hicl : icl ≠ -2)
    (hq : QRep n iq qs qe q) (hc : QC n imo [] q) (hl : q.length + 1 ≤ n) :
    let r := flood1c n nb tr icl imo iq qs qe trace false
    r.2 = false ∧ r.1.2.2.2.2.2 = true ∧ r.1.1.size = n ∧ QRep n r.1.2.1 r.1.2.2.1 r.1.2.2.2.1 [] :=
  have h := (triple_iff _ _ _).mp (flood1c_spec hnb tr icl imo iq qs qe trace) false
    ⟨rfl, Ghost.vacuous, Ghost.vacuous, hs, hicl, q, hq, hc, hl⟩
  ⟨h.1, h.2.2⟩

/-- 1c: from an idle state (queue empty) the seeding loop makes no out-of-range access, neither it nor any of its
    floods runs out of fuel, and the state is idle again. -/
theorem step1c_safe {n : Nat} {nb imi ind : Array Int} (ih : Int) (tr : Bool) {imo imd iq : Array Int}
    {qs qe icl m : Int} (trace : Array Flood.Step)
    (hnb : NbOK n nb) (hind : IndOK n ind) (hi : imi.size = n) (hn : 2 ≤ n)
    (h : Idle n imo imd iq qs qe icl m) :
    let r := step1c n nb imi ind ih tr imo imd iq qs qe icl m trace false
    r.2 = false ∧ r.1.2.2.2.2.2.2.2.2 = false ∧
      Idle n r.1.1 r.1.2.1 r.1.2.2.1 r.1.2.2.2.1 r.1.2.2.2.2.1 r.1.2.2.2.2.2.1 r.1.2.2.2.2.2.2.1 :=
  have h' := (triple_iff _ _ _).mp (step1c_spec hnb hind hi hn ih tr imo imd iq qs qe icl m trace) false
    ⟨rfl, Ghost.vacuous, h⟩
  ⟨h'.1, h'.2.2⟩

/-- 2: the five clean-up sweeps make no out-of-range access (bounded loops). -/
theorem step2_safe {n : Nat} {nb zp : Array Int} (zpmax : Int) (tr : Bool) {imo : Array Int}
    (trace : Array Flood.Step) (hnb : NbOK n nb) (hz : zp.size = n) (hs : imo.size = n) :
    let r := step2 n nb zp zpmax tr imo trace false
    r.2 = false ∧ r.1.1.size = n :=
  have h := (triple_iff _ _ _).mp (step2_spec 0 zpmax tr trace Ghost.vacuous hnb hz hs) false rfl
  ⟨h.1, h.2.2⟩

/-- one level of step 1 (1a; 1b; 1c): idle state to idle state, no out-of-range access, no loop out of fuel. -/
theorem levelStep_safe {n : Nat} {nb imi ind : Array Int} (ihN : Nat) (tr : Bool) {imo imd iq : Array Int}
    {qs qe icl m : Int} (trace : Array Flood.Step)
    (hnb : NbOK n nb) (hind : IndOK n ind) (hi : imi.size = n) (hn : 2 ≤ n)
    (h : Idle n imo imd iq qs qe icl m) :
    let r := levelStep n nb imi ind ihN tr imo imd iq qs qe icl m trace false
    r.2 = false ∧ r.1.2.2.2.2.2.2.2.2 = false ∧
      Idle n r.1.1 r.1.2.1 r.1.2.2.1 r.1.2.2.2.1 r.1.2.2.2.2.1 r.1.2.2.2.2.2.1 r.1.2.2.2.2.2.2.1 :=
  have h' := (triple_iff _ _ _).mp (levelStep_spec hnb hind hi hn ihN tr imo imd iq qs qe icl m trace) false
    ⟨rfl, Ghost.vacuous, h⟩
  ⟨h'.1, h'.2.2⟩

/-- **`pt_fld` as a whole**: for every number of levels, every filling of the uninitialised queue buffer and every
    level map `imi`, with a valid neighbour table and `ind` a listing of the pixels, `pt_fld` makes no out-of-range
    access and never runs out of fuel. -/
theorem ptFld_safe {n : Nat} {nb imi ind zp : Array Int} (ihmax : Nat) (iqFill : Int) (tr : Bool)
    (hnb : NbOK n nb) (hind : IndOK n ind) (hi : imi.size = n) (hz : zp.size = n) (hn : 2 ≤ n) :
    let r := ptFld n nb imi ind zp ihmax iqFill tr false
    r.2 = false ∧ r.1.fuelOut = false ∧ r.1.imo.size = n :=
  have h := (triple_iff _ _ _).mp (ptFld_spec ihmax iqFill tr hnb hind hi hz hn) false rfl
  ⟨h.1, h.2.1, h.2.2.1⟩

/-- the executable counting sort `ptsort`: for levels in `[0, ihmax)` no out-of-range access (`numv[imi[i]]`,
    `iaddr[i+1]`, `iorder[i]`, `ind[iorder[i]]`) and the result lists every pixel exactly once -/
theorem ptsort_safe {ihmax n : Nat} {imi : Array Int} (hi : 1 ≤ ihmax) (hs : imi.size = n)
    (hl : ∀ i, i < n → 0 ≤ imi[i]! ∧ imi[i]! < ihmax) :
    let r := ptsort ihmax n imi false
    r.2 = false ∧ IndOK n r.1 :=
  have h := (triple_iff _ _ _).mp (ptsort_spec hi hs hl) false rfl
  ⟨h.1, h.2.1⟩

example : ∀ i, i < 2 → (0 : Int) ≤ (#[1, 0] : Array Int)[i]! ∧ (#[1, 0] : Array Int)[i]! < ((2 : Nat) : Int) := by
  intro i hi
  have : i = 0 ∨ i = 1 := by omega
  rcases this with rfl | rfl <;> decide

/-- the executable `ptsort` computes its specification `ptsortSpec` (pixels level by level, increasing pixel index
    inside a level; `C04.ptsort_perm`, `C04.ptsort_sorted` are about that list) — so far only compared per input
    (`Verdict.indOk`) -/
theorem ptsort_eq_spec {ihmax n : Nat} {imi : Array Int} (hi : 1 ≤ ihmax) (hs : imi.size = n)
    (hl : ∀ i, i < n → 0 ≤ imi[i]! ∧ imi[i]! < ihmax) :
    (ptsort ihmax n imi false).1.toList =
      (ptsortSpec ihmax n (fun p => (imi[p]!).toNat)).map (fun (x : Nat) => (x : Int)) :=
  ((triple_iff _ _ _).mp (ptsort_spec hi hs hl) false rfl).2.2

/-- in every non-constant run of `partition` the sorted address table `ind` is the specification list for the
    run's own level map — the first conjunct of `Verdict.indOk`, for all inputs -/
theorem partition_ind_sorted (nk nth ihmax : Nat) (hk : 1 ≤ nk) (ht : 1 ≤ nth) (hi : 1 ≤ ihmax) (spec : Array Int)
    (hs : spec.size = nk * nth) (iqFill : Int) (tr : Bool) :
    let r := partition nk nth ihmax (table nk nth) spec iqFill tr
    r.const = false →
      r.ind.toList = (ptsortSpec ihmax (nk * nth) (fun p => (r.imi[p]!).toNat)).map (fun (x : Nat) => (x : Int)) :=
  ((triple_iff _ _ _).mp (partitionM_spec nk nth ihmax spec iqFill tr hk ht hi hs) false rfl).2.2.1

/-- **(G1)** `partition` never reads or writes outside its buffers. -/
theorem partition_memory_safe : G1Statement := by
  intro nk nth ihmax hk ht hi spec hs iqFill tr
  exact ((triple_iff _ _ _).mp (partitionM_spec nk nth ihmax spec iqFill tr hk ht hi hs) false rfl).1

/-- **(G2)** `partition` never runs out of fuel: all `for(;;)` loops of `pt_fld` terminate within the model's bounds
    (`n+1`, `4n+8`, `n+1`, `n+2` iterations). -/
theorem partition_terminates : G2Statement := by
  intro nk nth ihmax hk ht hi spec hs iqFill tr
  exact ((triple_iff _ _ _).mp (partitionM_spec nk nth ihmax spec iqFill tr hk ht hi hs) false rfl).2.1

example : (partition 2 2 3 (table 2 2) #[0, 5, 2, 5]).oob = false :=
  partition_memory_safe 2 2 3 (by decide) (by decide) (by decide) _ rfl 0 false

/-! ## towards (G3): the ghost trace records every label write -/

/-- On **every valid trace** (any graph, any trace) the abstract machine's `lab`, `K`, `snap` are the *label effect*
    of the trace (`effRun`: the updates of `Flood.step` with the guards ignored). -/
theorem valid_trace_labels {g : Flood.Graph} {t : List Flood.Step} {s : Flood.St} (h : Flood.run g t = some s) :
    (s.lab, s.K, s.snap) = effRun g.n t :=
  run_eff h

/-- **The label effect of the trace emitted by `pt_fld` is the concrete label array**, for all inputs: `mark`,
    `inherit`, `conflict`, `seed`, `flood`, `sweep`/`resolve` are emitted exactly at the writes of `imo` (`imd` in
    step 2) with the written value, and the last `seed` number is `npart`. -/
theorem ptFld_trace_labels {n : Nat} {nb imi ind zp : Array Int} (ihmax : Nat) (iqFill : Int)
    (hnb : NbOK n nb) (hind : IndOK n ind) (hi : imi.size = n) (hz : zp.size = n) (hn : 2 ≤ n) :
    let r := (ptFld n nb imi ind zp ihmax iqFill true false).1
    (effRun n r.trace.toList).1 = r.imo.map labC ∧ (effRun n r.trace.toList).2.1 = r.npart.toNat ∧ 0 ≤ r.npart := by
  have h := ((triple_iff _ _ _).mp (ptFld_spec ihmax iqFill true hnb hind hi hz hn) false rfl).2.2.2.of_true
  exact ⟨h.2.1, h.2.2, h.1⟩

/-- Consequence: **if** the emitted trace is valid on a graph with `n` vertices (what (G3) asserts for the grid
    graph), the abstract machine ends with exactly the concrete labels (`-1 ↦ init`, `-2 ↦ mask`, `0 ↦ wshed`,
    `k ↦ basin k`) and `K = npart` — the `labelsOk` comparison of `SP.verdict`, for all inputs. -/
theorem ptFld_valid_trace_labels {n : Nat} {nb imi ind zp : Array Int} (ihmax : Nat) (iqFill : Int)
    (hnb : NbOK n nb) (hind : IndOK n ind) (hi : imi.size = n) (hz : zp.size = n) (hn : 2 ≤ n)
    (g : Flood.Graph) (hg : g.n = n) (s : Flood.St)
    (hv : Flood.run g (ptFld n nb imi ind zp ihmax iqFill true false).1.trace.toList = some s) :
    let r := (ptFld n nb imi ind zp ihmax iqFill true false).1
    (∀ p, p < n → s.labOf p = labC r.imo[p]!) ∧ (s.K : Int) = r.npart := by
  intro r
  have h := ptFld_trace_labels ihmax iqFill hnb hind hi hz hn
  have he := valid_trace_labels hv
  rw [hg] at he
  have hsz := (ptFld_safe ihmax iqFill true hnb hind hi hz hn).2.2
  have hl : s.lab = r.imo.map labC := by rw [← h.1]; exact congrArg (·.1) he
  have hk : s.K = r.npart.toNat := by rw [← h.2.1]; exact congrArg (·.2.1) he
  have hnp : 0 ≤ r.npart := h.2.2
  refine ⟨fun p hp => ?_, by rw [hk]; omega⟩
  unfold Flood.St.labOf
  rw [hl]
  exact getD_map _ _ (by rw [hsz]; exact hp)

/-- the same for `partition` as a whole and its returned (row-major) label map: for every input, the label effect of
    the emitted trace at pixel `ifreq + nk·iang` is the label returned for bin `[ifreq][iang]` -/
theorem partition_trace_labels (nk nth ihmax : Nat) (hk : 1 ≤ nk) (ht : 1 ≤ nth) (hi : 1 ≤ ihmax) (spec : Array Int)
    (hs : spec.size = nk * nth) (iqFill : Int) :
    let r := partition nk nth ihmax (table nk nth) spec iqFill true
    r.const = false → ∀ f t, f < nk → t < nth →
      (effRun (nk * nth) r.trace.toList).1.getD (f + nk * t) .init = labC r.labels[f * nth + t]! := by
  intro r hc f t hf ht'
  obtain ⟨imoF, hsz, he, hl⟩ :=
    ((triple_iff _ _ _).mp (partitionM_spec nk nth ihmax spec iqFill true hk ht hi hs) false rfl).2.2.2.2 hc
  show (effRun (nk * nth) (partitionM nk nth ihmax (table nk nth) spec iqFill true false).1.trace.toList).1.getD _ _ = _
  rw [he.of_true, getD_map _ _ (by rw [hsz]; exact NeighL.lin_lt hf ht'), ← hl f t hf ht']
  rfl

/-- hence: **whenever the trace emitted by `partition` is valid** on a graph with `nk·nth` vertices, the abstract
    machine's final label of pixel `ifreq + nk·iang` is the returned label of bin `[ifreq][iang]` — the `labelsOk`
    comparison of `SP.verdict` holds for all inputs as soon as the trace is valid (all returned labels being `≥ 0`). -/
theorem partition_valid_trace_labels (nk nth ihmax : Nat) (hk : 1 ≤ nk) (ht : 1 ≤ nth) (hi : 1 ≤ ihmax)
    (spec : Array Int) (hs : spec.size = nk * nth) (iqFill : Int) (g : Flood.Graph) (hg : g.n = nk * nth) (s : Flood.St) :
    let r := partition nk nth ihmax (table nk nth) spec iqFill true
    r.const = false → Flood.run g r.trace.toList = some s →
      ∀ f t, f < nk → t < nth → s.labOf (f + nk * t) = labC r.labels[f * nth + t]! := by
  intro r hc hv f t hf ht'
  have he := valid_trace_labels hv
  rw [hg] at he
  have hl : s.lab = (effRun (nk * nth) r.trace.toList).1 := congrArg (·.1) he
  unfold Flood.St.labOf
  rw [hl]
  exact partition_trace_labels nk nth ihmax hk ht hi spec hs iqFill hc f t hf ht'

example : Flood.run ⟨0, fun _ => [], fun _ => 0⟩ [] = some (Flood.St.init 0) := rfl

/-! ## (G3): the ghost trace is always valid -/

/-- **`pt_fld` emits a valid trace** on every graph `g` that is what the routine was given: `Ctx n nb imi ind g` says that
    the rows of the neighbour table `nb` are the adjacency lists of `g` (symmetric), that the level map of `g` is `imi`,
    and that `ind` lists the pixels sorted by level.  Every guard of the abstract machine holds along the trace
    (`mark`; `inherit`, `conflict`, `finalize`; `endqueue`; `seed`, `flood`, `closed`; `endlevel`; `sweep`, `resolve`). -/
theorem ptFld_trace_valid {n : Nat} {nb imi ind zp : Array Int} {g : Flood.Graph} (C : Ctx n nb imi ind g) (ihmax : Nat)
    (iqFill : Int) (hz : zp.size = n) (hn : 2 ≤ n) (hl : ∀ p, p < n → g.level p < ihmax) :
    Flood.Valid g (ptFld n nb imi ind zp ihmax iqFill true false).1.trace.toList := by
  obtain ⟨s, hrun, -⟩ := ((triple_iff _ _ _).mp (ptFld_specG C ihmax iqFill hz hn hl) false rfl).2
  unfold Flood.Valid
  rw [hrun]; rfl

/-- what `partition` hands to `pt_fld` is such a context: the cylinder table and the graph built from the same rows, the
    discretised levels, the output of the counting sort -/
theorem partition_ctx (mk mth ihmax : Nat) {imi ind : Array Int} (hs : imi.size = mk * mth)
    (hl : ∀ i, i < mk * mth → 0 ≤ imi[i]! ∧ imi[i]! < ihmax) (hind : IndOK (mk * mth) ind)
    (he : ind.toList = (ptsortSpec ihmax (mk * mth) (fun p => (imi[p]!).toNat)).map (fun (x : Nat) => (x : Int))) :
    Ctx (mk * mth) (table mk mth) imi ind (graphOf mk mth (rows mk mth) imi) :=
  ctx_partition mk mth ihmax hs hl hind he

/-- for all inputs, replaying the emitted trace on the grid's graph succeeds, leaves at pixel `ifreq + nk·iang` the label
    returned for bin `[ifreq][iang]`, and (what `Flood.Complete` needs besides "no watershed pixel left") ends idle or
    sweeping with every level processed -/
theorem partition_abstract_final (nk nth ihmax : Nat) (hk : 1 ≤ nk) (ht : 1 ≤ nth) (hi : 1 ≤ ihmax)
    (spec : Array Int) (hs : spec.size = nk * nth) (iqFill : Int) :
    let r := partition nk nth ihmax (table nk nth) spec iqFill true
    r.const = false → ∃ s, Flood.run (graphOf nk nth (rows nk nth) r.imi) r.trace.toList = some s ∧
      (s.phase = .idle ∨ s.phase = .sweeping) ∧
      (∀ p, p < nk * nth → (graphOf nk nth (rows nk nth) r.imi).level p < s.h) ∧
      ∀ f t, f < nk → t < nth → s.labOf (f + nk * t) = labC r.labels[f * nth + t]! := by
  intro r hc
  obtain ⟨s, hrun, hph, hh⟩ :=
    ((triple_iff _ _ _).mp (partitionM_specG nk nth ihmax spec iqFill hk ht hi hs) false rfl).2 hc
  exact ⟨s, hrun, hph, hh, partition_valid_trace_labels nk nth ihmax hk ht hi spec hs iqFill _ rfl s hc hrun⟩

/-- the ghost trace of every non-constant run of `partition` runs through the abstract flooding machine on the grid's
    graph: `Flood.Valid` -/
theorem partition_trace_run (nk nth ihmax : Nat) (hk : 1 ≤ nk) (ht : 1 ≤ nth) (hi : 1 ≤ ihmax) (spec : Array Int)
    (hs : spec.size = nk * nth) (iqFill : Int) :
    let r := partition nk nth ihmax (table nk nth) spec iqFill true
    r.const = false → Flood.Valid (graphOf nk nth (rows nk nth) r.imi) r.trace.toList := by
  intro r hc
  obtain ⟨s, hrun, -⟩ := partition_abstract_final nk nth ihmax hk ht hi spec hs iqFill hc
  exact (congrArg Option.isSome hrun).trans rfl

/-- **(G3)** the ghost trace emitted by `partition` is accepted by the executable checker `Flood.traceValid` on the grid's
    graph, for every grid, every level count, every spectrum and every filling of the queue buffer. -/
theorem partition_trace_valid : G3Statement := by
  intro nk nth ihmax hk ht hi spec hs iqFill r hc
  obtain ⟨s, hrun, -⟩ := partition_abstract_final nk nth ihmax hk ht hi spec hs iqFill hc
  exact traceValid_of_run hrun

/-- in particular the abstract machine ends on the returned label map (`labelsOk` of `SP.verdict`): replaying the emitted
    trace on the grid's graph succeeds and leaves at pixel `ifreq + nk·iang` the label returned for bin `[ifreq][iang]` -/
theorem partition_abstract_labels (nk nth ihmax : Nat) (hk : 1 ≤ nk) (ht : 1 ≤ nth) (hi : 1 ≤ ihmax)
    (spec : Array Int) (hs : spec.size = nk * nth) (iqFill : Int) :
    let r := partition nk nth ihmax (table nk nth) spec iqFill true
    r.const = false → ∃ s, Flood.run (graphOf nk nth (rows nk nth) r.imi) r.trace.toList = some s ∧
      ∀ f t, f < nk → t < nth → s.labOf (f + nk * t) = labC r.labels[f * nth + t]! := by
  intro r hc
  obtain ⟨s, hrun, -, -, hl⟩ := partition_abstract_final nk nth ihmax hk ht hi spec hs iqFill hc
  exact ⟨s, hrun, hl⟩

example : (Flood.traceValid (graphOf 2 2 (rows 2 2) (partition 2 2 3 (table 2 2) #[0, 5, 2, 5] 0 true).imi)
    (partition 2 2 3 (table 2 2) #[0, 5, 2, 5] 0 true).trace).1 = true :=
  partition_trace_valid 2 2 3 (by decide) (by decide) (by decide) _ rfl 0 (by decide +kernel)

/-! ### the hypotheses are satisfiable -/

/-- `ind = [1, 0]` lists both pixels of a 1×2 grid -/
example : IndOK 2 #[1, 0] :=
  ⟨rfl, by intro k hk; have : k = 0 ∨ k = 1 := by omega
           rcases this with rfl | rfl <;> exact ⟨by decide, by decide⟩,
   by intro j k hj hk h
      have : j = 0 ∨ j = 1 := by omega
      have : k = 0 ∨ k = 1 := by omega
      rcases ‹j = 0 ∨ j = 1› with rfl | rfl <;> rcases ‹k = 0 ∨ k = 1› with rfl | rfl <;> simp_all⟩

example : NbOK (1 * 2) (table 1 2) := table_ok 1 2

/-- the context `Ctx` of `ptFld_trace_valid` / the hypotheses of `partition_ctx` are satisfiable: a 1×2 grid with levels
    `[1, 0]`, sorted listing `[1, 0]` -/
example : Ctx (1 * 2) (table 1 2) #[1, 0] #[1, 0] (graphOf 1 2 (rows 1 2) #[1, 0]) :=
  partition_ctx 1 2 2 rfl
    (by intro i hi; have : i = 0 ∨ i = 1 := by omega
        rcases this with rfl | rfl <;> decide)
    ⟨rfl, by intro k hk; have : k = 0 ∨ k = 1 := by omega
             rcases this with rfl | rfl <;> exact ⟨by decide, by decide⟩,
     by intro j k hj hk h
        have : j = 0 ∨ j = 1 := by omega
        have : k = 0 ∨ k = 1 := by omega
        rcases ‹j = 0 ∨ j = 1› with rfl | rfl <;> rcases ‹k = 0 ∨ k = 1› with rfl | rfl <;> simp_all⟩
    (by decide)

example : ∀ p, p < 1 * 2 → (graphOf 1 2 (rows 1 2) #[1, 0]).level p < 2 := by
  intro p hp; have : p = 0 ∨ p = 1 := by omega
  rcases this with rfl | rfl <;> decide

example : Idle 2 (Array.replicate 2 (-1)) (Array.replicate 2 0) (Array.replicate 2 5) 0 0 0 0 :=
  Idle.init (by decide) 5

example : Post1a 2 #[-1, -1] #[0, 0] #[5, 5] 0 0 :=
  ⟨rfl, rfl, [], QRep.empty rfl (by decide) (by decide), PixQ.nil _ _ _, by decide⟩

example : QC 2 #[3, -1] [] [0] :=
  ⟨by simp, by intro x hx; simp at hx; subst hx; exact ⟨by decide, by decide⟩,
   by intro x hx; simp at hx; subst hx; decide⟩

end WS.C20fld
