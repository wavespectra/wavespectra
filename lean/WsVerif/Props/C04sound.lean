import WsVerif.Props.C04
import WsVerif.Props.C20fld
import WsVerif.Lemmas.Fld.GSound
/-!
# C04, end to end on the model: the label map returned by `partition` is a correct watershed

`Props/C04.lean` proves the postcondition of the **abstract** flooding machine for every valid complete trace
(`flood_sound_full`); `Props/C20fld.lean` proves that the transliteration of `specpart.c` always emits a valid trace whose
abstract labels are the returned label map (`partition_trace_valid`, `partition_abstract_final`).  Here the two are
composed into a statement about the **returned label array** alone:

* `partition_complete`: a returned label map without `0` entry means the abstract run is `Flood.Complete`;
* **`partition_sound`**: for all `nk, nth, ihmax ≥ 1`, every non-constant spectrum and every filling of the queue buffer,
  if the returned label map has no `0` entry then it satisfies `LabelSound` on the cylinder graph with the discretised
  level map: (a) every bin carries a label in `1..K`; (b) every label `1..K` is used, basin `k` contains a regional
  minimum of the level map (= regional maximum of the discretised spectrum) together with its whole plateau, and it is
  the only one it contains; every regional minimum lies, with its whole plateau, in one basin — basins ↔ regional
  minima one-to-one; (c) every basin is connected under the 8-neighbour cylinder adjacency (`graphOf_is_cylinder`);
* the hypothesis "no `0` entry" is needed: `C04.five_sweeps_complete_fails` (finding F04-thick-wshed) is a spectrum on
  which label `0` survives the five clean-up sweeps (`no_zero_hypothesis_needed` restates it next to the theorem);
* `partition_constant`: a constant spectrum takes the early-return branch: all labels `0`, no trace.

These are theorems about the Lean transliteration (`Model/Specpart.lean`, run with its ghost trace); the tie to the real C
is the exact comparison of label maps in `harness/checks/c04.py`.
-/
namespace WS.C04
open WS.Neigh WS.NeighL WS.Flood WS.FloodL WS.SP WS.Fld

/-- returned label of pixel `p = ifreq + nk·iang` (the C's internal numbering): entry `[ifreq][iang]` of the row-major
    label map -/
def labelAt (nk nth : Nat) (labels : Array Int) (p : Nat) : Int := labels[(p % nk) * nth + p / nk]!

/-- the C04 postcondition for a label map `L` on a graph `g` with `K` basins -/
structure LabelSound (g : Graph) (L : Nat → Int) (K : Nat) : Prop where
  /-- (a) every vertex carries one label in `1..K` -/
  range : ∀ p, p < g.n → 1 ≤ L p ∧ L p ≤ K
  /-- (b) every label `k` in `1..K` is used: basin `k` contains a regional minimum `p` of the level map with its whole
      plateau, and every regional minimum inside basin `k` lies on that plateau -/
  used : ∀ k : Nat, 1 ≤ k → k ≤ K → ∃ p, p < g.n ∧ L p = k ∧ RegMin g p ∧ (∀ x, Plateau g p x → L x = k) ∧
    ∀ p', RegMin g p' → L p' = k → Plateau g p p'
  /-- (b) every regional minimum lies with its whole plateau inside one basin -/
  minima : ∀ x0, RegMin g x0 → ∀ x, Plateau g x0 x → L x = L x0
  /-- (c) two vertices with the same label are joined by a path of adjacent vertices carrying that label -/
  connected : ∀ p p', p < g.n → p' < g.n → L p = L p' → Conn g (fun x => x < g.n ∧ L x = L p) p p'

/-- the graph of the statement is the 8-adjacency of the frequency × direction cylinder (frequency bounded, direction
    circular): `y` is adjacent to `i + nk·j` iff `y = a + nk·b` for a neighbour `(a, b)` of `(i, j)` in the sense of
    `neigh_is_cylinder_8adjacency`; its level map is the discretised spectrum -/
theorem graphOf_is_cylinder (nk nth : Nat) (imi : Array Int) (i j : Nat) (hi : i < nk) (hj : j < nth) (y : Nat) :
    y ∈ (graphOf nk nth (rows nk nth) imi).adj (i + nk * j) ↔ ∃ a b, (a, b) ∈ neighIJ nk nth i j ∧ y = a + nk * b := by
  rw [graphOf_adj nk nth imi (lin_lt hi hj), NeighL.neigh_spec nk nth i j hi hj, List.mem_map]
  constructor
  · rintro ⟨⟨a, b⟩, h, rfl⟩; exact ⟨a, b, h, rfl⟩
  · rintro ⟨a, b, h, rfl⟩; exact ⟨(a, b), h, rfl⟩

/-- a returned label map without `0` means that the abstract run is `Complete` (and ends on the returned labels) -/
theorem partition_complete (nk nth ihmax : Nat) (hk : 1 ≤ nk) (ht : 1 ≤ nth) (hi : 1 ≤ ihmax) (spec : Array Int)
    (hs : spec.size = nk * nth) (iqFill : Int) :
    let r := partition nk nth ihmax (table nk nth) spec iqFill true
    let g := graphOf nk nth (rows nk nth) r.imi
    r.const = false → (∀ i, i < nk * nth → r.labels[i]! ≠ 0) →
      ∃ s, run g r.trace.toList = some s ∧ Complete g s ∧
        ∀ p, p < nk * nth → s.labOf p = labC (labelAt nk nth r.labels p) := by
  intro r g hc h0
  obtain ⟨s, hrun, hph, hh, hlab⟩ := C20fld.partition_abstract_final nk nth ihmax hk ht hi spec hs iqFill hc
  have hL : ∀ p, p < nk * nth → s.labOf p = labC (labelAt nk nth r.labels p) := by
    intro p hp
    obtain ⟨h1, h2, h3, -⟩ := pix_decomp hp
    have := hlab (p % nk) (p / nk) h1 h2
    rw [← h3] at this
    exact this
  refine ⟨s, hrun, ?_, hL⟩
  unfold Complete completeB
  rw [Bool.and_eq_true, List.all_eq_true]
  refine ⟨by rcases hph with h | h <;> simp [h], ?_⟩
  intro x hx
  have hx : x < nk * nth := List.mem_range.mp hx
  rw [Bool.and_eq_true]
  refine ⟨by simpa using hh x hx, ?_⟩
  rw [bne_iff_ne, hL x hx]
  intro e
  exact h0 _ (pix_decomp hx).2.2.2 ((labC_wshed_iff _).mp e)

/-- **C04 for the transliteration of `specpart.c`, end to end.**  For every grid, every level count, every non-constant
    integer spectrum and every filling of the queue buffer: if the returned label map contains no `0` (no
    watershed-line pixel is left after the five sweeps), then it is a correct watershed of the discretised spectrum on
    the cylinder: labels `1..K`, all used, basins ↔ regional minima of the level map one-to-one with each basin
    containing the whole plateau of its minimum, every basin connected.  (`K` is determined by the label map: it is
    its largest label.) -/
theorem partition_sound (nk nth ihmax : Nat) (hk : 1 ≤ nk) (ht : 1 ≤ nth) (hi : 1 ≤ ihmax) (spec : Array Int)
    (hs : spec.size = nk * nth) (iqFill : Int) :
    let r := partition nk nth ihmax (table nk nth) spec iqFill true
    r.const = false → (∀ i, i < nk * nth → r.labels[i]! ≠ 0) →
      ∃ K, LabelSound (graphOf nk nth (rows nk nth) r.imi) (labelAt nk nth r.labels) K := by
  intro r hc h0
  obtain ⟨s, hrun, hcomp, hL⟩ := partition_complete nk nth ihmax hk ht hi spec hs iqFill hc h0
  generalize hg : graphOf nk nth (rows nk nth) r.imi = g at *
  have hgn : g.n = nk * nth := by rw [← hg]; rfl
  have wf : WF g := by rw [← hg]; exact graphOf_wf nk nth r.imi
  generalize hLd : labelAt nk nth r.labels = L at *
  have hL : ∀ p, p < g.n → s.labOf p = labC (L p) := fun p hp => hL p (by rw [← hgn]; exact hp)
  obtain ⟨P, hseed, hmin⟩ := flood_sound_full g wf _ s hrun hcomp
  have I := run_inv hrun
  have hlt : ∀ x k, s.labOf x = .basin k → x < g.n := by
    intro x k hl
    have := getD_lt_of_ne s.lab x .init (by unfold St.labOf at hl; rw [hl]; intro hc; cases hc)
    rw [I.szLab] at this; exact this
  -- decoding: abstract label `basin k` ↔ returned label `k`
  have hdec : ∀ x k, 1 ≤ k → (s.labOf x = .basin k ↔ x < g.n ∧ L x = (k : Int)) := by
    intro x k hk1
    constructor
    · intro hl
      have hx := hlt x k hl
      rw [hL x hx] at hl
      exact ⟨hx, labC_basin hl hk1⟩
    · rintro ⟨hx, hl⟩
      rw [hL x hx, hl, labC_pos (by omega), Int.toNat_natCast]
  refine ⟨s.K, ?_, ?_, ?_, ?_⟩
  · intro p hp
    obtain ⟨k, h1, h2, hl⟩ := P.labelled p hp
    have := ((hdec p k h1).mp hl).2
    omega
  · intro k h1 h2
    obtain ⟨p, hp, hsd, hl⟩ := P.allUsed k h1 h2
    obtain ⟨hrm, hpl⟩ := hseed k p hsd
    refine ⟨p, hp, ((hdec p k h1).mp hl).2, hrm, fun x hx => ((hdec x k h1).mp (hpl x hx)).2, ?_⟩
    intro p' hr' hl'
    obtain ⟨k', p'', hs'', hpl'', hall⟩ := hmin p' hr'
    have hk' : 1 ≤ k' := (I.range p'' k' (I.seedFB k' p'' hs'').2).1
    have hself := hall p' (.refl ⟨hr'.1, rfl⟩)
    have := ((hdec p' k' hk').mp hself).2
    have hkk : k' = k := by omega
    subst hkk
    rw [hsd] at hs''
    injection hs'' with hs''
    subst hs''
    exact hpl''.swap wf
  · intro x0 hr x hx
    obtain ⟨k, p, hsd, hpl, hall⟩ := hmin x0 hr
    have hk1 : 1 ≤ k := (I.range p k (I.seedFB k p hsd).2).1
    rw [((hdec x k hk1).mp (hall x hx)).2, ((hdec x0 k hk1).mp (hall x0 (.refl ⟨hr.1, rfl⟩))).2]
  · intro p p' hp hp' he
    obtain ⟨k, h1, h2, hl⟩ := P.labelled p hp
    have hLp := ((hdec p k h1).mp hl).2
    have hl' : s.labOf p' = .basin k := (hdec p' k h1).mpr ⟨hp', by rw [← he]; exact hLp⟩
    have := basin_connected g wf.symm _ s hrun hcomp p p' k hl hl'
    exact Conn_mono (fun x hx => by
      have := (hdec x k h1).mp hx
      exact ⟨this.1, by rw [this.2, hLp]⟩) this

/-- the run used by the examples below, evaluated once -/
theorem twoPeaks_run :
    let r := partition 2 4 4 (table 2 4) #[9, 0, 7, 0, 1, 0, 1, 0] 0 true
    r.const = false ∧ r.labels = #[1, 2, 2, 1, 1, 2, 2, 1] := by
  decide +kernel

/-- non-vacuity: a 2×4 spectrum with two peaks (9 and 7) is partitioned into two basins without watershed pixel … -/
example :
    let r := partition 2 4 4 (table 2 4) #[9, 0, 7, 0, 1, 0, 1, 0] 0 true
    r.const = false ∧ (∀ i, i < 2 * 4 → r.labels[i]! ≠ 0) ∧ r.labels = #[1, 2, 2, 1, 1, 2, 2, 1] := by
  have h := twoPeaks_run
  refine ⟨h.1, ?_, h.2⟩
  rw [h.2]
  decide

/-- … so `partition_sound` applies to it -/
example : ∃ K, LabelSound (graphOf 2 4 (rows 2 4) (partition 2 4 4 (table 2 4) #[9, 0, 7, 0, 1, 0, 1, 0] 0 true).imi)
    (labelAt 2 4 (partition 2 4 4 (table 2 4) #[9, 0, 7, 0, 1, 0, 1, 0] 0 true).labels) K := by
  refine partition_sound 2 4 4 (by decide) (by decide) (by decide) _ rfl 0 twoPeaks_run.1 ?_
  rw [twoPeaks_run.2]
  decide

/-- `verdict` answers `complete = true` on the constant branch, so an incomplete verdict belongs to a non-constant run -/
theorem const_of_incomplete {nk nth ihmax : Nat} {rows : Array (Array Nat)} {r : Result}
    (h : (verdict nk nth ihmax rows r).complete = false) : r.const = false := by
  cases hc : r.const with
  | false => rfl
  | true => simp [verdict, hc] at h

theorem getElem!_of_drop {a : Array Int} {n : Nat} {x : Int} {t : List Int} (h : a.toList.drop n = x :: t) :
    a[n]! = x := by
  have e : a[n]? = some x := by
    rw [← Array.getElem?_toList, ← List.head?_drop, h]; rfl
  rw [getElem!_def, e]

/-- **the hypothesis "no `0` entry" cannot be dropped** (finding F04-thick-wshed, `five_sweeps_complete_fails`): on the
    8×4 corridor spectrum the returned label map keeps label `0` on its last row, so clause (a) of `LabelSound` fails
    for it whatever `K` -/
theorem no_zero_hypothesis_needed :
    let r := partition 8 4 9 (table 8 4) thickWshedGrid 0 true
    r.const = false ∧ ¬ ∃ K, LabelSound (graphOf 8 4 (rows 8 4) r.imi) (labelAt 8 4 r.labels) K := by
  intro r
  -- the run itself is evaluated once, in `five_sweeps_complete_fails`
  obtain ⟨-, -, hc, hl⟩ := five_sweeps_complete_fails
  refine ⟨const_of_incomplete hc, ?_⟩
  rintro ⟨K, hS⟩
  have := (hS.range 7 (by decide)).1
  have e : labelAt 8 4 r.labels 7 = r.labels[28]! := rfl
  rw [e, getElem!_of_drop hl] at this
  omega

/-! ## the constant-spectrum branch -/

/-- a constant spectrum (`zmax = zmin`) takes the early return of `partition`: every label is `0` (no partition at
    all: the caller sees `npart = 0`), no flooding step is performed, no array is accessed out of range -/
theorem partition_constant (nk nth ihmax : Nat) (hk : 1 ≤ nk) (ht : 1 ≤ nth) (spec : Array Int)
    (hs : spec.size = nk * nth) (hconst : ∀ i, i < nk * nth → spec[i]! = spec[0]!) (iqFill : Int) (tr : Bool) :
    let r := partition nk nth ihmax (table nk nth) spec iqFill tr
    r.const = true ∧ r.labels = Array.replicate (nk * nth) 0 ∧ r.trace = #[] ∧ r.oob = false ∧ r.fuelOut = false := by
  have h := (triple_iff _ _ _).mp (partitionM_const nk nth ihmax spec iqFill tr hk ht hs hconst) false rfl
  exact ⟨h.2.1, h.2.2.1, h.2.2.2.1, h.1, h.2.2.2.2⟩

example : ∀ i, i < 2 * 2 → (#[3, 3, 3, 3] : Array Int)[i]! = (#[3, 3, 3, 3] : Array Int)[0]! := by
  intro i hi
  have : i = 0 ∨ i = 1 ∨ i = 2 ∨ i = 3 := by omega
  rcases this with rfl | rfl | rfl | rfl <;> rfl

/-- conversely a non-constant spectrum does not take that branch (so `partition_sound` speaks about it) -/
example : (partition 2 4 4 (table 2 4) #[9, 0, 7, 0, 1, 0, 1, 0] 0 true).const = false := twoPeaks_run.1

end WS.C04
