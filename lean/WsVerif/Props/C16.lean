import WsVerif.Model.Smooth
import WsVerif.Lemmas.Smooth
import WsVerif.Gen.SmoothFacts
import WsVerif.Gen.Lits
import Mathlib.Tactic.Linarith
import Mathlib.Algebra.Order.Field.Rat
/-!
# C16 — smoothing is a local circular average that keeps the grid

Model: `WS.Smooth.smoothWith sortedLabels dirs dirs32 e fw dw` (`Model/Smooth.lean`), one spectrum, rows = frequencies,
columns = directions in STORED order; `dirs32` = the labels after the float32 cast.

* `smoothWith false` = the code as found: step (3) puts the labels of the UNSORTED input on the sorted data;
* `smoothWith true`  = the repaired step (3) (labels of the sorted copy).

`Smooth.smooth = smoothWith Smooth.codeSortedLabels` is what the correspondence check runs; `tie_smooth_source` ties
`codeSortedLabels` (`true`: the repaired variant) to the source text.

Sections: 0 tie to the source · 1 statements true of BOTH variants for EVERY storage order · 2 sorted storage
(both variants; the `_partial` theorems) · 3 the code as found: full statements refuted for unsorted storage ·
4 the repaired variant: full statements for every storage order.
-/
namespace WS.C16
open WS WS.Smooth

/-! ## 0. Tie to the source (T-tier) -/

/-- structural facts of `smooth_spec` the model depends on; the first conjunct is the defect switch -/
theorem tie_smooth_source :
    Gen.smooth_label_source = (if codeSortedLabels then "dsout" else "dset") ∧
    Gen.smooth_validated = "freq_window, dir_window" ∧
    Gen.smooth_validation = "window % 2 == 0 -> ValueError" ∧
    Gen.smooth_sort = "dsout = dset.sortby(attrs.DIRNAME)" ∧
    Gen.smooth_pad_sizes = "dir_window, dir_window" ∧
    Gen.smooth_circular_test = "abs(dirs.max() - dirs.min() + dd - 360) < 0.1 * dd" ∧
    Gen.smooth_rolling = "dsout.rolling(dim=dim, center=True).mean()" ∧
    Gen.smooth_clip = "not dsout[attrs.DIRNAME].equals(dset[attrs.DIRNAME]) => dsout = dsout.sel(**{attrs.DIRNAME: dset[attrs.DIRNAME]}); dsout = dsout.chunk(**{attrs.DIRNAME: -1})" ∧
    Gen.smooth_assign_coords = "dsout.assign_coords(dset.coords)" ∧
    Gen.smooth_fill = "xr.where(dsout.notnull(), dsout, dset)" := by
  unfold codeSortedLabels
  exact ⟨rfl, rfl, rfl, rfl, rfl, rfl, rfl, rfl, rfl, rfl⟩

/-- numeric literals of `smooth_spec` in source order (defaults 3, 3; `% 2 == 0`; `== 1`; `[0]`; `360`; `0.1`; …) -/
theorem tie_smooth_lits : Gen.lits_utils_smooth_spec = [3, 3, 2, 0, 1, 0, 360, tenth, 360, 0, 360, 1] := by
  decide +kernel

/-! ## 1. Both variants, every storage order -/

/-- **even windows are rejected** -/
theorem even_rejected (b : Bool) (dirs dirs32 : Vec) (e : Mat) (fw dw : Nat) (h : fw % 2 = 0 ∨ dw % 2 = 0) :
    smoothWith b dirs dirs32 e fw dw = .error .valueError :=
  smoothWith_even b dirs dirs32 e h

/-- **the grid is kept**: the direction coordinate comes back with the same values in the same (stored) order and the
    array has the input's shape — for every input, in either variant.  (The defect of the tree is not here: it is in
    WHICH value ends up under each label, see §3.) -/
theorem dims_coords_order_kept (b : Bool) (dirs dirs32 : Vec) (e : Mat) (fw dw : Nat) (res : Vec × Mat)
    (h : smoothWith b dirs dirs32 e fw dw = .ok res) :
    res.1 = dirs ∧ res.2.length = e.length ∧ ∀ r ∈ res.2, r.length = dirs.length := by
  obtain ⟨_, _, r', _, rfl⟩ := smoothWith_ok h
  exact ⟨rfl, fill_length _ _ _, rect_fill _ _ _⟩

/-- every output value lies between any two bounds of the input values -/
theorem value_in_hull (b : Bool) (dirs dirs32 : Vec) (e : Mat) (fw dw : Nat) (res : Vec × Mat) (lo hi : ℚ)
    (hlen : dirs32.length = dirs.length) (hres : smoothWith b dirs dirs32 e fw dw = .ok res)
    (h : ∀ i < e.length, ∀ j < dirs.length, lo ≤ cellAt e i j ∧ cellAt e i j ≤ hi) :
    ∀ i < e.length, ∀ k < dirs.length, lo ≤ cellAt res.2 i k ∧ cellAt res.2 i k ≤ hi :=
  smoothWith_hull hlen hres h

/-- **non-negativity is preserved** (any storage order, any odd windows) -/
theorem nonneg_preserved (b : Bool) (dirs dirs32 : Vec) (e : Mat) (fw dw : Nat) (res : Vec × Mat)
    (hlen : dirs32.length = dirs.length) (hres : smoothWith b dirs dirs32 e fw dw = .ok res)
    (h : ∀ i < e.length, ∀ j < dirs.length, 0 ≤ cellAt e i j) :
    ∀ i < e.length, ∀ k < dirs.length, 0 ≤ cellAt res.2 i k := by
  obtain ⟨hi, hhi⟩ := exists_upper e
  intro i hi' k hk
  exact (smoothWith_hull hlen hres (fun i hi' j hj => ⟨h i hi' j hj, hhi i j⟩) i hi' k hk).1

/-- **constant spectra are preserved** (any storage order, any odd windows) -/
theorem const_preserved (b : Bool) (dirs dirs32 : Vec) (e : Mat) (fw dw : Nat) (res : Vec × Mat) (c : ℚ)
    (hlen : dirs32.length = dirs.length) (hres : smoothWith b dirs dirs32 e fw dw = .ok res)
    (h : ∀ i < e.length, ∀ j < dirs.length, cellAt e i j = c) :
    ∀ i < e.length, ∀ k < dirs.length, cellAt res.2 i k = c := by
  intro i hi' k hk
  have := smoothWith_hull (lo := c) (hi := c) hlen hres
    (fun i hi' j hj => by rw [h i hi' j hj]; exact ⟨le_refl _, le_refl _⟩) i hi' k hk
  exact le_antisymm this.2 this.1

/-! ## 2. Sorted storage (both variants) -/

/-- directions stored in increasing order (also after the float32 cast) and a rectangular spectrum -/
structure SortedInput (dirs dirs32 : Vec) (e : Mat) : Prop where
  sorted : dirs.Pairwise (· < ·)
  sorted32 : dirs32.Pairwise (· < ·)
  len : dirs32.length = dirs.length
  rect : Rect e dirs.length

/-- the result exists and is the closed form `sortedCell` -/
theorem sorted_closed_form (b : Bool) {dirs dirs32 : Vec} {e : Mat} (hin : SortedInput dirs dirs32 e) (fw dw : Nat)
    (hf : fw % 2 = 1) (hd : dw % 2 = 1) :
    smoothWith b dirs dirs32 e fw dw = .ok (dirs, (List.range e.length).map fun i => (List.range dirs.length).map fun k =>
      sortedCell (isCircular dirs32) e dirs.length fw dw i k) :=
  smoothWith_sorted b hf hd hin.sorted hin.sorted32 hin.len hin.rect

/-- … so a statement about one cell of the result is a statement about `sortedCell` -/
theorem sorted_cell (b : Bool) {dirs dirs32 : Vec} {e : Mat} (hin : SortedInput dirs dirs32 e) {fw dw : Nat}
    (hf : fw % 2 = 1) (hd : dw % 2 = 1) {i k : Nat} (hi : i < e.length) (hk : k < dirs.length) (P : ℚ → Prop)
    (h : P (sortedCell (isCircular dirs32) e dirs.length fw dw i k)) :
    ∃ out, smoothWith b dirs dirs32 e fw dw = .ok (dirs, out) ∧ P (cellAt out i k) := by
  refine ⟨_, sorted_closed_form b hin fw dw hf hd, ?_⟩
  rwa [cellAt_tab, if_pos ⟨hi, hk⟩]

/-- **a window of one is the identity** (sorted storage) -/
theorem window1_id_partial (b : Bool) {dirs dirs32 : Vec} {e : Mat} (hin : SortedInput dirs dirs32 e) :
    smoothWith b dirs dirs32 e 1 1 = .ok (dirs, e) := by
  rw [sorted_closed_form b hin 1 1 rfl rfl]
  refine congrArg (fun m => Except.ok (dirs, m)) ((tab_congr fun i hi k hk => ?_).trans (tab_cellAt hin.rect))
  exact sortedCell_one hin.rect hi hk fun hc => by rw [← hin.len]; exact isCircular_two hc

/-- **window mean where the whole window fits — full circle**: the direction window wraps across the ends
    (`circCol nd dw k b = (k + nd − dw/2 + b) mod nd`) -/
theorem full_window_mean_partial (b : Bool) {dirs dirs32 : Vec} {e : Mat} (hin : SortedInput dirs dirs32 e) (fw dw : Nat)
    (hf : fw % 2 = 1) (hd : dw % 2 = 1) (hc : isCircular dirs32 = true) (hle : dw ≤ dirs.length) (i k : Nat)
    (hk : k < dirs.length) (hfit : fw / 2 ≤ i ∧ i + fw / 2 < e.length) :
    ∃ out, smoothWith b dirs dirs32 e fw dw = .ok (dirs, out) ∧
      cellAt out i k = blockMean e (i - fw / 2) fw dw (circCol dirs.length dw k) := by
  exact sorted_cell b hin hf hd (Nat.lt_of_le_of_lt (Nat.le_add_right _ _) hfit.2) hk (· = _)
    (by rw [hc]; exact sortedCell_circ_fits hin.rect hle hk hfit)

/-- **window mean where the whole window fits — partial direction grid** (no wrap) -/
theorem full_window_mean_flat_partial (b : Bool) {dirs dirs32 : Vec} {e : Mat} (hin : SortedInput dirs dirs32 e) (fw dw : Nat)
    (hf : fw % 2 = 1) (hd : dw % 2 = 1) (hc : isCircular dirs32 = false) (i k : Nat)
    (hfit : fw / 2 ≤ i ∧ i + fw / 2 < e.length ∧ dw / 2 ≤ k ∧ k + dw / 2 < dirs.length) :
    ∃ out, smoothWith b dirs dirs32 e fw dw = .ok (dirs, out) ∧
      cellAt out i k = blockMean e (i - fw / 2) fw dw (flatCol dw k) := by
  exact sorted_cell b hin hf hd (Nat.lt_of_le_of_lt (Nat.le_add_right _ _) hfit.2.1)
    (Nat.lt_of_le_of_lt (Nat.le_add_right _ _) hfit.2.2.2) (· = _) (by rw [hc]; exact sortedCell_flat_fits hfit)

/-- **where the window does not fit, the input value** — full circle: only the frequency edges -/
theorem edges_from_input_partial (b : Bool) {dirs dirs32 : Vec} {e : Mat} (hin : SortedInput dirs dirs32 e) (fw dw : Nat)
    (hf : fw % 2 = 1) (hd : dw % 2 = 1) (hc : isCircular dirs32 = true) (i k : Nat) (hi : i < e.length) (hk : k < dirs.length)
    (hedge : ¬ (fw / 2 ≤ i ∧ i + fw / 2 < e.length)) :
    ∃ out, smoothWith b dirs dirs32 e fw dw = .ok (dirs, out) ∧ cellAt out i k = cellAt e i k := by
  exact sorted_cell b hin hf hd hi hk (· = _) (by rw [hc]; exact sortedCell_circ_edge _ dw k hedge)

/-- … partial direction grid: frequency and direction edges -/
theorem edges_from_input_flat_partial (b : Bool) {dirs dirs32 : Vec} {e : Mat} (hin : SortedInput dirs dirs32 e) (fw dw : Nat)
    (hf : fw % 2 = 1) (hd : dw % 2 = 1) (hc : isCircular dirs32 = false) (i k : Nat) (hi : i < e.length) (hk : k < dirs.length)
    (hedge : ¬ (fw / 2 ≤ i ∧ i + fw / 2 < e.length ∧ dw / 2 ≤ k ∧ k + dw / 2 < dirs.length)) :
    ∃ out, smoothWith b dirs dirs32 e fw dw = .ok (dirs, out) ∧ cellAt out i k = cellAt e i k := by
  exact sorted_cell b hin hf hd hi hk (· = _) (by rw [hc]; exact sortedCell_flat_edge hedge)

/-- bin `(i', k')` belongs to the `fw × dw` neighbourhood of bin `(i, k)`; in direction the neighbourhood wraps on a
    full circle and is clipped otherwise -/
def InWindow (circ : Bool) (nf nd fw dw i k i' k' : Nat) : Prop :=
  i' < nf ∧ k' < nd ∧ i ≤ i' + fw / 2 ∧ i' ≤ i + fw / 2 ∧
    (if circ then ∃ b, b < dw ∧ k' = circCol nd dw k b else k ≤ k' + dw / 2 ∧ k' ≤ k + dw / 2)

instance (circ : Bool) (nf nd fw dw i k i' k' : Nat) : Decidable (InWindow circ nf nd fw dw i k i' k') := by
  unfold InWindow; infer_instance

theorem inWindow_self {circ : Bool} {nf nd dw i k : Nat} (fw : Nat) (hi : i < nf) (hk : k < nd) (hdw : 0 < dw)
    (hle : circ = true → dw ≤ nd) : InWindow circ nf nd fw dw i k i k := by
  refine ⟨hi, hk, Nat.le_add_right _ _, Nat.le_add_right _ _, ?_⟩
  cases circ
  · exact ⟨Nat.le_add_right _ _, Nat.le_add_right _ _⟩
  · refine ⟨dw / 2, Nat.div_lt_self hdw (by decide), ?_⟩
    rw [circCol, Nat.sub_add_cancel (Nat.le_trans (Nat.div_le_self _ _) (Nat.le_add_left_of_le (hle rfl))),
      Nat.add_mod_right, Nat.mod_eq_of_lt hk]

theorem inWindow_flat {nf nd fw dw i k a b : Nat} (hfit : fw / 2 ≤ i ∧ i + fw / 2 < nf ∧ dw / 2 ≤ k ∧ k + dw / 2 < nd)
    (ha : a < fw) (hb : b < dw) : InWindow false nf nd fw dw i k (i - fw / 2 + a) (flatCol dw k b) :=
  ⟨win_row ⟨hfit.1, hfit.2.1⟩ ha, win_row hfit.2.2 hb, (win_near hfit.1 ha).1, (win_near hfit.1 ha).2,
    win_near hfit.2.2.1 hb⟩

theorem inWindow_circ {nf nd fw dw i a b : Nat} (k : Nat) (hfit : fw / 2 ≤ i ∧ i + fw / 2 < nf) (hn : 0 < nd)
    (ha : a < fw) (hb : b < dw) : InWindow true nf nd fw dw i k (i - fw / 2 + a) (circCol nd dw k b) :=
  ⟨win_row hfit ha, circCol_lt dw k b hn, (win_near hfit.1 ha).1, (win_near hfit.1 ha).2, b, hb, rfl⟩

/-- **every value lies between the minimum and maximum of the input over its window neighbourhood** (sorted storage;
    on a full circle for direction windows up to the grid size) -/
theorem within_window_bounds_partial (b : Bool) {dirs dirs32 : Vec} {e : Mat} (hin : SortedInput dirs dirs32 e) (fw dw : Nat)
    (hf : fw % 2 = 1) (hd : dw % 2 = 1) (hle : isCircular dirs32 = true → dw ≤ dirs.length) (i k : Nat)
    (hi : i < e.length) (hk : k < dirs.length) (lo hi' : ℚ)
    (h : ∀ i' k', InWindow (isCircular dirs32) e.length dirs.length fw dw i k i' k' → lo ≤ cellAt e i' k' ∧ cellAt e i' k' ≤ hi') :
    ∃ out, smoothWith b dirs dirs32 e fw dw = .ok (dirs, out) ∧ lo ≤ cellAt out i k ∧ cellAt out i k ≤ hi' := by
  refine sorted_cell b hin hf hd hi hk (fun x => lo ≤ x ∧ x ≤ hi') ?_
  have hfw := pos_of_odd hf
  have hdw := pos_of_odd hd
  have hself := h i k (inWindow_self fw hi hk hdw hle)
  cases hc : isCircular dirs32 <;> rw [hc] at h
  · by_cases hfit : fw / 2 ≤ i ∧ i + fw / 2 < e.length ∧ dw / 2 ≤ k ∧ k + dw / 2 < dirs.length
    · rw [sortedCell_flat_fits hfit]
      exact blockMean_bounds hfw hdw fun a ha c hcb => h _ _ (inWindow_flat hfit ha hcb)
    · rw [sortedCell_flat_edge hfit]; exact hself
  · by_cases hfit : fw / 2 ≤ i ∧ i + fw / 2 < e.length
    · rw [sortedCell_circ_fits hin.rect (hle hc) hk hfit]
      exact blockMean_bounds hfw hdw fun a ha c hcb => h _ _ (inWindow_circ k hfit (Nat.zero_lt_of_lt hk) ha hcb)
    · rw [sortedCell_circ_edge _ dw k hfit]; exact hself

/-- **on a full circle smoothing commutes with circular shifts of the direction axis** (sorted storage) -/
theorem commutes_with_shift_partial (b : Bool) {dirs dirs32 : Vec} {e : Mat} (hin : SortedInput dirs dirs32 e) (fw dw s : Nat)
    (hf : fw % 2 = 1) (hd : dw % 2 = 1) (hc : isCircular dirs32 = true) (hle : dw ≤ dirs.length) :
    ∃ out, smoothWith b dirs dirs32 e fw dw = .ok (dirs, out) ∧
      smoothWith b dirs dirs32 (rollCols s e) fw dw = .ok (dirs, rollCols s out) := by
  refine ⟨_, sorted_closed_form b hin fw dw hf hd, ?_⟩
  have hin' : SortedInput dirs dirs32 (rollCols s e) := ⟨hin.sorted, hin.sorted32, hin.len, rect_rollCols s hin.rect⟩
  rw [sorted_closed_form b hin' fw dw hf hd, rollCols_tab, rollCols_length, hc]
  exact congrArg (fun m => Except.ok (dirs, m)) (tab_congr fun i hi k hk => sortedCell_circ_shift fw s hin.rect hle hi hk)

/-! ## 3. The code as found (`smoothWith false`): full statements, refuted for unsorted storage

Witness: the 8-direction full circle stored as `225, 270, 315, 0, 45, 90, 135, 180` (a WW3-like rotated axis). -/

/-- full statement: windows `(1, 1)` give the input back, whatever the storage order -/
def Window1Id (b : Bool) : Prop :=
  ∀ (dirs : Vec) (e : Mat), dirs.Nodup → Rect e dirs.length → smoothWith b dirs dirs e 1 1 = .ok (dirs, e)

/-- full statement: the result does not depend on the storage order — it is the result for the sorted arrangement
    of the same labelled data, read back in stored order -/
def StorageInvariant (b : Bool) : Prop :=
  ∀ (dirs : Vec) (e : Mat) (fw dw : Nat), fw % 2 = 1 → dw % 2 = 1 → dirs.Nodup → Rect e dirs.length →
    (smoothWith b dirs dirs e fw dw).toOption =
      (smoothWith b (sortedDirs dirs) (sortedDirs dirs) (takeCols (sortPerm dirs) e) fw dw).toOption.map fun p =>
        (dirs, takeCols ((List.range dirs.length).map (sortPerm dirs).idxOf) p.2)

/-- full statement: on a full circle smoothing commutes with circular shifts, whatever the storage order -/
def CommutesWithShift (b : Bool) : Prop :=
  ∀ (dirs : Vec) (e : Mat) (fw dw s : Nat), fw % 2 = 1 → dw % 2 = 1 → dirs.Nodup → Rect e dirs.length →
    isCircular (sortedDirs dirs) = true → dw ≤ dirs.length →
    (smoothWith b dirs dirs e fw dw).toOption.isSome = true ∧
    (smoothWith b dirs dirs (rollSorted s dirs e) fw dw).toOption =
      (smoothWith b dirs dirs e fw dw).toOption.map fun p => (p.1, rollSorted s dirs p.2)

def dirsW : Vec := [225, 270, 315, 0, 45, 90, 135, 180]
def specW : Mat := [[0, 0, 0, 7, 5, 4, 2, 2]]

theorem window1_id_fails : ¬ Window1Id false := by
  intro h
  have := h dirsW specW (by decide +kernel) (by decide +kernel)
  revert this
  decide +kernel

theorem storage_invariant_fails : ¬ StorageInvariant false := by
  intro h
  have := h dirsW specW 1 3 rfl rfl (by decide +kernel) (by decide +kernel)
  revert this
  decide +kernel

theorem commutes_with_shift_fails : ¬ CommutesWithShift false := by
  intro h
  have := (h dirsW specW 1 3 1 rfl rfl (by decide +kernel) (by decide +kernel) (by decide +kernel) (by decide +kernel)).2
  revert this
  decide +kernel

/-- what the tree returns on the witness: the SORTED values under the stored labels (energy at 0–180° is reported
    at 225–45°), and no wrap-around averaging although the grid is a full circle -/
example : (smoothWith false dirsW dirsW specW 1 1).toOption = some (dirsW, [[7, 5, 4, 2, 2, 0, 0, 0]]) := by decide +kernel
example : (smoothWith false dirsW dirsW specW 1 3).toOption = some (dirsW, [[0, 16/3, 11/3, 8/3, 4/3, 2/3, 0, 2]]) := by
  decide +kernel
example : (smoothWith true dirsW dirsW specW 1 3).toOption = some (dirsW, [[2/3, 0, 7/3, 4, 16/3, 11/3, 8/3, 4/3]]) := by
  decide +kernel

/-! ## 4. The repaired labelling (`smoothWith true`): full statements for every storage order -/

theorem window1_id_repaired : Window1Id true := by
  intro dirs e hn hrect
  rw [smoothWith_repaired e rfl rfl hn]
  refine congrArg (fun m => Except.ok (dirs, m)) ((tab_congr fun i hi k hk => ?_).trans (tab_cellAt hrect))
  rw [sortedCell_one (rect_sorted dirs e) (by rw [takeCols_length]; exact hi) (idxOf_sortPerm_lt hk)
      (fun hc => by rw [← sortedDirs_length]; exact isCircular_two hc),
    cellAt_sorted_idxOf hi hk]

theorem storage_invariant_repaired : StorageInvariant true := by
  intro dirs e fw dw hf hd hn hrect
  have hsl := sortedDirs_length dirs
  rw [smoothWith_repaired e hf hd hn,
    smoothWith_sorted true hf hd (sortedDirs_pairwise hn) (sortedDirs_pairwise hn) rfl (by rw [hsl]; exact rect_sorted dirs e)]
  simp only [Except.toOption, Option.map_some, Option.some.injEq, Prod.mk.injEq, true_and]
  rw [takeCols_tab _ _ (by
    intro x hx
    obtain ⟨k, hk, rfl⟩ := List.mem_map.mp hx
    rw [hsl]; exact idxOf_sortPerm_lt (List.mem_range.mp hk)), takeCols_length, hsl]
  simp only [List.map_map, Function.comp_def]

theorem commutes_with_shift_repaired : CommutesWithShift true := by
  intro dirs e fw dw s hf hd hn hrect hc hle
  have hnd : 0 < dirs.length := sortedDirs_length dirs ▸ isCircular_pos hc
  constructor
  · rw [smoothWith_repaired e hf hd hn]; rfl
  · rw [smoothWith_repaired e hf hd hn, smoothWith_repaired (rollSorted s dirs e) hf hd hn]
    simp only [Except.toOption, Option.map_some, Option.some.injEq, Prod.mk.injEq, true_and]
    rw [takeCols_rollSorted s e hnd, rollSorted_length, hc, rollSorted_tab s _ _ hnd]
    refine tab_congr fun i hi k hk => ?_
    rw [idxOf_getD_sortPerm (Nat.mod_lt _ hnd)]
    exact sortedCell_circ_shift fw s (rect_sorted dirs e) hle (by rw [takeCols_length]; exact hi) (idxOf_sortPerm_lt hk)

/-! ## Examples: every hypothesis used above is satisfiable -/

def dirs8 : Vec := [0, 45, 90, 135, 180, 225, 270, 315]
def spec8 : Mat := [[0, 1, 2, 7, 5, 4, 2, 2], [1, 1, 3, 9, 5, 4, 0, 2], [0, 0, 2, 8, 6, 4, 2, 1]]
def dirsP : Vec := [10, 20, 30, 40, 50]
def specP : Mat := [[1, 2, 3, 4, 5], [2, 2, 9, 2, 2], [0, 1, 0, 1, 0]]

set_option linter.defProp false in
def sortedInput8 : SortedInput dirs8 dirs8 spec8 := ⟨by decide +kernel, by decide +kernel, rfl, by decide +kernel⟩
set_option linter.defProp false in
def sortedInputP : SortedInput dirsP dirsP specP := ⟨by decide +kernel, by decide +kernel, rfl, by decide +kernel⟩

example : isCircular dirs8 = true ∧ isCircular dirsP = false ∧ isCircular (sortedDirs dirsW) = true := by decide +kernel
example := even_rejected false dirs8 dirs8 spec8 2 3 (Or.inl rfl)
example : (smoothWith false dirs8 dirs8 spec8 3 3).toOption.isSome = true := by decide +kernel
example := window1_id_partial false sortedInput8
example := full_window_mean_partial false sortedInput8 3 3 rfl rfl (by decide +kernel) (by decide +kernel) 1 0 (by decide +kernel)
  (by decide +kernel)
example := full_window_mean_flat_partial false sortedInputP 3 3 rfl rfl (by decide +kernel) 1 2 (by decide +kernel)
example := edges_from_input_partial false sortedInput8 3 3 rfl rfl (by decide +kernel) 0 0 (by decide +kernel) (by decide +kernel)
  (by decide +kernel)
example := edges_from_input_flat_partial false sortedInputP 3 3 rfl rfl (by decide +kernel) 1 0 (by decide +kernel) (by decide +kernel)
  (by decide +kernel)
example := commutes_with_shift_partial false sortedInput8 3 3 2 rfl rfl (by decide +kernel) (by decide +kernel)
example : blockMean spec8 0 3 3 (circCol 8 3 0) = 8/9 := by decide +kernel     -- bins 315°, 0°, 45° of the three rows
example : InWindow true 3 8 3 3 1 0 0 7 := by decide +kernel                   -- the neighbourhood of bin 0 wraps to bin 7
example : dirsW.Nodup ∧ Rect specW dirsW.length := by decide +kernel
example : (∀ i < spec8.length, ∀ j < dirs8.length, 0 ≤ cellAt spec8 i j) := by decide +kernel
example : rollSorted 1 dirsW specW = [[0, 0, 7, 5, 4, 2, 2, 0]] := by decide +kernel
example := within_window_bounds_partial false sortedInput8 3 3 rfl rfl (fun _ => by decide +kernel) 1 0 (by decide +kernel)
  (by decide +kernel) 0 9 (fun i' k' h =>
    (by decide +kernel : ∀ i' < spec8.length, ∀ k' < dirs8.length, 0 ≤ cellAt spec8 i' k' ∧ cellAt spec8 i' k' ≤ 9) i' h.1 k' h.2.1)
/-- the hypotheses of `value_in_hull` / `nonneg_preserved` on the unsorted witness: a result exists, bounds 0 and 7 hold -/
example : ∃ res, smoothWith false dirsW dirsW specW 1 3 = .ok res ∧ dirsW.length = dirsW.length ∧
    ∀ i < specW.length, ∀ j < dirsW.length, 0 ≤ cellAt specW i j ∧ cellAt specW i j ≤ 7 :=
  ⟨(dirsW, [[0, 16/3, 11/3, 8/3, 4/3, 2/3, 0, 2]]), by decide +kernel, rfl, by decide +kernel⟩
/-- a constant spectrum for `const_preserved` -/
example : ∀ i < [[3, 3, 3, 3, 3, 3, 3, 3]].length, ∀ j < dirsW.length, cellAt [[3, 3, 3, 3, 3, 3, 3, 3]] i j = 3 := by decide +kernel
example := window1_id_repaired dirsW specW (by decide +kernel) (by decide +kernel)
example := storage_invariant_repaired dirsW specW 1 3 rfl rfl (by decide +kernel) (by decide +kernel)
example := commutes_with_shift_repaired dirsW specW 1 3 1 rfl rfl (by decide +kernel) (by decide +kernel) (by decide +kernel)
  (by decide +kernel)

end WS.C16
