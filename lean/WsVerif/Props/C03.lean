import WsVerif.Model.Assembly
import WsVerif.Lemmas.Assembly
import WsVerif.Model.Consts
import WsVerif.Gen.Lits
/-!
# C03 — watershed partitions are a sound, ordered, energy-conserving split

All statements are about `ptm1 / ptm2 / ptm3` of `Model/Assembly.lean` (the model of `np_ptm1/2/3`) and hold for
**every** list of bins — i.e. every grid size, every spectrum, every label map `w` (in particular whatever the C
watershed returns), every wave-age mask — every sort key `key` (in particular `npHsKey f dirs`, the radicand of
`npstats.hs`), every cutoff `wscut` and every requested count.

Vocabulary (`Lemmas/Assembly.lean`): `colCount ps i` = number of partitions of `ps` whose assignment mask holds at
bin `i`; `colSum ps i` = sum over the partitions of `ps` of their value at bin `i`; `select bins sel` =
`(mask, np.where(mask, E, 0))` for the mask `sel`.

Findings visible here: bins labelled `0` belong to no partition (`sum_exact_full_fails_*`), so the unconditional
conservation statement `SumExactFull` is false of the code; `sum_exact_ptm*` are the `_partial` versions under
"every bin carries a label ≥ 1".
-/
namespace WS.C03
open WS WS.Assembly

/-! ## T-tier: the literals of the code the model depends on -/

/-- `np_ptm1`: basins are numbered from `1` (`ipart + 1`), masked-out bins are `0.0`, null swells are those whose sum
    is not `> 0`; `np_ptm2` the same; `np_ptm3` starts `range(1, nparts + 1)`. -/
theorem lits_np_ptm : Gen.lits_partition_np_ptm1 = [1, 1, 1, 0, 0] ∧ Gen.lits_partition_np_ptm2 = [1, 1, 1, 0, 0, 0, 0]
    ∧ Gen.lits_partition_np_ptm3 = [1, 1, 0] := ⟨rfl, rfl, rfl⟩

/-- the sort key is `npstats.hs`: trapezoid `0.5`, tail above `0.333` Hz with weight `0.25`, `4·sqrt` -/
theorem lits_sort_key : Gen.lits_npstats_hs =
    [1, 1, 1, 1, 0, 360, 1, 1/2, 1, 1, 1, Consts.thr, Consts.quarter, 1, 1, 4] := rfl

/-! ## soundness of every output bin -/

/-- a partition is *bin-sound* for the spectrum: its mask covers the grid, its values are `where(mask, E, 0)`, so
    each output bin is the spectrum's bin or `0` -/
def BinSound (bins : List Bin) (p : Part) : Prop :=
  p.mask.length = bins.length ∧
  p.vals = List.zipWith (fun (m : Bool) (b : Bin) => if m then b.e else 0) p.mask bins ∧
  List.Forall₂ (fun (v : Rat) (b : Bin) => v = b.e ∨ v = 0) p.vals bins

theorem select_binSound (bins : List Bin) (sel : Bin → Bool) : BinSound bins (select bins sel) := by
  refine ⟨by simp, ?_, ?_⟩
  · rw [select_mask, select_vals]
    induction bins with
    | nil => rfl
    | cons b t ih => simp [ih]
  · rw [select_vals, List.forall₂_map_left_iff, List.forall₂_same]
    intro b _
    by_cases h : sel b = true <;> simp [h]

theorem renders_binSound (bins : List Bin) (dest : Bin → Option Dest) (ds : List Dest) (m : Nat) :
    ∀ p ∈ ds.map (render bins dest) ++ List.replicate m (zeros bins), BinSound bins p := by
  intro p hp
  rcases List.mem_append.mp hp with h | h
  · obtain ⟨d, _, rfl⟩ := List.mem_map.mp h
    exact select_binSound bins _
  · rw [(List.mem_replicate.mp h).2]
    exact select_binSound bins _

theorem bin_sound_ptm1 (key : Vec → Rat) (wscut : Rat) (bins : List Bin) (cnt : Option Nat) :
    ∀ p ∈ ptm1 key wscut bins cnt, BinSound bins p := by
  rw [ptm1_struct]
  exact renders_binSound bins _ _ _

theorem bin_sound_ptm2 (key : Vec → Rat) (wscut : Rat) (bins : List Bin) (cnt : Option Nat) :
    ∀ p ∈ ptm2 key wscut bins cnt, BinSound bins p := by
  rw [ptm2_struct]
  exact renders_binSound bins _ _ _

theorem bin_sound_ptm3 (key : Vec → Rat) (bins : List Bin) (cnt : Option Nat) :
    ∀ p ∈ ptm3 key bins cnt, BinSound bins p := by
  rw [ptm3_struct]
  exact renders_binSound bins _ _ _

/-! ## number of partitions returned -/

/-- PTM1 returns exactly `swells + 1` partitions -/
theorem len_ptm1 (key : Vec → Rat) (wscut : Rat) (bins : List Bin) (s : Nat) :
    (ptm1 key wscut bins (some s)).length = s + 1 := by
  rw [ptm1_eq, List.length_cons,
    swellPart_length key bins (ptm1Slots wscut bins) true ((List.length_map _).trans (labels_length bins))]

/-- PTM2 returns exactly `swells + 2` partitions -/
theorem len_ptm2 (key : Vec → Rat) (wscut : Rat) (bins : List Bin) (s : Nat) :
    (ptm2 key wscut bins (some s)).length = s + 2 := by
  rw [ptm2_eq, List.length_cons, List.length_cons,
    swellPart_length key bins (ptm2Slots wscut bins) true ((List.length_map _).trans (labels_length bins))]

/-- PTM3 returns exactly `parts` partitions, and every detected one when `parts=None` -/
theorem len_ptm3 (key : Vec → Rat) (bins : List Bin) (s : Nat) :
    (ptm3 key bins (some s)).length = s ∧ (ptm3 key bins none).length = nparts bins := by
  have hl : (ptm3Slots bins).length = nparts bins := (List.length_map _).trans (labels_length bins)
  exact ⟨by rw [ptm3_eq, swellPart_length _ _ _ _ hl], (sortSlots_length key _).trans hl⟩

/-! ## no bin in two partitions -/

theorem masks_disjoint_ptm1 (key : Vec → Rat) (wscut : Rat) (bins : List Bin) (cnt : Option Nat) (i : Nat) :
    colCount (ptm1 key wscut bins cnt) i ≤ 1 := by
  rw [ptm1_struct]
  exact out_disjoint (heads1_nodup bins) i

theorem masks_disjoint_ptm2 (key : Vec → Rat) (wscut : Rat) (bins : List Bin) (cnt : Option Nat) (i : Nat) :
    colCount (ptm2 key wscut bins cnt) i ≤ 1 := by
  rw [ptm2_struct]
  exact out_disjoint (heads2_nodup bins) i

theorem masks_disjoint_ptm3 (key : Vec → Rat) (bins : List Bin) (cnt : Option Nat) (i : Nat) :
    colCount (ptm3 key bins cnt) i ≤ 1 := by
  rw [ptm3_struct]
  exact out_disjoint (heads3_nodup bins) i

/-! ## conservation -/

/-- **PTM1 conserves energy bin for bin** when at least as many swells are requested as basins were detected and
    every bin carries a label `≥ 1` -/
theorem sum_exact_ptm1 (key : Vec → Rat) (wscut : Rat) (bins : List Bin) (s : Nat)
    (hcover : ∀ b ∈ bins, 1 ≤ b.lab) (hreq : nparts bins ≤ s) (i : Nat) (hi : i < bins.length) :
    colSum (ptm1 key wscut bins (some s)) i = bins[i].e := by
  have hb : bins[i] ∈ bins := List.getElem_mem hi
  rw [ptm1_struct]
  exact out_sum_exact (cnt := some s) (heads1_nodup bins) hreq hi
    (dest_some hb (hcover _ hb) (fun _ => List.mem_cons_self) (fun h => nomatch h))

theorem sum_exact_ptm2 (key : Vec → Rat) (wscut : Rat) (bins : List Bin) (s : Nat)
    (hcover : ∀ b ∈ bins, 1 ≤ b.lab) (hreq : nparts bins ≤ s) (i : Nat) (hi : i < bins.length) :
    colSum (ptm2 key wscut bins (some s)) i = bins[i].e := by
  have hb : bins[i] ∈ bins := List.getElem_mem hi
  rw [ptm2_struct]
  exact out_sum_exact (cnt := some s) (heads2_nodup bins) hreq hi
    (dest_some hb (hcover _ hb) (fun _ => List.mem_cons_self) (fun _ => List.mem_cons_of_mem _ List.mem_cons_self))

/-- PTM3 with a count, and `parts=None`, which returns every basin: conservation without a count hypothesis -/
theorem sum_exact_ptm3_full (key : Vec → Rat) (bins : List Bin) (cnt : Option Nat) (hfull : Full (nparts bins) cnt false)
    (hcover : ∀ b ∈ bins, 1 ≤ b.lab) (i : Nat) (hi : i < bins.length) :
    colSum (ptm3 key bins cnt) i = bins[i].e := by
  have hb : bins[i] ∈ bins := List.getElem_mem hi
  rw [ptm3_struct]
  exact out_sum_exact (heads3_nodup bins) hfull hi
    (dest_some hb (hcover _ hb) (fun h => nomatch h) (fun h => nomatch h))

theorem sum_exact_ptm3 (key : Vec → Rat) (bins : List Bin) (s : Nat)
    (hcover : ∀ b ∈ bins, 1 ≤ b.lab) (hreq : nparts bins ≤ s) (i : Nat) (hi : i < bins.length) :
    colSum (ptm3 key bins (some s)) i = bins[i].e :=
  sum_exact_ptm3_full key bins (some s) hreq hcover i hi

theorem sum_exact_ptm3_none (key : Vec → Rat) (bins : List Bin)
    (hcover : ∀ b ∈ bins, 1 ≤ b.lab) (i : Nat) (hi : i < bins.length) :
    colSum (ptm3 key bins none) i = bins[i].e :=
  sum_exact_ptm3_full key bins none rfl hcover i hi

/-- `swells=None` (every non-null swell is returned) conserves the energy of a non-negative spectrum too -/
theorem sum_exact_none (key : Vec → Rat) (wscut : Rat) (bins : List Bin)
    (hcover : ∀ b ∈ bins, 1 ≤ b.lab) (hnonneg : ∀ b ∈ bins, 0 ≤ b.e) (i : Nat) (hi : i < bins.length) :
    colSum (ptm1 key wscut bins none) i = bins[i].e ∧ colSum (ptm2 key wscut bins none) i = bins[i].e := by
  constructor
  · rw [← sum_exact_ptm1 key wscut bins (nparts bins) hcover le_rfl i hi, ptm1_eq, ptm1_eq, colSum_cons, colSum_cons,
      colSum_swellPart_none]
    rw [ptm1Slots_eq]
    exact render_vals_nonneg _ _ hnonneg
  · rw [← sum_exact_ptm2 key wscut bins (nparts bins) hcover le_rfl i hi, ptm2_eq, ptm2_eq, colSum_cons, colSum_cons,
      colSum_cons, colSum_cons, colSum_swellPart_none]
    rw [ptm2Slots_eq]
    exact render_vals_nonneg _ _ hnonneg

/-- whatever is requested, the partitions of a non-negative spectrum never add to more than the spectrum -/
theorem sum_le_ptm1 (key : Vec → Rat) (wscut : Rat) (bins : List Bin) (cnt : Option Nat)
    (hnonneg : ∀ b ∈ bins, 0 ≤ b.e) (i : Nat) (hi : i < bins.length) :
    0 ≤ colSum (ptm1 key wscut bins cnt) i ∧ colSum (ptm1 key wscut bins cnt) i ≤ bins[i].e := by
  rw [ptm1_struct]
  exact out_sum_le (heads1_nodup bins) hi (hnonneg _ (List.getElem_mem hi))

theorem sum_le_ptm2 (key : Vec → Rat) (wscut : Rat) (bins : List Bin) (cnt : Option Nat)
    (hnonneg : ∀ b ∈ bins, 0 ≤ b.e) (i : Nat) (hi : i < bins.length) :
    0 ≤ colSum (ptm2 key wscut bins cnt) i ∧ colSum (ptm2 key wscut bins cnt) i ≤ bins[i].e := by
  rw [ptm2_struct]
  exact out_sum_le (heads2_nodup bins) hi (hnonneg _ (List.getElem_mem hi))

theorem sum_le_ptm3 (key : Vec → Rat) (bins : List Bin) (cnt : Option Nat)
    (hnonneg : ∀ b ∈ bins, 0 ≤ b.e) (i : Nat) (hi : i < bins.length) :
    0 ≤ colSum (ptm3 key bins cnt) i ∧ colSum (ptm3 key bins cnt) i ≤ bins[i].e := by
  rw [ptm3_struct]
  exact out_sum_le (heads3_nodup bins) hi (hnonneg _ (List.getElem_mem hi))

/-- **bins labelled `0` are lost**: whatever is requested, no partition of PTM1/2/3 holds anything at a bin whose
    watershed label is `0` (the model's statement of the findings `constant_nonzero_spectrum`, `wshed_label0_bins`) -/
theorem label0_bins_lost (key : Vec → Rat) (wscut : Rat) (bins : List Bin) (cnt : Option Nat) (i : Nat)
    (hi : i < bins.length) (h0 : bins[i].lab = 0) :
    colSum (ptm1 key wscut bins cnt) i = 0 ∧ colSum (ptm2 key wscut bins cnt) i = 0 ∧
      colSum (ptm3 key bins cnt) i = 0 := by
  rw [ptm1_struct, ptm2_struct, ptm3_struct]
  exact ⟨out_sum_zero (heads1_nodup bins) hi (dest_none h0), out_sum_zero (heads2_nodup bins) hi (dest_none h0),
    out_sum_zero (heads3_nodup bins) hi (dest_none h0)⟩

/-- the statement without the coverage hypothesis — what the property text asks for -/
def SumExactFull : Prop :=
  ∀ (key : Vec → Rat) (bins : List Bin) (s : Nat), nparts bins ≤ s →
    ∀ (i : Nat) (hi : i < bins.length), colSum (ptm3 key bins (some s)) i = bins[i].e

/-- refuted by a constant spectrum: the watershed labels every bin `0`, all the energy is lost -/
theorem sum_exact_full_fails_constant : ¬ SumExactFull := by
  intro h
  have h1 := h (fun _ => 0) [⟨3, 0, false⟩, ⟨3, 0, false⟩, ⟨3, 0, false⟩, ⟨3, 0, false⟩] 3 (by decide) 0 (by decide)
  rw [(label0_bins_lost (fun _ => 0) 0 _ (some 3) 0 (by decide) rfl).2.2] at h1
  revert h1
  decide +kernel

/-- refuted by a label map that keeps a watershed-line bin (label `0`) between two basins -/
theorem sum_exact_full_fails_label0 : ¬ SumExactFull := by
  intro h
  have h1 := h (fun v => v.sum) [⟨5, 1, false⟩, ⟨2, 0, false⟩, ⟨4, 2, false⟩] 2 (by decide) 1 (by decide)
  rw [(label0_bins_lost (fun v => v.sum) 0 _ (some 2) 1 (by decide) rfl).2.2] at h1
  revert h1
  decide +kernel

/-- `_partial`: conservation holds as soon as every bin carries a label `≥ 1` -/
theorem sum_exact_partial (key : Vec → Rat) (bins : List Bin) (s : Nat) (hcover : ∀ b ∈ bins, 1 ≤ b.lab)
    (hreq : nparts bins ≤ s) : ∀ (i : Nat) (hi : i < bins.length), colSum (ptm3 key bins (some s)) i = bins[i].e :=
  fun i hi => sum_exact_ptm3 key bins s hcover hreq i hi

/-! ## order of the swells, what is dropped -/

/-- **swells come in non-increasing order of the sort key, zero padding last**, for every key that is smallest on the
    all-zero array -/
theorem swells_sorted (key : Vec → Rat) (wscut : Rat) (bins : List Bin) (cnt : Option Nat)
    (hkey0 : ∀ sel, key (zeros bins).vals ≤ key (select bins sel).vals) :
    (((ptm1 key wscut bins cnt).tail).map (fun p => key p.vals)).Pairwise (fun x y => y ≤ x) ∧
    (((ptm2 key wscut bins cnt).drop 2).map (fun p => key p.vals)).Pairwise (fun x y => y ≤ x) ∧
    ((ptm3 key bins cnt).map (fun p => key p.vals)).Pairwise (fun x y => y ≤ x) := by
  rw [ptm1_struct, ptm2_struct, ptm3_struct, ← List.drop_one]
  exact ⟨out_drop_sorted (hs := [.wsea]) fun _ _ => hkey0 _, out_drop_sorted (hs := [.wsea, .wsea2]) fun _ _ => hkey0 _,
    out_drop_sorted (hs := []) fun _ _ => hkey0 _⟩

/-- PTM1/2/3 with the code's Hs key on a non-negative spectrum: swells in non-increasing Hs, empty ones last -/
theorem swells_sorted_hs (f dirs : Vec) (wscut : Rat) (bins : List Bin) (cnt : Option Nat) (hd : DirsOk dirs)
    (hnonneg : ∀ b ∈ bins, 0 ≤ b.e) :
    (((ptm1 (npHsKey f dirs) wscut bins cnt).tail).map (fun p => npHsKey f dirs p.vals)).Pairwise (fun x y => y ≤ x) ∧
    (((ptm2 (npHsKey f dirs) wscut bins cnt).drop 2).map (fun p => npHsKey f dirs p.vals)).Pairwise (fun x y => y ≤ x) ∧
    ((ptm3 (npHsKey f dirs) bins cnt).map (fun p => npHsKey f dirs p.vals)).Pairwise (fun x y => y ≤ x) :=
  swells_sorted _ wscut bins cnt fun sel => hs_key_zero_least f dirs bins sel hd hnonneg

theorem dropped_are_smallest_ptm1 (key : Vec → Rat) (wscut : Rat) (bins : List Bin) (s : Nat) (h : s < nparts bins) :
    ∃ dropped, ptm1Sorted key wscut bins = (ptm1 key wscut bins (some s)).tail ++ dropped ∧
      (∀ a ∈ (ptm1 key wscut bins (some s)).tail, ∀ d ∈ dropped, key d.vals ≤ key a.vals) ∧
      (ptm1Sorted key wscut bins).Perm (ptm1Slots wscut bins) :=
  swellPart_dropped key bins _ true s h

theorem dropped_are_smallest_ptm2 (key : Vec → Rat) (wscut : Rat) (bins : List Bin) (s : Nat) (h : s < nparts bins) :
    ∃ dropped, ptm2Sorted key wscut bins = (ptm2 key wscut bins (some s)).drop 2 ++ dropped ∧
      (∀ a ∈ (ptm2 key wscut bins (some s)).drop 2, ∀ d ∈ dropped, key d.vals ≤ key a.vals) ∧
      (ptm2Sorted key wscut bins).Perm (ptm2Slots wscut bins) :=
  swellPart_dropped key bins _ true s h

theorem dropped_are_smallest_ptm3 (key : Vec → Rat) (bins : List Bin) (s : Nat) (h : s < nparts bins) :
    ∃ dropped, ptm3Sorted key bins = ptm3 key bins (some s) ++ dropped ∧
      (∀ a ∈ ptm3 key bins (some s), ∀ d ∈ dropped, key d.vals ≤ key a.vals) ∧
      (ptm3Sorted key bins).Perm (ptm3Slots bins) :=
  swellPart_dropped key bins _ false s h

/-! ## wind sea first -/

/-- for a non-negative spectrum `wsfrac > wscut` (numpy semantics, `0/0 = nan`) means: the basin has energy and
    its wind-sea energy exceeds the fraction `wscut` of it -/
theorem isWindSea_iff (wscut : Rat) (bins : List Bin) (k : Nat) (hnonneg : ∀ b ∈ bins, 0 ≤ b.e) :
    isWindSea wscut bins k = true ↔ 0 < wsDen bins k ∧ wscut * wsDen bins k < wsNum bins k := by
  have hden : 0 ≤ wsDen bins k := List.sum_nonneg (select_vals_nonneg bins _ hnonneg)
  have hle : wsNum bins k ≤ wsDen bins k := by
    refine List.sum_le_sum fun b hb => ?_
    cases b.ws
    · show (0 : Rat) ≤ if (b.lab == k) = true then b.e else 0
      split_ifs
      exacts [hnonneg b hb, le_rfl]
    · exact le_rfl
  unfold isWindSea
  by_cases h0 : wsDen bins k = 0
  · rw [if_pos h0, decide_eq_true_eq, h0]
    exact ⟨fun h => absurd (h.trans_le (hle.trans h0.le)) (lt_irrefl 0), fun h => absurd h.1 (lt_irrefl 0)⟩
  · have hpos : 0 < wsDen bins k := lt_of_le_of_ne hden (Ne.symm h0)
    rw [if_neg h0, decide_eq_true_eq, lt_div_iff₀ hpos]
    exact ⟨fun h => ⟨hpos, h⟩, fun h => h.2⟩

/-- **PTM1: partition 0 is exactly the union of the basins whose wind-sea fraction exceeds the cutoff** -/
theorem windsea_rule_ptm1 (key : Vec → Rat) (wscut : Rat) (bins : List Bin) (cnt : Option Nat) :
    (ptm1 key wscut bins cnt).head? =
      some (select bins fun b => decide (1 ≤ b.lab) && isWindSea wscut bins b.lab) := by
  rw [ptm1_eq, List.head?_cons, ptm1Wsea_select]

/-- **PTM2: partition 0 as in PTM1, partition 1 is exactly the wind-sea bins of the remaining basins**, and no later
    partition holds a wind-sea bin -/
theorem windsea_rule_ptm2 (key : Vec → Rat) (wscut : Rat) (bins : List Bin) (cnt : Option Nat) :
    (ptm2 key wscut bins cnt).take 2 =
      [select bins fun b => decide (1 ≤ b.lab) && isWindSea wscut bins b.lab,
       select bins fun b => decide (1 ≤ b.lab) && !isWindSea wscut bins b.lab && b.ws] ∧
    ∀ p ∈ (ptm2 key wscut bins cnt).drop 2, ∀ (i : Nat) (hi : i < bins.length),
      p.mask.getD i false = true → bins[i].ws = false := by
  rw [ptm2_eq, ptm1Wsea_select, ptm2Wsea2_select]
  refine ⟨rfl, fun p hp i hi hm => ?_⟩
  rcases mem_swellPart _ _ _ _ hp with rfl | hmem
  · rw [zeros_mask_getD] at hm
    cases hm
  · -- a swell slot is the render of a swell destination, which takes no wind-sea bin
    rw [ptm2Slots_eq] at hmem
    obtain ⟨d, hd, rfl⟩ := List.mem_map.mp hmem
    obtain ⟨k, hk, _, rfl⟩ := mem_swellDs.mp hd
    have h := render_mask_true.mp hm
    rw [List.getElem?_eq_getElem hi, Option.bind_some] at h
    have h' := (dest_swell (isWindSea wscut bins) true bins[i] hk).symm.trans (beq_iff_eq.mpr h)
    cases hws : bins[i].ws
    · rfl
    · rw [hws] at h'
      simp at h'

/-- every swell partition of PTM1 is all-zero or one whole basin that is not wind sea; of PTM3: one whole basin -/
theorem swells_are_basins (key : Vec → Rat) (wscut : Rat) (bins : List Bin) (cnt : Option Nat) :
    (∀ p ∈ (ptm1 key wscut bins cnt).tail, p = zeros bins ∨
        ∃ k, 1 ≤ k ∧ k ≤ nparts bins ∧ isWindSea wscut bins k = false ∧ p = basin bins k) ∧
    (∀ p ∈ ptm3 key bins cnt, p = zeros bins ∨ ∃ k, 1 ≤ k ∧ k ≤ nparts bins ∧ p = basin bins k) := by
  rw [ptm1_eq, ptm3_eq]
  constructor
  · intro p hp
    refine (mem_swellPart _ _ _ _ hp).elim Or.inl fun h => ?_
    obtain ⟨k, hk, rfl⟩ := List.mem_map.mp h
    cases hw : isWindSea wscut bins k
    · exact Or.inr ⟨k, (mem_labels.mp hk).1, (mem_labels.mp hk).2, hw, zeros_add_select bins _⟩
    · exact Or.inl rfl
  · intro p hp
    refine (mem_swellPart _ _ _ _ hp).imp_right fun h => ?_
    obtain ⟨k, hk, rfl⟩ := List.mem_map.mp h
    exact ⟨k, (mem_labels.mp hk).1, (mem_labels.mp hk).2, rfl⟩

/-! ## nothing detected, nothing returned -/

/-- **a label map without a positive label (constant spectrum) gives all-zero partitions**, whatever is requested —
    the model's statement of the finding that a constant non-zero spectrum loses all its energy -/
theorem constant_gives_nothing (key : Vec → Rat) (wscut : Rat) (bins : List Bin) (cnt : Option Nat)
    (h : nparts bins = 0) :
    (∀ p ∈ ptm1 key wscut bins cnt, p = zeros bins) ∧ (∀ p ∈ ptm2 key wscut bins cnt, p = zeros bins) ∧
    (∀ p ∈ ptm3 key bins cnt, p = zeros bins) := by
  -- no labels: nothing is accumulated and there is no slot
  have hl : labels bins = [] := by rw [labels, h]; rfl
  have h1 : ptm1Wsea wscut bins = zeros bins := by rw [ptm1Wsea, hl]; rfl
  have h2 : ptm2Wsea2 wscut bins = zeros bins := by rw [ptm2Wsea2, hl]; rfl
  have hs : ∀ {slots filt p}, slots = [] → p ∈ swellPart key bins slots filt cnt → p = zeros bins :=
    fun e hp => (mem_swellPart _ _ _ _ hp).elim id fun h => by rw [e] at h; cases h
  rw [ptm1_eq, ptm2_eq, ptm3_eq, h1, h2]
  refine ⟨fun p hp => ?_, fun p hp => ?_, fun p hp => hs (by rw [ptm3Slots, hl]; rfl) hp⟩
  · exact (List.mem_cons.mp hp).elim id (hs (by rw [ptm1Slots, hl]; rfl))
  · exact (List.mem_cons.mp hp).elim id fun hp => (List.mem_cons.mp hp).elim id (hs (by rw [ptm2Slots, hl]; rfl))

/-! ## the hypotheses are satisfiable -/

/-- two basins, the first one with 5/7 of its energy in wind-sea bins -/
def demo : List Bin := [⟨5, 1, true⟩, ⟨2, 1, false⟩, ⟨4, 2, false⟩, ⟨1, 2, false⟩]

example : (∀ b ∈ demo, 1 ≤ b.lab) ∧ nparts demo ≤ 3 := by decide
example : ∀ b ∈ demo, (0 : Rat) ≤ b.e := by decide +kernel
example : (1 : Nat) < nparts demo := by decide
example : nparts [(⟨3, 0, false⟩ : Bin)] = 0 := by decide
example : ∀ p ∈ ptm3Slots demo, (fun v : Vec => v.sum) (zeros demo).vals ≤ (fun v : Vec => v.sum) p.vals := by
  decide +kernel
example : isWindSea (1/3) demo 1 = true ∧ isWindSea (1/3) demo 2 = false := by decide +kernel
example : (demo[1]'(by decide)).lab ≠ 0 ∧ ([(⟨3, 0, false⟩ : Bin)][0]'(by decide)).lab = 0 := by decide

end WS.C03
