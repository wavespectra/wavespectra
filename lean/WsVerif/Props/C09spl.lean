import WsVerif.Lemmas.SplBridge
import WsVerif.Lemmas.Split
import WsVerif.Gen.SplKernels
/-!
C09, regenerated decision logic (`harness/translate_spl.py` → `Gen/SplKernels.lean`) identified with the hand-written
model `Model/Split.lean` FOR ALL INPUTS.  Every theorem here is re-checked on every run against the definitions
regenerated from the current source of `core.utils.waveage`, `core.utils.is_overlap`, `Partition.ptm4`,
`Partition.ptm5`, `Partition.bbox`, `SpecArray.split`; an edit of one of these functions that changes a decision
breaks a bridge below (or makes the function untranslatable, which removes the definition and breaks every theorem
that mentions it).  xarray plumbing is not translated: it is pinned as source text (`genspl_pins_*`).
-/
namespace WS.C09
open WS WS.Split WS.SplBridge

/-! ### wave age, PTM4 -/

/-- the generated wave-age test at a bin = the model's wind-sea predicate on the bin's celerity and cosine:
    `celerity(freq, dpt) <= agefac * wspd * cos(D2R * (dir - wdir))`, `true` = wind sea -/
theorem genspl_waveage_eq (cos : Rat → Rat) (cel : Rat → Rat → Rat) (D2R f d wspd wdir dpt agefac : Rat) :
    Gen.splWaveage cos cel D2R f d wspd wdir dpt agefac
      = seaMask agefac wspd (cel f dpt) (cos (D2R * (d - wdir))) := rfl

/-- `ptm4` at a bin: part 0 = `where(windseamask)` (wind sea), part 1 = `where(~windseamask)` (swell), NaN → 0;
    the arguments of `waveage` are passed in the order `freq, dir, wspd, wdir, dpt, agefac` -/
theorem genspl_ptm4_eq (cos : Rat → Rat) (cel : Rat → Rat → Rat) (D2R f d wspd wdir dpt agefac x : Rat) :
    Gen.splPtm4 cos cel D2R f d wspd wdir dpt agefac x
      = [ (if seaMask agefac wspd (cel f dpt) (cos (D2R * (d - wdir))) then x else 0),
          (if !seaMask agefac wspd (cel f dpt) (cos (D2R * (d - wdir))) then x else 0) ] := rfl

/-- the same against the masked rows of the model (`Split.maskRow`, the row form of `whereM` used by `Split.ptm4`):
    for celerity `c` of the row and the cosine table of the columns -/
theorem genspl_ptm4_row (cos : Rat → Rat) (cel : Rat → Rat → Rat) (D2R f wspd wdir dpt agefac : Rat) (dirs row : Vec) :
    maskRow (seaMask agefac wspd (cel f dpt)) (dirs.map fun d => cos (D2R * (d - wdir))) row
        = List.zipWith (fun d x => (Gen.splPtm4 cos cel D2R f d wspd wdir dpt agefac x).getD 0 0) dirs row ∧
    maskRow (fun t => !seaMask agefac wspd (cel f dpt) t) (dirs.map fun d => cos (D2R * (d - wdir))) row
        = List.zipWith (fun d x => (Gen.splPtm4 cos cel D2R f d wspd wdir dpt agefac x).getD 1 0) dirs row := by
  constructor <;>
  · unfold maskRow
    rw [List.zipWith_map_left]
    rfl

/-! ### PTM5 -/

/-- `ptm5` at a bin: part 0 = `where(freq >= fcut)`, part 1 = `where(freq <= fcut)` — the model's two masks -/
theorem genspl_ptm5_eq (f d fcut x : Rat) :
    Gen.splPtm5 f d fcut x
      = [ (if decide (fcut ≤ f) then x else 0), (if decide (f ≤ fcut) then x else 0) ] := rfl

/-- the same against the model's masked rows: the mask depends on the row's frequency only -/
theorem genspl_ptm5_row (f fcut : Rat) (dirs row : Vec) :
    maskRow ((fun x (_ : Rat) => decide (fcut ≤ x)) f) dirs row
        = List.zipWith (fun d x => (Gen.splPtm5 f d fcut x).getD 0 0) dirs row ∧
    maskRow ((fun x (_ : Rat) => decide (x ≤ fcut)) f) dirs row
        = List.zipWith (fun d x => (Gen.splPtm5 f d fcut x).getD 1 0) dirs row := ⟨rfl, rfl⟩

/-- the regridding decision of `ptm5` on a strictly increasing frequency axis = the model's `ptm5Base`: the spectrum is
    regridded iff `interpolate` and `fcut` is not a grid frequency (`len(freqs) > freq.size`), and then onto the grid with
    `fcut` inserted at its sorted position (`sorted(set(freq).union([fcut]))`) -/
theorem genspl_ptm5_grid_eq (f dirs : Vec) (e : Mat) (fcut : Rat) (interp : Bool) (hf : f.Pairwise (· < ·)) :
    Gen.splPtm5Grid f fcut interp =
      (if (ptm5Base f dirs e fcut interp).2.2.2 then some (ptm5Base f dirs e fcut interp).1 else none) := by
  cases interp with
  | false => rfl
  | true =>
    rw [Gen.splPtm5Grid, if_pos rfl, ptm5Base, Bool.true_and]
    simp only [sortedUnion_single f fcut hf]
    cases hc : f.contains fcut with
    | true =>
      rw [insertU_of_mem fcut f hf (List.contains_iff_mem.mp hc), decide_eq_false (Nat.lt_irrefl _)]
      rfl
    | false =>
      have hn : fcut ∉ f := fun h => Bool.false_ne_true (hc ▸ List.contains_iff_mem.mpr h)
      have := searchsorted_le f fcut
      rw [insertU_of_not_mem fcut f hn, decide_eq_true (by
        rw [List.length_append, List.length_cons, List.length_take, List.length_drop]; omega)]
      rfl

/-! ### bounding boxes -/

/-- the four `bbox.get(key, default) or alt` of the first loop = the model's `effRect` (absent key → the default, which
    is itself replaced by `alt` when it is `0`; `None` → `alt`; `0` → `alt`, the falsy-zero behaviour as coded), then
    `fmin >= fmax` → `ValueError`, then `[fmin, dmin, fmax, dmax]` -/
theorem genspl_bbox_rect_eq (f d : Vec) (bx : Box) :
    Gen.splBboxRect f d (toDict bx) =
      (let r := effRect (vmin f) (vmax f) (vmin d) (vmax d) bx
       if decide (r.r ≤ r.l) then .error .valueError else .ok (rectList r)) := by
  obtain ⟨e1, e2, e3, e4⟩ := orElse_toDict bx
  simp only [Gen.splBboxRect, e1, e2, e3, e4, amin_eq, amax_eq]
  rfl

/-- the first loop over all boxes: `ValueError` iff some rectangle has `fmax <= fmin`, else the rectangles in order -/
theorem genspl_bbox_rects_eq (f d : Vec) (boxes : List Box) :
    Gen.splBboxRects f d (boxes.map toDict) =
      (if (rectsOf f d boxes).any (fun r => decide (r.r ≤ r.l)) then .error .valueError
       else .ok ((rectsOf f d boxes).map rectList)) := by
  rw [Gen.splBboxRects, List.mapM_map, rectsOf, List.any_map, List.map_map]
  simp only [Function.comp_def, genspl_bbox_rect_eq]
  exact mapM_guard (fun bx => decide ((effRect (vmin f) (vmax f) (vmin d) (vmax d) bx).r ≤
    (effRect (vmin f) (vmax f) (vmin d) (vmax d) bx).l)) _ _ boxes

/-- `is_overlap` on the list form of two rectangles = the model's `overlap` -/
theorem genspl_is_overlap_eq (r1 r2 : Rect) : Gen.splIsOverlap (rectList r1) (rectList r2) = overlap r1 r2 := rfl

/-- the rejection loop `for rect1, rect2 in combinations(rectangles, 2): if is_overlap(rect1, rect2): raise ValueError`
    = the model's `anyOverlap` (every unordered pair, each once) -/
theorem genspl_bbox_overlap_eq (rs : List Rect) :
    Gen.splBboxOverlap (rs.map rectList) = (if anyOverlap rs then .error .valueError else .ok ()) := by
  rw [Gen.splBboxOverlap, any_combinations2_map rectList Gen.splIsOverlap rs anyOverlap rfl fun _ _ => rfl]

/-- all decisions of `Partition.bbox` taken before any masking, in the model's order: the limits of each box (with
    defaults), `fmin >= fmax` → `ValueError`, any overlapping pair → `ValueError`, else the rectangles -/
theorem genspl_bbox_eq (f d : Vec) (boxes : List Box) :
    Gen.splBbox f d (boxes.map toDict) =
      (if (rectsOf f d boxes).any (fun r => decide (r.r ≤ r.l)) then .error .valueError
       else if anyOverlap (rectsOf f d boxes) then .error .valueError
       else .ok ((rectsOf f d boxes).map rectList)) := by
  rw [Gen.splBbox, genspl_bbox_rects_eq]
  cases (rectsOf f d boxes).any fun r => decide (r.r ≤ r.l)
  · simp only [Bool.false_eq_true, if_false, genspl_bbox_overlap_eq]
    cases anyOverlap (rectsOf f d boxes) <;> rfl
  · rfl

/-- `Split.bbox` raises exactly when the generated decisions raise, and then with the same exception class -/
theorem genspl_bbox_error_iff (f dirs : Vec) (e : Mat) (boxes : List Box) :
    (∃ out, bbox f dirs e boxes = .ok out) ↔ (∃ rs, Gen.splBbox f dirs (boxes.map toDict) = .ok rs) := by
  rw [genspl_bbox_eq, bbox_eq]
  cases (rectsOf f dirs boxes).any fun r => decide (r.r ≤ r.l) <;> cases anyOverlap (rectsOf f dirs boxes) <;> simp

/-- the membership mask of one rectangle as generated = the model's `inRect`:
    `(freq >= fmin) & (freq <= fmax) & (dir >= dmin) & (dir <= dmax)`; the third loop appends one masked copy per
    rectangle in order; the last part is the complement of the union of the masks (`~masks`, `masks` starting at `False`) -/
theorem genspl_bbox_parts_eq (rs : List Rect) (f d x : Rat) :
    Gen.splBboxParts (rs.map rectList) f d x
      = rs.map (fun r => if inRect r f d then x else 0) ++ [if !inAny rs f d then x else 0] := by
  unfold Gen.splBboxParts
  have := foldl_parts (fun (rect : List Rat) =>
      (((decide (f ≥ getR rect 0) && decide (f ≤ getR rect 2)) && decide (d ≥ getR rect 1)) && decide (d ≤ getR rect 3)))
    (fun m => Spl.whereFill (0 : Rat) m x) (rs.map rectList) [] false
  simp only [] at this ⊢
  rw [this]
  simp only [List.nil_append, Bool.false_or, List.map_map, List.any_map]
  rfl

/-- consequence for the model's partitions: the generated per-bin values are the entries of `Split.bboxParts`'s masks
    (`maskRow (inRect r x)` on a row of frequency `x`) -/
theorem genspl_bbox_parts_row (rs : List Rect) (f : Rat) (dirs row : Vec) (k : Nat) (hk : k < rs.length) :
    maskRow (inRect (rs.getD k ⟨0, 0, 0, 0⟩) f) dirs row
      = List.zipWith (fun d x => (Gen.splBboxParts (rs.map rectList) f d x).getD k 0) dirs row := by
  unfold maskRow
  congr 1
  funext d x
  rw [genspl_bbox_parts_eq]
  simp only [List.getD_eq_getElem?_getD]
  rw [List.getElem?_append_left (by simpa using hk)]
  simp [hk]

/-- … and the last one is the complement -/
theorem genspl_bbox_complement_row (rs : List Rect) (f : Rat) (dirs row : Vec) :
    maskRow ((fun x t => !inAny rs x t) f) dirs row
      = List.zipWith (fun d x => (Gen.splBboxParts (rs.map rectList) f d x).getD rs.length 0) dirs row := by
  unfold maskRow
  congr 1
  funext d x
  rw [genspl_bbox_parts_eq]
  simp only [List.getD_eq_getElem?_getD]
  rw [List.getElem?_append_right (by simp)]
  simp

/-! ### `SpecArray.split` -/

/-- the argument checks: `fmax <= fmin` (both given) → `ValueError`, then `dmax <= dmin` (both given) → `ValueError` -/
theorem genspl_split_validate_eq (fmin fmax dmin dmax : Option Rat) :
    Gen.splSplitValidate fmin fmax dmin dmax =
      (if badOrder fmin fmax then .error .valueError else if badOrder dmin dmax then .error .valueError else .ok ()) := by
  have key : ∀ a b : Option Rat, (a.isSome && b.isSome && decide (Spl.oget a ≤ Spl.oget b)) = badOrder b a := by
    intro a b
    cases a <;> cases b <;> rfl
  unfold Gen.splSplitValidate
  simp only [key]

/-- … so the model's `split` fails with `ValueError` whenever the generated validation does -/
theorem genspl_split_validate_model (tol : Rat) (f : Vec) (dirs : Option Vec) (e : Mat) (fmin fmax dmin dmax : Option Rat)
    (interp : Bool) (h : Gen.splSplitValidate fmin fmax dmin dmax = .error .valueError) :
    split tol f dirs e fmin fmax dmin dmax interp = .error .valueError := by
  rw [genspl_split_validate_eq] at h
  rw [split]
  split at h
  · rw [if_pos ‹_›]
  · split at h
    · rw [if_neg ‹_›, if_pos ‹_›]
    · cases h

/-- `self._obj.sel(freq=slice(fmin, fmax))` keeps the model's band -/
theorem genspl_split_band_eq (fmin fmax : Option Rat) (x : Rat) :
    Gen.splSplitFreqBand fmin fmax x = inBand fmin fmax x := rfl

theorem genspl_split_band_rows (f : Vec) (e : Mat) (fmin fmax : Option Rat) :
    bandRows f e fmin fmax = (List.zip f e).filter (fun p => Gen.splSplitFreqBand fmin fmax p.1) := rfl

/-- the direction block: taken only when `dmin or dmax` is truthy (a limit `0` alone does not trigger it — exactly as
    coded), then `sortby` BEFORE the label slice; otherwise the stored columns -/
theorem genspl_split_dircols_eq (dmin dmax : Option Rat) (d : Vec) :
    Gen.splSplitDirCols true dmin dmax d = dirCols d dmin dmax := by
  unfold Gen.splSplitDirCols dirCols
  simp only [truthy_eq, sortIdx_eq, Bool.true_and]
  rfl

/-- a spectrum without direction dimension is never sliced in direction -/
theorem genspl_split_dircols_1d (dmin dmax : Option Rat) (d : Vec) :
    Gen.splSplitDirCols false dmin dmax d = List.range d.length := rfl

/-- "Interpolate at fmin" on the frequency labels = the model's `addLow`: nothing unless `interpolate and fmin is not
    None`; then `fmin` is put in FRONT when the slice is empty or its first label is farther than `tol` from `fmin` -/
theorem genspl_split_low_eq (tol : Rat) (f : Vec) (e : Mat) (fmin : Option Rat) (interp : Bool) (rows : List (Rat × Vec))
    (r : Vec) (hr : ∀ a, fmin = some a → interpFreq f e a = .ok r) :
    (addLow tol f e fmin interp rows).map (fun l => l.map (·.1)) = Gen.splSplitLow interp fmin tol (rows.map (·.1)) := by
  cases fmin with
  | none => cases interp <;> rfl
  | some a =>
    cases interp with
    | false => rfl
    | true =>
      cases rows with
      | nil => simp only [addLow, hr a rfl]; rfl
      | cons p ps =>
        simp only [addLow, hr a rfl, Gen.splSplitLow]
        by_cases h : tol < absR (p.1 - a) <;> simp [Except.map, Spl.first, Spl.oget, h]

/-- "Interpolate at fmax" = the model's `addHigh`: `IndexError` on an empty selection (`other.freq[-1]`), else `fmax`
    is APPENDED when the last label is farther than `tol` from it -/
theorem genspl_split_high_eq (tol : Rat) (f : Vec) (e : Mat) (fmax : Option Rat) (interp : Bool) (rows : List (Rat × Vec))
    (r : Vec) (hr : ∀ b, fmax = some b → interpFreq f e b = .ok r) :
    (addHigh tol f e fmax interp rows).map (fun l => l.map (·.1)) = Gen.splSplitHigh interp fmax tol (rows.map (·.1)) := by
  cases fmax with
  | none => cases interp <;> rfl
  | some b =>
    cases interp with
    | false => rfl
    | true =>
      rcases List.eq_nil_or_concat rows with rfl | ⟨ps, p, rfl⟩
      · rfl
      · simp only [addHigh, hr b rfl, Gen.splSplitHigh]
        by_cases h : tol < absR (p.1 - b) <;> simp [Except.map, Spl.last, Spl.oget, h]

/-- the whole frequency side of `split`, blocks in source order: the model's output frequencies are the generated ones
    (whenever the two possible `_interp_freq` calls succeed — `_interp_freq` is pinned text, its `ValueError` for a
    cut-off outside the axis is the model's reading, not regenerated), errors included -/
theorem genspl_split_freq_eq (f : Vec) (dirs : Option Vec) (e : Mat) (fmin fmax dmin dmax : Option Rat) (interp : Bool)
    (hlen : f.length ≤ e.length) (r1 r2 : Vec)
    (h1 : ∀ a, fmin = some a → interpFreq f e a = .ok r1) (h2 : ∀ b, fmax = some b → interpFreq f e b = .ok r2) :
    (split Gen.splSplit_tol f dirs e fmin fmax dmin dmax interp).map (·.freq)
      = Gen.splSplitFreq f fmin fmax dmin dmax interp := by
  have hrows : (bandRows f e fmin fmax).map (·.1) = f.filter (Gen.splSplitFreqBand fmin fmax) := by
    have : ((List.zip f e).filter (fun p => inBand fmin fmax p.1)).map (·.1)
        = ((List.zip f e).map (·.1)).filter (inBand fmin fmax) := by
      rw [List.filter_map]; rfl
    rw [bandRows, this, List.map_fst_zip hlen]
    rfl
  rw [Gen.splSplitFreq, split, genspl_split_validate_eq]
  cases badOrder fmin fmax
  · cases badOrder dmin dmax
    · simp only [Bool.false_eq_true, if_false]
      rw [← hrows, ← genspl_split_low_eq _ f e fmin interp _ r1 h1]
      cases addLow Gen.splSplit_tol f e fmin interp (bandRows f e fmin fmax) with
      | error er => rfl
      | ok rows1 =>
        simp only [Except.map]
        rw [← genspl_split_high_eq _ f e fmax interp rows1 r2 h2]
        cases addHigh Gen.splSplit_tol f e fmax interp rows1 with
        | error er => rfl
        | ok rows2 => cases dirs <;> rfl
    · rfl
  · rfl

/-- … and its direction side: the kept stored columns are the generated ones -/
theorem genspl_split_cols_eq (tol : Rat) (f d : Vec) (e : Mat) (fmin fmax dmin dmax : Option Rat) (interp : Bool)
    (out : SplitOut) (h : split tol f (some d) e fmin fmax dmin dmax interp = .ok out) :
    out.cols = Gen.splSplitDirCols true dmin dmax d ∧ out.dirs = some (pickV (Gen.splSplitDirCols true dmin dmax d) d) := by
  obtain ⟨_, _, _, _, _, _, _, hc, hd, _⟩ := split_ok h
  rw [genspl_split_dircols_eq, ← hc]
  exact ⟨rfl, hd⟩

/-! ### the model's matrix-level functions expressed through the generated per-bin kernels -/

/-- `Split.ptm4` with the celerity table `celerity(freq, dpt)` and the cosine table `cos(D2R * (dir - wdir))`: sorted
    directions, and both partitions are the generated per-bin values (part 0 / part 1) on the sorted spectrum -/
theorem genspl_ptm4_model (cos : Rat → Rat) (cel : Rat → Rat → Rat) (D2R wspd wdir dpt agefac : Rat) (f dirs : Vec) (e : Mat) :
    (ptm4 (f.map (cel · dpt)) dirs (dirs.map fun d => cos (D2R * (d - wdir))) agefac wspd e) =
      (pickV (sortIdx dirs) dirs,
       List.zipWith (fun fr row => List.zipWith (fun d x => (Gen.splPtm4 cos cel D2R fr d wspd wdir dpt agefac x).getD 0 0)
         (pickV (sortIdx dirs) dirs) row) f (pickCols (sortIdx dirs) e),
       List.zipWith (fun fr row => List.zipWith (fun d x => (Gen.splPtm4 cos cel D2R fr d wspd wdir dpt agefac x).getD 1 0)
         (pickV (sortIdx dirs) dirs) row) f (pickCols (sortIdx dirs) e)) := by
  have hpick : pickV (sortIdx dirs) (dirs.map fun d => cos (D2R * (d - wdir)))
      = (pickV (sortIdx dirs) dirs).map fun d => cos (D2R * (d - wdir)) := by
    unfold pickV
    rw [List.map_map]
    exact List.map_congr_left fun j hj => getR_map_of_lt dirs _ 0 j ((mem_sortIdx dirs j).mp hj)
  unfold ptm4 whereM maskRow
  simp only [hpick, List.zipWith_map_left]
  rfl

/-- `Split.ptm5`: both partitions are the generated per-bin values on the SAME (possibly regridded, rescaled) spectrum
    `s`, over the output axes -/
theorem genspl_ptm5_model (thr q : Rat) (f dirs : Vec) (e : Mat) (fcut : Rat) (interp : Bool) :
    ∃ s : Mat,
      (ptm5 thr q f dirs e fcut interp).2.2.1 =
        List.zipWith (fun fr row => List.zipWith (fun d x => (Gen.splPtm5 fr d fcut x).getD 0 0)
          (ptm5 thr q f dirs e fcut interp).2.1 row) (ptm5 thr q f dirs e fcut interp).1 s ∧
      (ptm5 thr q f dirs e fcut interp).2.2.2 =
        List.zipWith (fun fr row => List.zipWith (fun d x => (Gen.splPtm5 fr d fcut x).getD 1 0)
          (ptm5 thr q f dirs e fcut interp).2.1 row) (ptm5 thr q f dirs e fcut interp).1 s := by
  unfold ptm5
  rcases ptm5Base f dirs e fcut interp with ⟨f', d', e', rg⟩
  exact ⟨_, rfl, rfl⟩

/-- `Split.bbox`: when the model returns, the generated decisions return the model's rectangles, and part `k`
    (`k < len(boxes)`: box `k`; `k = len(boxes)`: the complement) is the generated per-bin value `k` on the sorted spectrum -/
theorem genspl_bbox_model (f dirs : Vec) (e : Mat) (boxes : List Box) (d' : Vec) (parts : List Mat)
    (h : bbox f dirs e boxes = .ok (d', parts)) :
    Gen.splBbox f dirs (boxes.map toDict) = .ok ((rectsOf f dirs boxes).map rectList) ∧
    d' = pickV (sortIdx dirs) dirs ∧ parts.length = boxes.length + 1 ∧
    ∀ k, k ≤ boxes.length → parts.getD k [] =
      List.zipWith (fun fr row => List.zipWith (fun d x =>
        (Gen.splBboxParts ((rectsOf f dirs boxes).map rectList) fr d x).getD k 0) d' row) f (pickCols (sortIdx dirs) e) := by
  obtain ⟨rfl, rfl, h1, h2⟩ := bbox_ok f dirs e boxes d' parts h
  have hlen := rectsOf_length f dirs boxes
  refine ⟨by rw [genspl_bbox_eq, h1, h2]; rfl, rfl, by simp [bboxParts, hlen], fun k hk => ?_⟩
  rcases Nat.lt_or_eq_of_le hk with hlt | rfl
  · have hkr : k < (rectsOf f dirs boxes).length := hlen ▸ hlt
    rw [getD_bboxParts_lt _ _ _ _ k _ (List.getElem?_eq_getElem hkr), whereM]
    congr 1
    funext fr row
    rw [← genspl_bbox_parts_row _ fr _ row k hkr, List.getD_eq_getElem?_getD, List.getElem?_eq_getElem hkr]
    rfl
  · rw [← hlen, getD_bboxParts_last, whereM]
    congr 1
    funext fr row
    exact genspl_bbox_complement_row _ fr _ row

/-! ### consequences on the regenerated text -/

/-- `ptm4` as coded assigns every bin to exactly one of wind sea / swell and loses nothing -/
theorem genspl_ptm4_exact (cos : Rat → Rat) (cel : Rat → Rat → Rat) (D2R f d wspd wdir dpt agefac x : Rat) :
    ∃ a b, Gen.splPtm4 cos cel D2R f d wspd wdir dpt agefac x = [a, b] ∧ a + b = x ∧ (a = 0 ∨ b = 0) := by
  have h := mask_compl (seaMask agefac wspd (cel f dpt) (cos (D2R * (d - wdir)))) x
  exact ⟨_, _, genspl_ptm4_eq .., h.1, h.2⟩

/-- `ptm5` as coded: off the cut-off every bin is in exactly one part; a bin AT the cut-off frequency is in both
    (`>=` and `<=`), the documented double counting at `fcut` -/
theorem genspl_ptm5_exact (f d fcut x : Rat) :
    ∃ a b, Gen.splPtm5 f d fcut x = [a, b] ∧ (f ≠ fcut → a + b = x ∧ (a = 0 ∨ b = 0)) ∧ (f = fcut → a = x ∧ b = x) := by
  rw [genspl_ptm5_eq]
  by_cases h1 : fcut ≤ f <;> by_cases h2 : f ≤ fcut
  · refine ⟨x, x, by simp [h1, h2], fun hne => absurd (Rat.le_antisymm h2 h1) hne, fun _ => ⟨rfl, rfl⟩⟩
  · refine ⟨x, 0, by simp [h1, h2], fun _ => ⟨by simp, Or.inr rfl⟩, fun he => absurd (le_of_eq he) h2⟩
  · refine ⟨0, x, by simp [h1, h2], fun _ => ⟨by simp, Or.inl rfl⟩, fun he => absurd (le_of_eq he.symm) h1⟩
  · exact absurd (Rat.le_total.resolve_left h1) h2

/-! ### literals, defaults, signatures, order of the parts, plumbing (pinned as text) -/

/-- `agefac` defaults to `DEFAULTS["agefac"]` = the double `1.7`; `tol = 1e-10` = the model's `splitTol` -/
theorem genspl_pins_literals :
    Gen.splPtm4_agefac_default = (7656119366529843 : Rat) / 4503599627370496 ∧
    Gen.splPtm4_agefac_default * 10 - 17 < 1 / 100000000000000 ∧ 17 - Gen.splPtm4_agefac_default * 10 < 1 / 100000000000000 ∧
    Gen.splSplit_tol = splitTol := by
  exact ⟨rfl, by decide +kernel, by decide +kernel, rfl⟩

theorem genspl_pins_signatures :
    Gen.splWaveage_sig = [("freq", ""), ("dir", ""), ("wspd", ""), ("wdir", ""), ("dpt", ""), ("agefac", "")] ∧
    Gen.splIsOverlap_sig = [("rect1", ""), ("rect2", "")] ∧
    Gen.splPtm4_sig = [("self", ""), ("wspd", ""), ("wdir", ""), ("dpt", ""), ("agefac", "DEFAULTS['agefac']")] ∧
    Gen.splPtm5_sig = [("self", ""), ("fcut", ""), ("interpolate", "True")] ∧
    Gen.splBbox_sig = [("self", ""), ("bboxes", "")] ∧
    Gen.splSplit_sig = [("self", ""), ("fmin", "None"), ("fmax", "None"), ("dmin", "None"), ("dmax", "None"),
      ("interpolate", "True"), ("rechunk", "True")] ∧
    Gen.splPtm5_regrid_sig = "dset, freq=None, dir=None, maintain_m0=True" := by
  exact ⟨rfl, rfl, rfl, rfl, rfl, rfl, rfl⟩

/-- the names the translated text relies on are bound by exactly these imports; `D2R` is `np.pi / 180.0` -/
theorem genspl_pins_imports :
    Gen.splWaveage_D2R_src = "np.pi / 180.0" ∧ Gen.splWaveage_imports = ["import numpy as np"] ∧
    Gen.splPtm4_imports = ["import xarray as xr", "from wavespectra.core.utils import waveage"] ∧
    Gen.splPtm5_imports = ["import xarray as xr", "from wavespectra.core.utils import regrid_spec"] ∧
    Gen.splBbox_imports = ["from itertools import combinations", "import xarray as xr",
      "from wavespectra.core.utils import is_overlap"] := by
  exact ⟨rfl, rfl, rfl, rfl, rfl⟩

/-- every method sorts by `dir` then `freq` before masking -/
theorem genspl_pins_sort :
    Gen.splPtm4_sort = ["dir", "freq"] ∧ Gen.splPtm5_sort = ["dir", "freq"] ∧ Gen.splBbox_sort = ["dir", "freq"] := by
  exact ⟨rfl, rfl, rfl⟩

/-- the statements of `ptm4`, `ptm5`, `bbox` that are NOT translated (xarray plumbing: sorting, metadata, attributes) -/
theorem genspl_pins_plumbing_partition :
    Gen.splPtm4_plumbing = ["dsout = self.dset.sortby('dir').sortby('freq')", "dsout = self._set_metadata(dsout)",
      "dsout.attrs.update({'part0': 'wind sea', 'part1': 'swell'})"] ∧
    Gen.splPtm5_plumbing = ["dsout = self.dset.sortby('dir').sortby('freq')", "dsout = self._set_metadata(dsout)",
      "dsout.attrs.update({'part0': 'sea', 'part1': 'swell'})"] ∧
    Gen.splBbox_plumbing = ["ds = self.dset.sortby('dir').sortby('freq')", "dsout = self._set_metadata(dsout)",
      "for ind, rect in enumerate(rectangles):\n    fmin, dmin, fmax, dmax = rect\n    dsout.attrs.update({f'part{ind}': f'fmin={fmin}, fmax={fmax}, dmin={dmin}, dmax={dmax}'})",
      "dsout.attrs.update({f'part{len(rectangles)}': 'complement'})"] := by
  exact ⟨rfl, rfl, rfl⟩

/-- the statements of `split` that are NOT translated (attributes, chunking, the return) and `_interp_freq` (the model's
    `interpFreq` is its hand-written reading; its text is pinned, not translated) -/
theorem genspl_pins_plumbing_split :
    Gen.splSplit_plumbing = ["other.freq.attrs = self._obj[attrs.FREQNAME].attrs", "chunks = {attrs.FREQNAME: -1}",
      "if rechunk:\n    other = other.chunk(chunks)", "return other"] ∧
    Gen.splSplit_dir_plumbing = ["other[attrs.DIRNAME].attrs = self._obj[attrs.DIRNAME].attrs",
      "chunks.update({attrs.DIRNAME: -1})"] ∧
    Gen.splSplit_interp_freq_src = ["if not self.freq.min() < fint < self.freq.max():\n    raise ValueError(f'fint must be within freq range {self.freq.values}, got {fint}')",
      "ifreq = self.freq.searchsorted(fint)", "df = np.diff(self.freq.isel(freq=[ifreq - 1, ifreq]))[0]",
      "right = self._obj.isel(freq=[ifreq]) * (fint - self.freq[ifreq - 1])",
      "left = self._obj.isel(freq=[ifreq - 1]) * (self.freq[ifreq] - fint)",
      "right = right.assign_coords({'freq': [fint]})", "left = left.assign_coords({'freq': [fint]})",
      "return (left + right) / df"] := by
  exact ⟨rfl, rfl, rfl⟩

end WS.C09
