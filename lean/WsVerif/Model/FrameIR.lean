/-!
# FrameIR — a small imperative IR for the frame analysis of C17 (Mathlib-free)

Objects have seven cells.  A *location* is either a cell of a parameter object as handed in by the caller
(`Loc.param v c`) or something allocated during the call (`Loc.fresh n`).  A variable maps every one of its cells to the
list of locations it may stand for (points-to sets).  Two statements:

* `assign x srcs` — `x := ` result of an expression: a NEW object (one fresh location in every cell) that in addition may
  share, for every `(y, cy, cx) ∈ srcs`, its cell `cx` with cell `cy` of `y` (`fresh x` = no sources; `alias x y` = all
  cells; `view x y [values]` = a shallow wrapper around the same buffer; `proj x y attrs` = the dict `y.attrs` itself);
* `store x c` — any in-place write through `x` into cell `c`: EVERY location `x.c` may stand for is changed.

Control flow is abstracted away: the theorem is about every *trace* `tr` whose statements are taken from the program (any
order, any repetition, any subset: branches, loops, early returns and raises are all covered).

`writes ps p` is the computed may-write set on the cells of the parameters `ps`: a flow-insensitive may-alias table is
computed by `solve`, VALIDATED (`initB`, `closedB`: it contains the parameters and is closed under every assignment of
the program) and read out at the stores; if the validation fails the result is "everything".  `frame_ir` holds for ALL
programs.
-/
namespace WS.FrameIR

inductive Cell where
  | values | coords | attrs | encoding | dims | name
  /-- attrs of the objects HELD by a plain Python object (`self.f = v`), so that `self.g = w` does not count as a write into `v` -/
  | held
deriving DecidableEq, Repr

def Cell.all : List Cell := [.values, .coords, .attrs, .encoding, .dims, .name, .held]

theorem Cell.mem_all (c : Cell) : c ∈ Cell.all := by cases c <;> decide

def Cell.idx : Cell → Nat
  | .values => 0 | .coords => 1 | .attrs => 2 | .encoding => 3 | .dims => 4 | .name => 5 | .held => 6

abbrev Var := Nat

inductive Loc where
  | param (v : Var) (c : Cell)
  | fresh (n : Nat)
deriving DecidableEq, Repr

/-- `(y, cy, cx)`: cell `cx` of the target may share cell `cy` of `y` -/
abbrev Src := Var × Cell × Cell

inductive Stmt where
  | assign (x : Var) (srcs : List Src)
  | store (x : Var) (c : Cell)
deriving DecidableEq, Repr

abbrev Prog := List Stmt

/-! helpers used by the generated programs -/
/-- all cells of `y`, cell by cell (`x = y`, `x = y[k]`, `x = y.attr`, unknown method: conservative) -/
def allOf (y : Var) : List Src := Cell.all.map fun c => (y, c, c)
/-- the listed cells of `y` only (`[.values]`: `isel`, `sel`, shallow `copy`, `transpose`, `assign_coords`, …) -/
def cellsOf (y : Var) (cs : List Cell) : List Src := cs.map fun c => (y, c, c)
/-- the object that IS cell `c` of `y` (`y.attrs`, `y.values`, `y.encoding`): whatever is written through it hits `y.c` -/
def projOf (y : Var) (c : Cell) : List Src := Cell.all.map fun c' => (y, c, c')

structure State where
  env : Var → Cell → List Loc
  heap : Loc → Nat
  nxt : Nat

def gather {α : Type} (f : Var → Cell → List α) (srcs : List Src) (c : Cell) : List α :=
  srcs.flatMap fun s => if s.2.2 = c then f s.1 s.2.1 else []

def step (σ : State) : Stmt → State
  | .assign x srcs =>
    { env := fun y c => if y = x then Loc.fresh σ.nxt :: gather σ.env srcs c else σ.env y c
      heap := σ.heap, nxt := σ.nxt + 1 }
  | .store x c =>
    { env := σ.env, heap := fun l => if l ∈ σ.env x c then σ.heap l + 1 else σ.heap l, nxt := σ.nxt }

/-- big-step execution of a trace -/
def exec (tr : List Stmt) (σ : State) : State := tr.foldl step σ

/-- entry state: every parameter's cells are the caller's, everything else points nowhere; `h` = caller's heap
    (a version counter per location) -/
def init (ps : List Var) (h : Loc → Nat) : State :=
  { env := fun x c => if x ∈ ps then [Loc.param x c] else [], heap := h, nxt := 0 }

/-! ## the analysis -/
abbrev PC := Var × Cell
/-- may-alias table: entry `7·x + idx c` = parameter cells that cell `c` of `x` may share -/
abbrev AEnv := List (List PC)

def look (A : AEnv) (x : Var) (c : Cell) : List PC := A.getD (7 * x + c.idx) []

def union (a b : List PC) : List PC := b.foldl (fun acc t => if acc.contains t then acc else acc ++ [t]) a

def modAt (f : List PC → List PC) : Nat → AEnv → AEnv
  | _, [] => []
  | 0, a :: l => f a :: l
  | n + 1, a :: l => a :: modAt f n l

def astep (A : AEnv) : Stmt → AEnv
  | .assign x srcs => Cell.all.foldl (fun B c => modAt (fun old => union old (gather (look A) srcs c)) (7 * x + c.idx) B) A
  | .store _ _ => A

def closedB (p : Prog) (A : Var → Cell → List PC) : Bool :=
  p.all fun s => match s with
    | .assign x srcs => Cell.all.all fun c => (gather A srcs c).all fun t => (A x c).contains t
    | .store _ _ => true

def initB (ps : List Var) (A : Var → Cell → List PC) : Bool :=
  ps.all fun v => Cell.all.all fun c => (A v c).contains (v, c)

def maxVar (p : Prog) : Nat :=
  p.foldl (fun m s => match s with
    | .assign x srcs => srcs.foldl (fun m s => max m s.1) (max m x)
    | .store x _ => max m x) 0

def table0 (ps : List Var) (n : Nat) : AEnv :=
  (List.range (7 * (n + 1))).map fun i => if (i / 7) ∈ ps then Cell.all.filterMap (fun c => if c.idx = i % 7 then some (i / 7, c) else none) else []

def solve : Nat → Prog → AEnv → AEnv
  | 0, _, A => A
  | n + 1, p, A => if closedB p (look A) then A else solve n p (p.foldl astep A)

def dedup : List PC → List PC
  | [] => []
  | a :: l => if a ∈ dedup l then dedup l else a :: dedup l

theorem mem_dedup {a : PC} {l : List PC} : a ∈ dedup l ↔ a ∈ l := by
  induction l with
  | nil => simp [dedup]
  | cons b l ih =>
    unfold dedup
    by_cases hb : b ∈ dedup l
    · rw [if_pos hb]
      constructor
      · intro h; exact List.mem_cons_of_mem _ (ih.mp h)
      · intro h
        rcases List.mem_cons.mp h with h | h
        · exact h ▸ hb
        · exact ih.mpr h
    · rw [if_neg hb]
      simp [ih]

/-- parameter cells read out at the stores of `p` under the table `A` -/
def readout (p : Prog) (A : Var → Cell → List PC) : List PC :=
  p.flatMap fun s => match s with
    | .store x c => A x c
    | .assign _ _ => []

def top (ps : List Var) : List PC := ps.flatMap fun v => Cell.all.map fun c => (v, c)

/-- **the computed write-set** of program `p` on the cells of its parameters `ps` -/
def writes (ps : List Var) (p : Prog) : List PC :=
  let A := look (table0 ps (max (maxVar p) (ps.foldl max 0)) |> solve (p.length + 1) p)
  if initB ps A && closedB p A then dedup (readout p A) else top ps

/-! ## soundness -/
def Inv (A : Var → Cell → List PC) (σ : State) : Prop :=
  ∀ x c v c', Loc.param v c' ∈ σ.env x c → (v, c') ∈ A x c

theorem mem_gather {α : Type} {f : Var → Cell → List α} {srcs : List Src} {c : Cell} {a : α} :
    a ∈ gather f srcs c ↔ ∃ s ∈ srcs, s.2.2 = c ∧ a ∈ f s.1 s.2.1 := by
  simp only [gather, List.mem_flatMap]
  refine exists_congr fun s => and_congr_right fun _ => ?_
  split <;> simp [*]

theorem closed_assign {p : Prog} {A : Var → Cell → List PC} (hc : closedB p A = true) {x : Var} {srcs : List Src}
    (hs : Stmt.assign x srcs ∈ p) {c : Cell} {t : PC} (ht : t ∈ gather A srcs c) : t ∈ A x c := by
  have := List.all_eq_true.mp hc _ hs
  simp only [List.all_eq_true] at this
  exact List.contains_iff_mem.mp (this c (Cell.mem_all c) t ht)

theorem init_inv {ps : List Var} {A : Var → Cell → List PC} (hi : initB ps A = true) (h : Loc → Nat) :
    Inv A (init ps h) := by
  intro x c v c' hm
  simp only [init] at hm
  split at hm
  · cases List.mem_singleton.mp hm
    simp only [initB, List.all_eq_true] at hi
    exact List.contains_iff_mem.mp (hi _ ‹_› _ (Cell.mem_all _))
  · cases hm

theorem step_inv {p : Prog} {A : Var → Cell → List PC} (hc : closedB p A = true) {σ : State} (hI : Inv A σ)
    {s : Stmt} (hs : s ∈ p) : Inv A (step σ s) := by
  cases s with
  | store x c => exact hI
  | assign x srcs =>
    intro y c v c' hm
    simp only [step] at hm
    by_cases hy : y = x
    · rw [if_pos hy] at hm
      rcases List.mem_cons.mp hm with h | h
      · cases h
      · rcases mem_gather.mp h with ⟨s, hs', hcx, hl⟩
        have := hI _ _ _ _ hl
        subst hy
        exact closed_assign hc hs (mem_gather.mpr ⟨s, hs', hcx, this⟩)
    · rw [if_neg hy] at hm
      exact hI _ _ _ _ hm

theorem step_heap {p : Prog} {A : Var → Cell → List PC} {σ : State} (hI : Inv A σ) {s : Stmt} (hs : s ∈ p)
    {v : Var} {c : Cell} (hn : (v, c) ∉ readout p A) : (step σ s).heap (Loc.param v c) = σ.heap (Loc.param v c) := by
  cases s with
  | assign x srcs => rfl
  | store x cx =>
    simp only [step]
    by_cases hm : Loc.param v c ∈ σ.env x cx
    · exfalso
      apply hn
      unfold readout
      rw [List.mem_flatMap]
      exact ⟨_, hs, hI _ _ _ _ hm⟩
    · rw [if_neg hm]

theorem exec_frame {p : Prog} {A : Var → Cell → List PC} (hc : closedB p A = true) (tr : List Stmt)
    (hsub : ∀ s ∈ tr, s ∈ p) (σ : State) (hI : Inv A σ) {v : Var} {c : Cell} (hn : (v, c) ∉ readout p A) :
    (exec tr σ).heap (Loc.param v c) = σ.heap (Loc.param v c) := by
  induction tr generalizing σ with
  | nil => rfl
  | cons s tr ih =>
    have hs : s ∈ p := hsub s (List.mem_cons_self ..)
    unfold exec
    rw [List.foldl_cons]
    have := ih (fun t ht => hsub t (List.mem_cons_of_mem _ ht)) (step σ s) (step_inv hc hI hs)
    unfold exec at this
    rw [this, step_heap hI hs hn]

theorem mem_top {ps : List Var} {v : Var} (hv : v ∈ ps) (c : Cell) : (v, c) ∈ top ps := by
  unfold top
  rw [List.mem_flatMap]
  exact ⟨v, hv, List.mem_map.mpr ⟨c, Cell.mem_all c, rfl⟩⟩

/-- **general frame theorem**: every parameter cell NOT in the computed write-set has, after any trace over the
    statements of `p` from the entry state, the version it had in the caller's heap -/
theorem frame_ir_general (ps : List Var) (p : Prog) (h : Loc → Nat) (tr : List Stmt) (hsub : ∀ s ∈ tr, s ∈ p)
    (v : Var) (hv : v ∈ ps) (c : Cell) (hn : (v, c) ∉ writes ps p) :
    (exec tr (init ps h)).heap (Loc.param v c) = h (Loc.param v c) := by
  unfold writes at hn
  simp only at hn
  split at hn
  · rename_i hok
    rw [Bool.and_eq_true] at hok
    have := exec_frame hok.2 tr hsub (init ps h) (init_inv hok.1 h) (v := v) (c := c)
      (fun hm => hn (mem_dedup.mpr hm))
    exact this
  · exact absurd (mem_top hv c) hn

/-- **frame theorem**: an empty computed write-set means no cell of any parameter object changes -/
theorem frame_ir (ps : List Var) (p : Prog) (hw : writes ps p = []) (h : Loc → Nat) (tr : List Stmt)
    (hsub : ∀ s ∈ tr, s ∈ p) (v : Var) (hv : v ∈ ps) (c : Cell) :
    (exec tr (init ps h)).heap (Loc.param v c) = h (Loc.param v c) :=
  frame_ir_general ps p h tr hsub v hv c (by rw [hw]; exact List.not_mem_nil)

/-- … in particular for the program executed in its own order -/
theorem frame_ir_self (ps : List Var) (p : Prog) (hw : writes ps p = []) (h : Loc → Nat) (v : Var) (hv : v ∈ ps)
    (c : Cell) : (exec p (init ps h)).heap (Loc.param v c) = h (Loc.param v c) :=
  frame_ir ps p hw h p (fun _ hs => hs) v hv c

end WS.FrameIR
