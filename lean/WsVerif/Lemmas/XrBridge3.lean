import WsVerif.Model.XrTwins3
import WsVerif.Lemmas.Sums
import WsVerif.Lemmas.Moments
/-!
Helper lemmas for the T-tier bridges of `Props/C01xr3.lean`: the outer-product / broadcast forms that the labelled-array grammar
of `harness/translate_xr3.py` emits for the Stokes-drift double sums are the zipped forms of `Stats.ussSum` / `Stats.mss`.
No generated definition is mentioned here.
-/
namespace WS
open WS.Stats

/-- one row of `(dd·fk ⊗ t) · E · df`: `Σ_j ((c·t_j)·x_j)·w` -/
theorem uss_row_outer (c w : ℚ) (t r : Vec) :
    (List.map (fun x => x * w) (List.zipWith (fun a b => a * b) (List.map (fun b => c * b) t) r)).sum =
      (List.zipWith (fun x y => c * y * x * w) r t).sum := by
  rw [List.zipWith_map_left, List.map_zipWith, List.zipWith_comm]

/-- the double sum in outer-product form is `ussSum`: the maps fuse into the `zipWith`s, then `df` and the rows change
    places and each row is `uss_row_outer` -/
theorem uss_outer_eq (ddv : ℚ) (fkv t dfv : Vec) (e : Mat) :
    (List.map List.sum (List.zipWith (fun row w => List.map (fun x => x * w) row)
        (List.zipWith (fun r1 r2 => List.zipWith (fun a b => a * b) r1 r2)
          (List.map (fun a => List.map (fun b => a * b) t) (List.map (fun x => ddv * x) fkv)) e) dfv)).sum =
      (List.zipWith (fun (p : ℚ × ℚ) (r : Vec) => (List.zipWith (fun x y => ddv * p.1 * y * x * p.2) r t).sum)
        (List.zip fkv dfv) e).sum := by
  rw [List.map_map, List.zipWith_map_left, List.map_zipWith, List.zip_eq_zipWith,
    zipWith_zipWith_swap (f' := fun (p : ℚ × ℚ) (r : Vec) => (List.zipWith (fun x y => ddv * p.1 * y * x * p.2) r t).sum)
      (g' := Prod.mk) fun a r w => uss_row_outer (ddv * a) w t r]

/-- the double sum without a direction table, row-broadcast form: `Σ_i (dd·fk_i)·(Σ_j E_ij)·df_i`, i.e. `mss`'s shape on `oned` -/
theorem uss_plain_eq (ddv : ℚ) (fkv dfv : Vec) (e : Mat) :
    (List.map List.sum (List.zipWith (fun row w => List.map (fun x => x * w) row)
        (List.zipWith (fun w row => List.map (fun x => w * x) row) (List.map (fun x => ddv * x) fkv) e) dfv)).sum =
      (List.zipWith (· * ·) (List.zipWith (· * ·) fkv (e.map fun r => ddv * r.sum)) dfv).sum := by
  rw [List.zipWith_map_left, List.map_zipWith, List.zipWith_map_right,
    zipWith_zipWith_congr (f' := (· * ·)) (g' := fun a r => a * (ddv * r.sum)) fun a r w => by
      rw [sum_map_mul_const, sum_map_const_mul]; ring]

/-- a row against a table of ones at least as long as the row -/
theorem uss_row_ones (c w : ℚ) (r : Vec) (n : Nat) (h : r.length ≤ n) :
    (List.zipWith (fun x y => c * y * x * w) r (List.replicate n 1)).sum = c * r.sum * w := by
  induction r generalizing n with
  | nil => simp
  | cons x r ih =>
    cases n with
    | zero => simp at h
    | succ n =>
      simp only [List.replicate_succ, List.zipWith_cons_cons, List.sum_cons, ih n (by simpa using h)]
      ring

/-- `mss`'s shape on `oned` is `ussSum` against a table of ones, for rows no longer than the table -/
theorem uss_ones_eq (ddv : ℚ) (fkv dfv : Vec) (e : Mat) (n : Nat) (h : ∀ r ∈ e, r.length ≤ n) :
    (List.zipWith (· * ·) (List.zipWith (· * ·) fkv (e.map fun r => ddv * r.sum)) dfv).sum =
      (List.zipWith (fun (p : ℚ × ℚ) (r : Vec) => (List.zipWith (fun x y => ddv * p.1 * y * x * p.2) r (List.replicate n 1)).sum)
        (List.zip fkv dfv) e).sum := by
  induction fkv generalizing dfv e with
  | nil => simp
  | cons a fkv ih =>
    cases e with
    | nil => simp
    | cons r e =>
      cases dfv with
      | nil => simp
      | cons w dfv =>
        have hr : r.length ≤ n := h r (by simp)
        have he : ∀ r' ∈ e, r'.length ≤ n := fun r' hr' => h r' (by simp [hr'])
        simp only [List.map_cons, List.zipWith_cons_cons, List.zip_cons_cons, List.sum_cons, ih dfv e he,
          uss_row_ones (ddv * a) w r n hr]
        ring

end WS
