import WsVerif.Model.ConstructArgs
import WsVerif.Model.Consts
import WsVerif.Gen.ConKernels
import WsVerif.Props.C01
import WsVerif.Props.C01xr
import Mathlib.Tactic.Ring
import Mathlib.Tactic.FieldSimp
import Mathlib.Tactic.Linarith
/-!
Helper lemmas for `Props/C15con.lean`: the regenerated constructors (`Gen/ConKernels.lean`) against
`Model/Construct.lean` / `Model/ConstructArgs.lean`.  Each lemma is about one expression shape the translator
writes, with the surrounding parameters as variables; the constructors that share a shape share the lemma.
-/
namespace WS.ConBridge
open WS WS.Stats WS.Construct

/-- the oracle `sqrt` is a square root at the (non-negative) radicand `H` -/
def SqrtAt (sqrt : ℚ → ℚ) (H : ℚ) : Prop := 0 ≤ H ∧ sqrt H * sqrt H = H

/-- radicand of `hs` with the property's constants, tail on -/
abbrev H (f E : Vec) : ℚ := hsE Consts.thr Consts.quarter true f E

theorem oned_singletons (E : Vec) : oned 1 (E.map fun t => [t]) = E := by
  simp [oned, List.map_map, Function.comp_def]

/-- `spec.spec.hs()` of a 1-D spectrum read as an `nf × 1` matrix with `dd = 1` -/
theorem xrHs_1d (sqrt : ℚ → ℚ) (f E : Vec) (hf : f ≠ []) :
    Gen.xrHs sqrt f [] (E.map fun t => [t]) (Gen.xrDf f) 1 Gen.xrHs_tail_default = 4 * sqrt (H f E) := by
  rw [C01.genxr_df_eq f hf, C01.genxr_defaults.1, C01.genxr_hs_full, oned_singletons]

/-- `(h / 4√H)² · E` is the model's `h²/(16 H) · E`, and `4√H = 0` exactly where the model has `H ≤ 0` -/
theorem scaled_core (sqrt : ℚ → ℚ) (f E : Vec) (h : ℚ) (hs : SqrtAt sqrt (H f E)) :
    Option.map (fun x => List.map (fun t => x * t) E) (Option.map (fun x => x ^ 2) (divOpt h (4 * sqrt (H f E))))
      = Construct.scaled Consts.thr Consts.quarter h f E := by
  obtain ⟨h0, hr⟩ := hs
  simp only [Construct.scaled, divOpt]
  by_cases hz : sqrt (H f E) = 0
  · rw [hz, mul_zero] at hr
    rw [if_pos (by rw [hz, mul_zero]), if_pos hr.ge]
    rfl
  · have hH : ¬ H f E ≤ 0 := fun hle => hz (mul_self_eq_zero.mp (hr.trans (le_antisymm hle h0)))
    rw [if_neg (mul_ne_zero four_ne_zero hz), if_neg hH, Option.map_some, Option.map_some, div_pow, mul_pow,
      pow_two (sqrt _), hr, show (4 : ℚ) ^ 2 = 16 by norm_num]
    rfl

/-! ### scalar expressions produced by the translator -/

/-- `pierson_moskowitz` divides twice … -/
theorem phillips_div_gen (pi g alpha x : ℚ) : alpha * g ^ 2 / (2 * pi) ^ 4 / x ^ 5 = phillips pi g alpha x := by
  rw [phillips, div_div]

/-- … `jonswap` multiplies by the two reciprocals -/
theorem phillips_mul_gen (pi g alpha x : ℚ) :
    alpha * g ^ 2 * (1 / (2 * pi) ^ 4) * (1 / x ^ 5) = phillips pi g alpha x := by
  rw [phillips, mul_one_div, mul_one_div, div_div]

theorem pmExpArg_gen (f fp : ℚ) : -(5 / 4) * (1 / (f / fp) ^ 4) = pmExpArg fp f := by
  rw [pmExpArg, one_div, ← inv_pow, inv_div]

theorem peakExpArg_gen (f fp sa sb : ℚ) :
    -(f - fp) ^ 2 / (2 * (if f ≤ fp then sa else sb) ^ 2 * fp ^ 2) = peakExpArg fp (sigmaSel fp sa sb f) f :=
  neg_div _ _

theorem gaussExpArg_gen (f fp gw : ℚ) : -(1 / 2) * ((f - fp) / gw) ^ 2 = gaussExpArg fp gw f := by
  unfold gaussExpArg
  ring

theorem kd_gen (pi : ℚ) (sqrt : ℚ → ℚ) (dep x : ℚ) : Gen.wavenuma pi sqrt x dep * dep = kd pi sqrt dep x := by
  rw [kd, C01.gen_wavenuma_eq]

theorem kd2_gen (pi : ℚ) (sqrt : ℚ → ℚ) (dep x : ℚ) :
    2 * Gen.wavenuma pi sqrt x dep * dep = 2 * kd pi sqrt dep x := by
  rw [mul_assoc, kd_gen]

theorem cosArg_gen (pi d dm : ℚ) : 1 / 2 * (dth d dm * (pi / 180)) = cosArg pi d dm := by
  unfold cosArg deg2rad
  ring

theorem cosExp_gen (pi dspr : ℚ) : 2 * (2 / (dspr * (pi / 180)) ^ 2 - 1) = cosExp pi dspr := by
  unfold cosExp deg2rad
  ring

/-! ### list shapes produced by the translator -/

/-- the TMA depth factor as the translator writes it (one `zipWith`/`map` per Python operator) -/
theorem phi_gen (k : ℚ → ℚ) (f th sh : Vec) :
    List.zipWith (fun a b => a / b) (List.map (fun t => t ^ 2) th)
      (List.map (fun t => 1 + t) (List.zipWith (fun a b => a / b) (List.map (fun x => 2 * k x) f) sh))
      = tmaPhi (f.map k) th sh := by
  induction f generalizing th sh with
  | nil => cases th <;> rfl
  | cons x f ih =>
    cases th with
    | nil => rfl
    | cons t th =>
      cases sh with
      | nil => rfl
      | cons s sh => exact congrArg (phiElem (k x) t s :: ·) (ih th sh)

theorem select_gen (c : List Bool) (x y : Vec) :
    List.zipWith (fun c p => if c = true then p.1 else p.2) c (List.zip x y) = selectV c x y := by
  induction c generalizing x y with
  | nil => rfl
  | cons b c ih =>
    cases x with
    | nil => rfl
    | cons a x =>
      cases y with
      | nil => rfl
      | cons d y => exact congrArg ((if b = true then a else d) :: ·) (ih x y)

/-- normalisation of one row as the translator writes it, with `n` the number of directions -/
theorem cartwrightRow_gen (pi : ℚ) (t : Vec) (n : ℕ) (hn : t.length = n) :
    Option.map (fun x => List.map (fun u => u / (180 / pi)) x)
      (Option.map (fun y => List.map (fun u => u * y) t) (divOpt 1 (t.sum * (2 * pi / ((n : ℕ) : ℚ)))))
      = cartwrightRow pi t := by
  subst hn
  simp only [cartwrightRow, divOpt]
  by_cases hden : t.sum * (2 * pi / (t.length : ℚ)) = 0
  · rw [if_pos hden, if_pos (Or.inl hden)]
    rfl
  · have hpi : pi ≠ 0 := fun h0 => hden (by rw [h0, mul_zero, zero_div, mul_zero])
    rw [if_neg hden, if_neg (not_or.mpr ⟨hden, hpi⟩), Option.map_some, Option.map_some, List.map_map]
    rfl

/-- the same row by row, as `cartwright` is written for per-frequency parameters -/
theorem spreadRows_gen (pi : ℚ) (T : Mat) (n : ℕ) (hl : ∀ t ∈ T, t.length = n) :
    List.map (fun r => Option.map (fun x => List.map (fun u => u / (180 / pi)) x) r)
      (List.zipWith (fun x r => Option.map (fun y => List.map (fun u => u * y) x) r) T
        (List.map (fun t => divOpt 1 t) (List.map (fun t => t * (2 * pi / ((n : ℕ) : ℚ))) (List.map List.sum T))))
      = spreadRows pi T := by
  rw [List.map_map, List.map_map, List.zipWith_map_right, List.zipWith_self, List.map_map]
  exact List.map_congr_left fun t ht => cartwrightRow_gen pi t n (hl t ht)

theorem mask90_length (dirs : Vec) (m : ℚ) (t : Vec) (h : t.length = dirs.length) : (mask90 dirs m t).length = dirs.length := by
  rw [mask90, List.length_zipWith, h, min_self]

theorem mask_rows_length (dirs dms : Vec) (T : Mat) (hl : ∀ t ∈ T, t.length = dirs.length) :
    ∀ t ∈ List.zipWith (fun m t => mask90 dirs m t) dms T, t.length = dirs.length :=
  forall_mem_zipWith fun m _ r hr => mask90_length dirs m r (hl r hr)

end WS.ConBridge
