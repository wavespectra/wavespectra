import WsVerif.Model.XrTwins
import WsVerif.Lemmas.Sums
/-!
Helper lemmas for the T-tier bridges of `Props/C01xr.lean`: the map / zip forms that the labelled-array grammar of
`harness/translate_xr.py` emits are the forms used by the hand-written models.  No generated definition is mentioned here.
-/
namespace WS
open WS.Stats

/-- `dfGo` (the model's recursion for `np.gradient` after the first point) in numpy's slice form -/
theorem dfGo_eq_slices (p c : ℚ) (rest : Vec) :
    dfGo p c rest = List.zipWith (fun a b => (a - b) / 2) rest (p :: c :: rest).dropLast.dropLast
      ++ [lastD (c :: rest) - lastD (p :: c :: rest).dropLast] := by
  induction rest generalizing p c with
  | nil => simp [dfGo, lastD]
  | cons n rest ih =>
    have := ih c n
    simp only [dfGo, List.dropLast_cons_cons, List.zipWith_cons_cons, List.cons_append, lastD, List.getLastD_cons] at this ⊢
    rw [this]

/-- `np.gradient` of at least two points is the model's `df` -/
theorem npGradient_eq_df (a b : ℚ) (rest : Vec) : XrT.npGradient (a :: b :: rest) = df (a :: b :: rest) := by
  simp only [XrT.npGradient, df, dfGo_eq_slices, getR, List.getD_cons_zero, List.getD_cons_succ, List.drop_succ_cons,
    List.drop_zero, List.cons_append, List.nil_append, lastD, List.getLastD_cons]

/-- one row of `crsd`: `((dd·r)·c)·s` bin by bin -/
theorem crsd_row (ddv : ℚ) (r c s : Vec) :
    List.zipWith (fun a b => a * b) (List.zipWith (fun a b => a * b) (List.map (fun t => ddv * t) r) c) s =
      List.zipWith (fun (x : ℚ) (cs : ℚ × ℚ) => ddv * x * cs.1 * cs.2) r (List.zip c s) := by
  rw [List.zipWith_map_left, List.zip_eq_zipWith, List.zipWith_zipWith_left, List.zipWith_zipWith_right]

theorem crsd_row_mom (ddv : ℚ) (r c s : Vec) :
    List.zipWith (fun (x : ℚ) (cs : ℚ × ℚ) => ddv * x * cs.1 * cs.2) r (List.zip c s) =
      List.zipWith (fun x y => ddv * x * y) r (List.zipWith (· * ·) c s) := by
  rw [← List.map_uncurry_zip_eq_zipWith (l := c), List.zipWith_map_right]
  simp only [Function.uncurry, mul_assoc]

/-- the twin of `crsd` is the first directional moment against the product table `c·s` -/
theorem crsdRow_eq_momdRow (ddv : ℚ) (c s : Vec) (e : Mat) : XrT.crsdRow ddv c s e = momdRow ddv (mulV c s) e := by
  unfold XrT.crsdRow momdRow mulV
  simp only [crsd_row_mom]

/-- `x.where(x >= thr, one)` after the square root, on a possibly-NaN radicand -/
theorem where_ge_eq (sqrt : ℚ → ℚ) (thr one : ℚ) (r : Option ℚ) :
    (if (Option.any (fun t => decide (t ≥ thr)) (Option.map sqrt r)) = true then Option.map sqrt r else some one) =
      XrT.sweFull sqrt thr one r := by
  cases r <;> simp [XrT.sweFull]

/-- the arithmetic of `gw` on abstract ingredients: with an oracle `sqrt` that squares back on `H` and on `T2`,
    `(4·sqrt H / 4)² / (sqrt T2)² − ((4·sqrt H / 4)²)² / T1²` is the model's guarded `H/T2 − H²/T1²` -/
theorem gw_core (sqrt : ℚ → ℚ) (H : ℚ) (T2 T1 : Option ℚ) (h1 : sqrt H ^ 2 = H)
    (h2 : T2.map (fun t => sqrt t ^ 2) = T2) :
    (Option.bind (Option.bind (Option.map (fun t => t ^ 2) (Option.map sqrt T2)) fun y => divOpt (((4 * sqrt H) / 4) ^ 2) y)
      fun x => Option.map (fun y => x - y)
        (Option.bind (Option.map (fun t => t ^ 2) T1) fun y => divOpt ((((4 * sqrt H) / 4) ^ 2) ^ 2) y)) =
    XrT.gwCore H T2 T1 := by
  unfold XrT.gwCore
  have hm : ((4 * sqrt H) / 4) ^ 2 = H := by rw [mul_div_cancel_left₀ _ (by norm_num : (4 : ℚ) ≠ 0), h1]
  rw [hm]
  rcases T2 with _ | t2
  · rfl
  · have h2' : sqrt t2 ^ 2 = t2 := by simpa using h2
    rcases T1 with _ | t1
    · simp only [Option.map_some, Option.bind_some, h2', Option.map_none, Option.bind_none]
      unfold divOpt; split <;> simp
    · simp only [Option.map_some, Option.bind_some, h2']
      unfold divOpt
      by_cases a2 : t2 = 0 <;> by_cases a1 : t1 = 0 <;> simp [a1, a2]

end WS
