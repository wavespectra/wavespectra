import WsVerif.Lemmas.Basic
import Mathlib.Tactic.Ring
import Mathlib.Tactic.Linarith
import Mathlib.Tactic.Positivity
import Mathlib.Tactic.FieldSimp
import Mathlib.Algebra.Order.Field.Rat
import Mathlib.Algebra.BigOperators.Group.List.Basic
import Mathlib.Algebra.Order.BigOperators.Group.List
/-! Helper lemmas on finite sums over lists of rationals. -/
namespace WS

theorem sum_map_mul_const (r : List ℚ) (k : ℚ) : (r.map fun x => x * k).sum = r.sum * k :=
  List.sum_hom r (AddMonoidHom.mulRight k)

theorem sum_map_const_mul (r : List ℚ) (k : ℚ) : (r.map fun x => k * x).sum = k * r.sum :=
  List.sum_hom r (AddMonoidHom.mulLeft k)

theorem sum_zipWith_mul_const (r t : List ℚ) (k : ℚ) (g : ℚ → ℚ → ℚ) :
    (List.zipWith (fun x y => g x y * k) r t).sum = (List.zipWith g r t).sum * k := by
  rw [← sum_map_mul_const, List.map_zipWith]

theorem sum_nonneg_of_forall {l : List ℚ} (h : ∀ x ∈ l, 0 ≤ x) : 0 ≤ l.sum := List.sum_nonneg h

end WS
