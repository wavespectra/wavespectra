import WsVerif.Model.Neigh
/-! Helper lemmas about the neighbour table (`Model/Neigh.lean`); headline statements are in `Props/C04.lean`. -/
namespace WS.NeighL
open WS.Neigh

theorem lin_div (mk i j : Nat) (hi : i < mk) : (i + mk * j) / mk = j := by
  have hpos : 0 < mk := by omega
  rw [Nat.add_mul_div_left _ _ hpos, Nat.div_eq_of_lt hi, Nat.zero_add]

theorem lin_mod (mk i j : Nat) (hi : i < mk) : (i + mk * j) % mk = i := by
  rw [Nat.add_mul_mod_self_left, Nat.mod_eq_of_lt hi]

theorem dn_lt {mth j : Nat} (hj : j < mth) : dn mth j < mth := by unfold dn; split <;> omega
theorem up_lt {mth j : Nat} (_hj : j < mth) : up mth j < mth := by unfold up; split <;> omega
theorem up_dn {mth j : Nat} (hj : j < mth) : up mth (dn mth j) = j := by
  unfold up dn; split <;> split <;> omega
theorem dn_up {mth j : Nat} (_hj : j < mth) : dn mth (up mth j) = j := by
  unfold up dn; split <;> split <;> omega
theorem up_eq_mod {mth j : Nat} (hj : j < mth) : up mth j = (j + 1) % mth := by
  unfold up
  split
  · have : j + 1 = mth := by omega
    rw [this, Nat.mod_self]
  · rw [Nat.mod_eq_of_lt (by omega)]
theorem dn_eq_mod {mth j : Nat} (hj : j < mth) : dn mth j = (j + mth - 1) % mth := by
  unfold dn
  split
  · subst j; rw [Nat.zero_add, Nat.mod_eq_of_lt (by omega)]
  · have : j + mth - 1 = (j - 1) + mth := by omega
    rw [this, Nat.add_mod_right, Nat.mod_eq_of_lt (by omega)]

theorem mem_slot {α} {c : Prop} [Decidable c] {x a : α} : x ∈ (if c then [a] else []) ↔ c ∧ x = a := by
  split <;> simp [*]

/-- membership in the (i,j) row = 8-adjacency on the cylinder (frequency bounded, direction circular) -/
theorem mem_neighIJ (mk mth i j a b : Nat) (hi : i < mk) :
    (a, b) ∈ neighIJ mk mth i j ↔
      a < mk ∧ (((a + 1 = i ∨ a = i + 1) ∧ b = j) ∨
                ((a = i ∨ a + 1 = i ∨ a = i + 1) ∧ (b = dn mth j ∨ b = up mth j))) := by
  simp only [neighIJ, List.mem_append, mem_slot, List.mem_singleton, Prod.mk.injEq]
  grind

theorem neighIJ_bounds {mk mth i j : Nat} (hi : i < mk) (hj : j < mth) {p : Nat × Nat}
    (hp : p ∈ neighIJ mk mth i j) : p.1 < mk ∧ p.2 < mth := by
  obtain ⟨a, b⟩ := p
  have := (mem_neighIJ mk mth i j a b hi).mp hp
  have h1 := dn_lt hj; have h2 := up_lt hj
  refine ⟨this.1, ?_⟩
  rcases this.2 with ⟨_, rfl⟩ | ⟨_, rfl | rfl⟩ <;> assumption

theorem lin_lt {mk mth a b : Nat} (ha : a < mk) (hb : b < mth) : a + mk * b < mk * mth := by
  have : mk * (b + 1) ≤ mk * mth := Nat.mul_le_mul_left mk (by omega)
  rw [Nat.mul_succ] at this
  omega

theorem neighIJ_length_le (mk mth i j : Nat) : (neighIJ mk mth i j).length ≤ 8 := by
  simp only [neighIJ, List.length_append, apply_ite List.length, List.length_singleton, List.length_nil]
  split <;> split <;> omega

theorem neighIJ_symm {mk mth i j a b : Nat} (hi : i < mk) (hj : j < mth)
    (h : (a, b) ∈ neighIJ mk mth i j) : (i, j) ∈ neighIJ mk mth a b := by
  have hb := neighIJ_bounds hi hj h
  have h' := (mem_neighIJ mk mth i j a b hi).mp h
  rw [mem_neighIJ mk mth a b i j hb.1]
  have e1 := up_dn hj; have e2 := dn_up hj
  have e3 := up_dn hb.2; have e4 := dn_up hb.2
  refine ⟨hi, ?_⟩
  rcases h'.2 with ⟨h1, rfl⟩ | ⟨h1, rfl | rfl⟩
  · left; exact ⟨by omega, rfl⟩
  · right; exact ⟨by omega, Or.inr e1.symm⟩
  · right; exact ⟨by omega, Or.inl e2.symm⟩

/-- the row of the pixel shifted by one direction bin is the shifted row, **as lists** (slot order kept) -/
theorem neighIJ_shift1 {mk mth i j : Nat} (hj : j < mth) :
    neighIJ mk mth i (up mth j) = (neighIJ mk mth i j).map fun p => (p.1, up mth p.2) := by
  simp only [neighIJ, List.map_append, apply_ite (List.map _), List.map_cons, List.map_nil, dn_up hj, up_dn hj]

/-- iterate of the one-bin shift -/
def rot (mth : Nat) : Nat → Nat → Nat
  | 0, j => j
  | s + 1, j => rot mth s (up mth j)

theorem rot_lt {mth j : Nat} (hj : j < mth) (s : Nat) : rot mth s j < mth := by
  induction s generalizing j with
  | zero => exact hj
  | succ s ih => exact ih (up_lt hj)

theorem rot_eq_mod {mth j : Nat} (hj : j < mth) (s : Nat) : rot mth s j = (j + s) % mth := by
  induction s generalizing j with
  | zero => simp [rot, Nat.mod_eq_of_lt hj]
  | succ s ih =>
    show rot mth s (up mth j) = _
    rw [ih (up_lt hj), up_eq_mod hj, Nat.mod_add_mod]
    congr 1; omega

/-! The row of `ptnghb` has 14 guarded slots, the row in `(i,j)` coordinates 8: each slot whose direction index
wraps stands for two C slots, one per branch of `dn`/`up`. -/

theorem lin_dn (mk mth a j : Nat) :
    lin mk (a, dn mth j) = if j = 0 then a + mk * j + mk * (mth - 1) else a + mk * j - mk := by
  unfold lin dn
  cases j with
  | zero => rfl
  | succ j => simp [Nat.mul_succ, ← Nat.add_assoc]

theorem lin_up (mk mth a j : Nat) :
    lin mk (a, up mth j) = if j = mth - 1 then a + mk * j - mk * (mth - 1) else a + mk * j + mk := by
  unfold lin up
  split
  · rename_i h; rw [← h]; simp
  · simp [Nat.mul_succ, Nat.add_assoc]

theorem wrap_slots (c w : Prop) [Decidable c] [Decidable w] (x y : Nat) :
    (if c then [if w then x else y] else []) = (if c ∧ ¬w then [y] else []) ++ if c ∧ w then [x] else [] := by
  by_cases hc : c <;> by_cases hw : w <;> simp [hc, hw]

theorem wrap_slot (w : Prop) [Decidable w] (x y : Nat) :
    [if w then x else y] = (if ¬w then [y] else []) ++ if w then [x] else [] := by
  simpa using wrap_slots True w x y

theorem slot_congr {c : Prop} [Decidable c] {x y : Nat} (h : c → x = y) :
    (if c then [x] else []) = if c then [y] else [] := by
  split
  · rw [h ‹c›]
  · rfl

theorem append_congr {α} {a a' b b' : List α} (h1 : a = a') (h2 : b = b') : a ++ b = a' ++ b' := by rw [h1, h2]

theorem neigh_spec (mk mth i j : Nat) (hi : i < mk) (hj : j < mth) :
    neighLin mk mth (i + mk * j) = (neighIJ mk mth i j).map (lin mk) := by
  have hsub : i + mk * j - j * mk = i := by rw [Nat.mul_comm j mk]; omega
  unfold neighLin
  simp only [lin_div mk i j hi, hsub]
  unfold neighIJ
  simp only [List.map_append, List.map_cons, List.map_nil, apply_ite (List.map (lin mk)), lin_dn, lin_up, wrap_slots]
  simp only [wrap_slot, List.append_assoc]
  simp only [lin]
  -- both sides now have the same 14 guards; under its guard each C expression is the index of its `(i,j)` slot
  have hs : mk * mth = mk * (mth - 1) + mk := by
    rw [← Nat.mul_succ]; congr 1; omega
  have hj0 : j = 0 ∧ mk * j = 0 ∨ j ≠ 0 ∧ mk ≤ mk * j := by
    cases j with
    | zero => exact .inl ⟨rfl, rfl⟩
    | succ j => exact .inr ⟨Nat.succ_ne_zero _, Nat.le_add_left _ _⟩
  rw [Nat.mul_comm (mth - 1) mk]
  generalize mk * j = M at *
  generalize mk * (mth - 1) = T at *
  generalize mk * mth = N at *
  clear hj hsub
  repeat' apply append_congr
  all_goals refine slot_congr fun h => ?_
  all_goals omega

theorem neighIJ_shift {mk mth i j : Nat} (hj : j < mth) (s : Nat) :
    neighIJ mk mth i (rot mth s j) = (neighIJ mk mth i j).map fun p => (p.1, rot mth s p.2) := by
  induction s generalizing j with
  | zero => simp [rot]
  | succ s ih =>
    show neighIJ mk mth i (rot mth s (up mth j)) = _
    rw [ih (up_lt hj), neighIJ_shift1 hj, List.map_map]
    rfl

theorem decomp {mk mth n : Nat} (hn : n < mk * mth) : n % mk < mk ∧ n / mk < mth ∧ n = n % mk + mk * (n / mk) := by
  have hpos : 0 < mk := by
    rcases Nat.eq_zero_or_pos mk with h | h
    · subst h; simp at hn
    · exact h
  refine ⟨Nat.mod_lt _ hpos, (Nat.div_lt_iff_lt_mul hpos).mpr (by rw [Nat.mul_comm]; exact hn), ?_⟩
  exact (Nat.mod_add_div n mk).symm

theorem neighLin_eq {mk mth n : Nat} (hn : n < mk * mth) :
    neighLin mk mth n = (neighIJ mk mth (n % mk) (n / mk)).map (lin mk) := by
  obtain ⟨hi, hj, e⟩ := decomp hn
  have := neigh_spec mk mth (n % mk) (n / mk) hi hj
  rwa [← e] at this

theorem neighLin_length_le {mk mth n : Nat} (hn : n < mk * mth) : (neighLin mk mth n).length ≤ 8 := by
  rw [neighLin_eq hn, List.length_map]; exact neighIJ_length_le _ _ _ _

theorem neighLin_lt {mk mth n : Nat} (hn : n < mk * mth) : ∀ x ∈ neighLin mk mth n, x < mk * mth := by
  obtain ⟨hi, hj, _⟩ := decomp hn
  rw [neighLin_eq hn]
  intro x hx
  obtain ⟨p, hp, rfl⟩ := List.mem_map.mp hx
  have := neighIJ_bounds hi hj hp
  exact lin_lt this.1 this.2

end WS.NeighL
