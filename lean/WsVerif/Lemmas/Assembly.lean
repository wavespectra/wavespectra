import WsVerif.Model.Assembly
import WsVerif.Lemmas.Sums
import Mathlib.Data.List.Nodup
import Mathlib.Data.List.Count
import Mathlib.Data.List.Perm.Basic
import Mathlib.Data.List.Forall2
import Mathlib.Data.List.Range
import Mathlib.Tactic.Linarith
/-!
Helper lemmas for C03: the partition assembly of `Model/Assembly.lean` seen as "every bin has at most one
destination".  A method is described by a destination function `Bin → Option Dest`; the partition of destination `d`
is `render d = where(dest == d, E, 0)`.  `np_ptm1/2/3` share one shape (`ptm*_eq`: wind-sea partitions, then
`swellPart` of one slot per basin) and one destination function `dest`, with the wind-sea test and the PTM2 split as
parameters.  The lemmas show that the accumulated arrays of the code are renders (`ptm*_struct`), that sorting /
truncating / padding only permutes, drops or adds all-zero entries, and what the per-bin column sums and column counts
of such an output are (`gen_*`, `out_*`).
-/
namespace WS.Assembly
open WS

/-- where a bin ends up -/
inductive Dest where
  | wsea | wsea2 | swell (k : Nat)
deriving DecidableEq, Repr

/-! ### the descending stable sort by a key -/

theorem map_mergeSort_key {α β} (f : α → β) (k : β → Rat) (l : List α) :
    (l.map f).mergeSort (fun a b => decide (k b ≤ k a)) = (l.mergeSort fun a b => decide (k (f b) ≤ k (f a))).map f :=
  (List.map_mergeSort (f := f) (r := fun a b => decide (k (f b) ≤ k (f a))) (s := fun a b => decide (k b ≤ k a)) (l := l)
    fun _ _ _ _ => rfl).symm

theorem pairwise_mergeSort_key {α} (k : α → Rat) (l : List α) :
    (l.mergeSort fun a b => decide (k b ≤ k a)).Pairwise fun a b => k b ≤ k a := by
  have := List.pairwise_mergeSort (le := fun a b => decide (k b ≤ k a))
    (by intro a b c h1 h2; simp only [decide_eq_true_eq] at *; exact le_trans h2 h1)
    (by intro a b; simp only [Bool.or_eq_true, decide_eq_true_eq]; exact le_total _ _) l
  exact this.imp (by intro a b h; simpa using h)

theorem sortSlots_length (key : Vec → Rat) (slots : List Part) : (sortSlots key slots).length = slots.length :=
  List.length_mergeSort _

theorem sortSlots_perm (key : Vec → Rat) (slots : List Part) : (sortSlots key slots).Perm slots :=
  List.mergeSort_perm _ _

theorem sortSlots_pairwise (key : Vec → Rat) (slots : List Part) :
    (sortSlots key slots).Pairwise (fun a b => key b.vals ≤ key a.vals) :=
  pairwise_mergeSort_key (fun p : Part => key p.vals) slots

/-! ### `select`, `add`, `whereWs` -/

@[simp] theorem select_mask (bins : List Bin) (s : Bin → Bool) : (select bins s).mask = bins.map s := rfl
@[simp] theorem select_vals (bins : List Bin) (s : Bin → Bool) :
    (select bins s).vals = bins.map (fun b => if s b then b.e else 0) := rfl

theorem select_congr {bins : List Bin} {s t : Bin → Bool} (h : ∀ b ∈ bins, s b = t b) :
    select bins s = select bins t := by
  unfold select
  congr 1
  · exact List.map_congr_left h
  · exact List.map_congr_left fun b hb => by rw [h b hb]

theorem add_select (bins : List Bin) (s t : Bin → Bool) (h : ∀ b ∈ bins, ¬ (s b = true ∧ t b = true)) :
    (select bins s).add (select bins t) = select bins (fun b => s b || t b) := by
  simp only [Part.add, select, List.zipWith_map, List.zipWith_self]
  congr 1
  refine List.map_congr_left fun b hb => ?_
  by_cases hs : s b = true
  · have ht : t b = false := Bool.eq_false_iff.mpr fun ht => h b hb ⟨hs, ht⟩
    simp only [hs, ht, Bool.false_eq_true, if_false, if_true, add_zero, Bool.or_false]
  · simp only [Bool.eq_false_iff.mpr hs, Bool.false_eq_true, if_false, zero_add, Bool.false_or]

theorem zeros_add_select (bins : List Bin) (t : Bin → Bool) : (zeros bins).add (select bins t) = select bins t := by
  unfold zeros
  rw [add_select bins _ t (by simp)]
  simp

theorem whereWs_select (bins : List Bin) (s : Bin → Bool) :
    whereWs bins (select bins s) = select bins (fun b => b.ws && s b) := by
  simp only [whereWs, select, List.zipWith_map_right, List.zipWith_self, Part.mk.injEq, List.map_inj_left, true_and]
  intro b _
  by_cases hws : b.ws = true <;> by_cases hsb : s b = true <;> simp [hws, hsb]

theorem whereNotWs_select (bins : List Bin) (s : Bin → Bool) :
    whereNotWs bins (select bins s) = select bins (fun b => !b.ws && s b) := by
  simp only [whereNotWs, select, List.zipWith_map_right, List.zipWith_self, Part.mk.injEq, List.map_inj_left, true_and]
  intro b _
  by_cases hws : b.ws = true <;> by_cases hsb : s b = true <;> simp [hws, hsb]

theorem zeros_mask_getD (bins : List Bin) (i : Nat) : (zeros bins).mask.getD i false = false := by
  unfold zeros
  rw [select_mask, List.getD_eq_getElem?_getD, List.getElem?_map]
  cases bins[i]? <;> rfl

theorem zeros_vals_getD (bins : List Bin) (i : Nat) : (zeros bins).vals.getD i 0 = 0 := by
  unfold zeros
  rw [select_vals, List.getD_eq_getElem?_getD, List.getElem?_map]
  cases bins[i]? <;> rfl

theorem zeros_vals_all_zero (bins : List Bin) : ∀ x ∈ (zeros bins).vals, x = 0 := by
  intro x hx
  obtain ⟨b, _, rfl⟩ := List.mem_map.mp hx
  rfl

theorem select_vals_nonneg (bins : List Bin) (s : Bin → Bool) (h : ∀ b ∈ bins, 0 ≤ b.e) :
    ∀ x ∈ (select bins s).vals, 0 ≤ x := by
  intro x hx
  obtain ⟨b, hb, rfl⟩ := List.mem_map.mp hx
  split_ifs
  · exact h b hb
  · exact le_rfl

/-! ### labels -/

theorem lab_le_nparts {bins : List Bin} {b : Bin} (h : b ∈ bins) : b.lab ≤ nparts bins := by
  induction bins with
  | nil => cases h
  | cons a t ih =>
    unfold nparts
    rcases List.mem_cons.mp h with rfl | h'
    · exact Nat.le_max_left _ _
    · exact Nat.le_trans (ih h') (Nat.le_max_right _ _)

theorem nparts_le_of_forall (bins : List Bin) (K : Nat) (h : ∀ b ∈ bins, b.lab ≤ K) : nparts bins ≤ K := by
  induction bins with
  | nil => exact Nat.zero_le _
  | cons b t ih => exact max_le (h b List.mem_cons_self) (ih fun x hx => h x (List.mem_cons_of_mem _ hx))

theorem mem_labels {bins : List Bin} {k : Nat} : k ∈ labels bins ↔ 1 ≤ k ∧ k ≤ nparts bins := by
  unfold labels
  rw [List.mem_range'_1]
  omega

theorem labels_nodup (bins : List Bin) : (labels bins).Nodup := List.nodup_range'

theorem labels_length (bins : List Bin) : (labels bins).length = nparts bins := List.length_range'

theorem lab_mem_labels {bins : List Bin} {b : Bin} (h : b ∈ bins) : b.lab ∈ labels bins ↔ 1 ≤ b.lab := by
  rw [mem_labels]
  have := lab_le_nparts h
  omega

/-! ### the accumulated wind-sea partitions are selections -/

/-- adding up, over distinct labels `ks`, the `t`-bins of those basins selects exactly those bins; the `if` of the
    accumulation loops is a filter on the labels (`List.foldl_filter`) -/
theorem foldl_add_select (bins : List Bin) (t : Bin → Bool) (ks : List Nat) (hnd : ks.Nodup)
    (s : Bin → Bool) (hs : ∀ b ∈ bins, s b = true → b.lab ∉ ks) :
    ks.foldl (fun a k => a.add (select bins fun b => t b && b.lab == k)) (select bins s) =
      select bins (fun b => s b || (ks.contains b.lab && t b)) := by
  induction ks generalizing s with
  | nil => simp
  | cons k ks ih =>
    obtain ⟨hk, hnd'⟩ := List.nodup_cons.mp hnd
    have hs' : ∀ b ∈ bins, s b = true → b.lab ≠ k ∧ b.lab ∉ ks := fun b hb h => by simpa using hs b hb h
    rw [List.foldl_cons, add_select bins s _ fun b hb ⟨h1, h2⟩ => (hs' b hb h1).1 (by simp at h2; exact h2.2),
      ih hnd' _ fun b hb h => by
        simp only [Bool.or_eq_true, Bool.and_eq_true, beq_iff_eq] at h
        rcases h with h | h
        · exact (hs' b hb h).2
        · rw [h.2]; exact hk]
    refine select_congr fun b _ => ?_
    rw [List.contains_cons, Bool.and_or_distrib_right, Bool.or_assoc, Bool.and_comm (t b)]

theorem ptm1Wsea_select (wscut : Rat) (bins : List Bin) :
    ptm1Wsea wscut bins = select bins fun b => decide (1 ≤ b.lab) && isWindSea wscut bins b.lab := by
  refine (List.foldl_filter (p := isWindSea wscut bins) (f := fun (a : Part) k => a.add (basin bins k))).symm.trans ?_
  refine (foldl_add_select bins (fun _ => true) _ ((labels_nodup bins).filter _) _ (by simp)).trans
    (select_congr fun b hb => ?_)
  simp [lab_mem_labels hb]

theorem ptm2Wsea2_select (wscut : Rat) (bins : List Bin) :
    ptm2Wsea2 wscut bins = select bins fun b => decide (1 ≤ b.lab) && !isWindSea wscut bins b.lab && b.ws := by
  have : ptm2Wsea2 wscut bins = ((labels bins).filter fun k => !isWindSea wscut bins k).foldl
      (fun a k => a.add (select bins fun b => b.ws && b.lab == k)) (select bins fun _ => false) := by
    rw [List.foldl_filter]
    unfold ptm2Wsea2 wsea2Acc
    congr 1
    funext a k
    rw [basin, whereWs_select]
    cases isWindSea wscut bins k <;> rfl
  rw [this, foldl_add_select bins _ _ ((labels_nodup bins).filter _) _ (by simp)]
  refine select_congr fun b hb => ?_
  simp [lab_mem_labels hb]

/-! ### renders: `where(dest == d, E, 0)` -/

def render (bins : List Bin) (dest : Bin → Option Dest) (d : Dest) : Part :=
  select bins (fun b => dest b == some d)

/-- number of partitions of the list whose assignment mask holds at bin `i` -/
def colCount (ps : List Part) (i : Nat) : Nat := (ps.filter (fun p => p.mask.getD i false)).length

/-- sum over the partitions of the list of their value at bin `i` -/
def colSum (ps : List Part) (i : Nat) : Rat := (ps.map (fun p => p.vals.getD i 0)).sum

theorem colCount_append (a b : List Part) (i : Nat) : colCount (a ++ b) i = colCount a i + colCount b i := by
  simp [colCount]

theorem colSum_append (a b : List Part) (i : Nat) : colSum (a ++ b) i = colSum a i + colSum b i := by
  simp [colSum]

theorem colSum_cons (a : Part) (l : List Part) (i : Nat) : colSum (a :: l) i = a.vals.getD i 0 + colSum l i :=
  List.sum_cons

theorem colCount_replicate_zeros (bins : List Bin) (m i : Nat) : colCount (List.replicate m (zeros bins)) i = 0 := by
  unfold colCount
  rw [List.length_eq_zero_iff, List.filter_eq_nil_iff]
  intro p hp
  rw [(List.mem_replicate.mp hp).2, zeros_mask_getD]
  exact Bool.false_ne_true

theorem colSum_all_zeros (bins : List Bin) (ps : List Part) (h : ∀ p ∈ ps, p = zeros bins) (i : Nat) :
    colSum ps i = 0 := by
  unfold colSum
  rw [List.eq_replicate_of_mem h, List.map_replicate, zeros_vals_getD]
  simp

theorem render_vals_getD (bins : List Bin) (dest : Bin → Option Dest) (d : Dest) (i : Nat) :
    (render bins dest d).vals.getD i 0 = (bins[i]?.map (fun b => if dest b == some d then b.e else 0)).getD 0 := by
  unfold render
  rw [select_vals, List.getD_eq_getElem?_getD, List.getElem?_map]

theorem render_mask_true {bins : List Bin} {dest : Bin → Option Dest} {d : Dest} {i : Nat} :
    (render bins dest d).mask.getD i false = true ↔ bins[i]?.bind dest = some d := by
  unfold render
  rw [select_mask, List.getD_eq_getElem?_getD, List.getElem?_map]
  cases bins[i]? <;> simp

theorem length_le_one_of_nodup {α} : ∀ {l : List α}, l.Nodup → (∀ a ∈ l, ∀ b ∈ l, a = b) → l.length ≤ 1
  | [], _, _ => Nat.zero_le _
  | [_], _, _ => Nat.le_refl _
  | a :: b :: _, hnd, h =>
    absurd (h a List.mem_cons_self b (List.mem_cons_of_mem _ List.mem_cons_self))
      fun e => (List.nodup_cons.mp hnd).1 (e ▸ List.mem_cons_self)

theorem colCount_render_le (bins : List Bin) (dest : Bin → Option Dest) (ds : List Dest) (hnd : ds.Nodup) (i : Nat) :
    colCount (ds.map (render bins dest)) i ≤ 1 := by
  unfold colCount
  rw [List.filter_map, List.length_map]
  refine length_le_one_of_nodup (hnd.filter _) fun d hd d' hd' => ?_
  have h := render_mask_true.mp (List.mem_filter.mp hd).2
  have h' := render_mask_true.mp (List.mem_filter.mp hd').2
  exact Option.some.inj (h.symm.trans h')

theorem colSum_render (bins : List Bin) (dest : Bin → Option Dest) (ds : List Dest) (hnd : ds.Nodup) (i : Nat)
    (hi : i < bins.length) :
    colSum (ds.map (render bins dest)) i = if (∃ d ∈ ds, dest bins[i] = some d) then bins[i].e else 0 := by
  unfold colSum
  rw [List.map_map]
  induction ds with
  | nil => simp
  | cons d t ih =>
    obtain ⟨hd, ht⟩ := List.nodup_cons.mp hnd
    rw [List.map_cons, List.sum_cons, ih ht, Function.comp_apply, render_vals_getD, List.getElem?_eq_getElem hi,
      Option.map_some, Option.getD_some]
    simp only [List.mem_cons, exists_eq_or_imp]
    by_cases h : dest bins[i] = some d
    · have hno : ¬ ∃ d' ∈ t, dest bins[i] = some d' := fun ⟨d', hd', he⟩ => hd (Option.some.inj (h.symm.trans he) ▸ hd')
      rw [if_pos (beq_iff_eq.mpr h), if_neg hno, add_zero, if_pos (Or.inl h)]
    · rw [if_neg (mt beq_iff_eq.mp h), zero_add]
      simp only [h, false_or]

theorem colSum_perm {a b : List Part} (h : a.Perm b) (i : Nat) : colSum a i = colSum b i := by
  unfold colSum
  exact (h.map _).sum_eq

theorem colCount_perm {a b : List Part} (h : a.Perm b) (i : Nat) : colCount a i = colCount b i := by
  unfold colCount
  exact (h.filter _).length_eq

/-! ### sorting, truncating, padding lists of renders -/

/-- the sort of `sortSlots`, on destinations -/
def sortDs (bins : List Bin) (dest : Bin → Option Dest) (key : Vec → Rat) (ds : List Dest) : List Dest :=
  ds.mergeSort fun a b => decide (key (render bins dest b).vals ≤ key (render bins dest a).vals)

theorem sortSlots_map (bins : List Bin) (dest : Bin → Option Dest) (key : Vec → Rat) (ds : List Dest) :
    sortSlots key (ds.map (render bins dest)) = (sortDs bins dest key ds).map (render bins dest) :=
  map_mergeSort_key (render bins dest) (fun p : Part => key p.vals) ds

theorem sortDs_perm (bins : List Bin) (dest : Bin → Option Dest) (key : Vec → Rat) (ds : List Dest) :
    (sortDs bins dest key ds).Perm ds := List.mergeSort_perm _ _

theorem sortDs_pairwise (bins : List Bin) (dest : Bin → Option Dest) (key : Vec → Rat) (ds : List Dest) :
    (sortDs bins dest key ds).Pairwise
      (fun a b => key (render bins dest b).vals ≤ key (render bins dest a).vals) :=
  pairwise_mergeSort_key (fun d : Dest => key (render bins dest d).vals) ds

theorem fitCount_map (bins : List Bin) (dest : Bin → Option Dest) (n s : Nat) (l : List Dest) :
    fitCount bins n s (l.map (render bins dest)) =
      ((if s < n then l.take s else l).map (render bins dest)) ++
        List.replicate (if s < n then 0 else if n < s then s - l.length else 0) (zeros bins) := by
  unfold fitCount
  split_ifs <;> simp [List.map_take]

theorem dropNull_map (bins : List Bin) (dest : Bin → Option Dest) (l : List Dest) :
    dropNull (l.map (render bins dest)) =
      (l.filter (fun d => decide (0 < (render bins dest d).vals.sum))).map (render bins dest) :=
  List.filter_map

theorem fitCount_length (bins : List Bin) (n s : Nat) (sorted : List Part) (h : sorted.length = n) :
    (fitCount bins n s sorted).length = s := by
  unfold fitCount
  split_ifs with h1 h2
  · rw [List.length_take, h]
    exact Nat.min_eq_left h1.le
  · rw [List.length_append, List.length_replicate, h]
    exact Nat.add_sub_cancel' h2.le
  · exact h.trans (Nat.le_antisymm (Nat.not_lt.mp h1) (Nat.not_lt.mp h2))

/-! ### the three methods as destination functions -/

def swellDs (bins : List Bin) : List Dest := (labels bins).map Dest.swell

theorem swellDs_nodup (bins : List Bin) : (swellDs bins).Nodup :=
  (labels_nodup bins).map (fun a b h => by cases h; rfl)

theorem swellDs_length (bins : List Bin) : (swellDs bins).length = nparts bins := by
  simp [swellDs, labels_length]

theorem mem_swellDs {bins : List Bin} {d : Dest} : d ∈ swellDs bins ↔ ∃ k, 1 ≤ k ∧ k ≤ nparts bins ∧ d = .swell k := by
  simp only [swellDs, List.mem_map, mem_labels, and_assoc, eq_comm]

/-- where a bin goes.  Label `0`: nowhere.  A basin that passes the wind-sea test `isWs`: to the wind sea.  Of the
    other basins, with `sec` (PTM2) the wind-sea bins go to the secondary wind sea; everything else is the swell of its
    basin.  PTM1 is `dest (isWindSea wscut bins) false`, PTM2 `… true`, PTM3 has no wind sea: `dest (fun _ => false) false`. -/
def dest (isWs : Nat → Bool) (sec : Bool) (b : Bin) : Option Dest :=
  if b.lab = 0 then none else if isWs b.lab then some .wsea else if sec && b.ws then some .wsea2 else some (.swell b.lab)

section dest
variable (isWs : Nat → Bool) (sec : Bool) (b : Bin)

theorem dest_wsea : (dest isWs sec b == some .wsea) = (decide (1 ≤ b.lab) && isWs b.lab) := by
  unfold dest
  by_cases h0 : 1 ≤ b.lab
  · rw [if_neg (Nat.one_le_iff_ne_zero.mp h0), decide_eq_true h0]
    cases isWs b.lab <;> cases sec <;> cases b.ws <;> rfl
  · rw [if_pos (Nat.eq_zero_of_not_pos h0), decide_eq_false h0]; rfl

theorem dest_wsea2 : (dest isWs sec b == some .wsea2) = (decide (1 ≤ b.lab) && !isWs b.lab && (sec && b.ws)) := by
  unfold dest
  by_cases h0 : 1 ≤ b.lab
  · rw [if_neg (Nat.one_le_iff_ne_zero.mp h0), decide_eq_true h0]
    cases isWs b.lab <;> cases sec <;> cases b.ws <;> rfl
  · rw [if_pos (Nat.eq_zero_of_not_pos h0), decide_eq_false h0]; rfl

theorem dest_swell {k : Nat} (hk : 1 ≤ k) :
    (dest isWs sec b == some (.swell k)) = (!isWs k && !(sec && b.ws) && b.lab == k) := by
  unfold dest
  generalize (sec && b.ws) = u
  by_cases hbk : b.lab = k
  · rw [hbk, if_neg (Nat.one_le_iff_ne_zero.mp hk), beq_self_eq_true]
    cases isWs k <;> cases u <;> first | rfl | exact beq_self_eq_true _
  · rw [beq_eq_false_iff_ne.mpr hbk, Bool.and_false, beq_eq_false_iff_ne]
    intro h
    split_ifs at h
    · cases h
    · cases h
    · exact hbk (Dest.swell.inj (Option.some.inj h))

variable {isWs sec b}

theorem dest_none (h : b.lab = 0) : dest isWs sec b = none := if_pos h

/-- a labelled bin goes to one of the heads or to the swell of its basin -/
theorem dest_some {bins : List Bin} (hb : b ∈ bins) (h1 : 1 ≤ b.lab) {hs : List Dest}
    (hw : isWs b.lab = true → .wsea ∈ hs) (h2 : sec = true → .wsea2 ∈ hs) :
    ∃ d, (d ∈ hs ∨ d ∈ swellDs bins) ∧ dest isWs sec b = some d := by
  unfold dest
  rw [if_neg (Nat.one_le_iff_ne_zero.mp h1)]
  split_ifs with ha hb'
  · exact ⟨_, Or.inl (hw ha), rfl⟩
  · exact ⟨_, Or.inl (h2 (Bool.and_eq_true _ _ ▸ hb').1), rfl⟩
  · exact ⟨_, Or.inr (mem_swellDs.mpr ⟨_, h1, lab_le_nparts hb, rfl⟩), rfl⟩

end dest

/-- one slot per basin, all-zero when the basin went to the wind sea: the renders of the swell destinations -/
theorem slots_eq (bins : List Bin) (isWs : Nat → Bool) (sec : Bool) :
    ((labels bins).map fun k => if isWs k then zeros bins else select bins fun b => !(sec && b.ws) && b.lab == k) =
      (swellDs bins).map (render bins (dest isWs sec)) := by
  unfold swellDs
  rw [List.map_map]
  refine List.map_congr_left fun k hk => ?_
  unfold render zeros
  simp only [Function.comp_apply, dest_swell _ _ _ (mem_labels.mp hk).1]
  cases isWs k <;> rfl

theorem ptm1Slots_eq (wscut : Rat) (bins : List Bin) :
    ptm1Slots wscut bins = (swellDs bins).map (render bins (dest (isWindSea wscut bins) false)) := by
  rw [← slots_eq]
  unfold ptm1Slots basin
  simp only [zeros_add_select]
  rfl

theorem ptm2Slots_eq (wscut : Rat) (bins : List Bin) :
    ptm2Slots wscut bins = (swellDs bins).map (render bins (dest (isWindSea wscut bins) true)) := by
  rw [← slots_eq]
  unfold ptm2Slots basin
  simp only [whereNotWs_select, zeros_add_select]
  rfl

theorem ptm3Slots_eq (bins : List Bin) :
    ptm3Slots bins = (swellDs bins).map (render bins (dest (fun _ => false) false)) :=
  slots_eq bins (fun _ => false) false

theorem render_wsea (bins : List Bin) (isWs : Nat → Bool) (sec : Bool) :
    render bins (dest isWs sec) .wsea = select bins fun b => decide (1 ≤ b.lab) && isWs b.lab :=
  congrArg (select bins) (funext (dest_wsea isWs sec))

theorem render_wsea2 (bins : List Bin) (isWs : Nat → Bool) :
    render bins (dest isWs true) .wsea2 = select bins fun b => decide (1 ≤ b.lab) && !isWs b.lab && b.ws :=
  congrArg (select bins) (funext (dest_wsea2 isWs true))

/-! ### the sort key of the code (`npstats.hs` radicand) is non-negative and vanishes on all-zero arrays -/

theorem npDf_nonneg : ∀ f : Vec, ∀ x ∈ Stats.npDf f, 0 ≤ x
  | [], _, hx | [_], _, hx => by simp [Stats.npDf] at hx
  | a :: b :: r, x, hx => by
    rw [Stats.npDf] at hx
    rcases List.mem_cons.mp hx with rfl | hx'
    · exact absR_nonneg _
    · exact npDf_nonneg (b :: r) x hx'

theorem trapz_nonneg : ∀ (ds E : Vec), (∀ x ∈ ds, 0 ≤ x) → (∀ x ∈ E, 0 ≤ x) → 0 ≤ Stats.trapz ds E
  | [], _, _, _ | _ :: _, [], _, _ | _ :: _, [_], _, _ => by simp [Stats.trapz]
  | d :: t, a :: b :: rest, hd, hE => by
    rw [Stats.trapz]
    have h1 := hd d List.mem_cons_self
    have ha := hE a List.mem_cons_self
    have hb := hE b (List.mem_cons_of_mem _ List.mem_cons_self)
    have h2 := trapz_nonneg t (b :: rest) (fun x hx => hd x (List.mem_cons_of_mem _ hx))
      (fun x hx => hE x (List.mem_cons_of_mem _ hx))
    exact add_nonneg (div_nonneg (mul_nonneg h1 (add_nonneg hb ha)) (by norm_num)) h2

theorem trapz_zero : ∀ (ds E : Vec), (∀ x ∈ E, x = 0) → Stats.trapz ds E = 0
  | [], _, _ | _ :: _, [], _ | _ :: _, [_], _ => by simp [Stats.trapz]
  | d :: t, a :: b :: rest, hE => by
    rw [Stats.trapz, trapz_zero t (b :: rest) (fun x hx => hE x (List.mem_cons_of_mem _ hx)), hE a List.mem_cons_self,
      hE b (List.mem_cons_of_mem _ List.mem_cons_self)]
    simp

theorem mem_rowsOf {nf nd : Nat} {v r : Vec} (h : r ∈ rowsOf nf nd v) : ∀ x ∈ r, x ∈ v := by
  obtain ⟨i, _, rfl⟩ := List.mem_map.mp h
  exact fun x hx => List.mem_of_mem_drop (List.mem_of_mem_take hx)

theorem npDdir_nonneg (a b : Rat) (h : absR (b - a) ≤ 360) : 0 ≤ npDdir a b := by
  unfold npDdir minR
  have := absR_nonneg (b - a)
  split_ifs <;> linarith

/-- a property of the entries that row sums scaled by `ddir` keep holds of `npHsRow` -/
theorem npHsRow_prop (P : Rat → Prop) (nf : Nat) (dirs v : Vec) (hv : ∀ x ∈ v, P x)
    (hrow : ∀ (a b : Rat) (r : Vec), (∃ t, dirs = a :: b :: t) → (∀ x ∈ r, P x) → P (npDdir a b * r.sum)) :
    ∀ x ∈ npHsRow nf dirs v, P x := by
  unfold npHsRow
  match dirs with
  | [] | [_] => exact hv
  | a :: b :: t =>
    intro x hx
    obtain ⟨r, hr, rfl⟩ := List.mem_map.mp hx
    exact hrow a b r ⟨t, rfl⟩ (fun y hy => hv y (mem_rowsOf hr y hy))

theorem npHsKey_nonneg (f dirs v : Vec) (hd : DirsOk dirs) (hv : ∀ x ∈ v, 0 ≤ x) : 0 ≤ npHsKey f dirs v := by
  unfold npHsKey Stats.npHsE
  have hrow : ∀ x ∈ npHsRow f.length dirs v, 0 ≤ x :=
    npHsRow_prop (fun x => 0 ≤ x) _ _ _ hv (fun a b r ⟨t, ht⟩ hr => by
      subst ht
      exact mul_nonneg (npDdir_nonneg a b hd) (List.sum_nonneg hr))
  have h1 := trapz_nonneg (Stats.npDf f) _ (npDf_nonneg f) hrow
  have hl : 0 ≤ lastD (npHsRow f.length dirs v) := lastD_forall _ le_rfl hrow
  split_ifs with h
  · simp only [Bool.true_and, decide_eq_true_eq] at h
    have hf : 0 < lastD f := lt_trans (by unfold Consts.thr; norm_num) h
    exact add_nonneg h1 (mul_nonneg (mul_nonneg (by unfold Consts.quarter; norm_num) hl) hf.le)
  · exact add_nonneg h1 le_rfl

theorem npHsKey_zero (f dirs v : Vec) (hv : ∀ x ∈ v, x = 0) : npHsKey f dirs v = 0 := by
  unfold npHsKey Stats.npHsE
  have hrow : ∀ x ∈ npHsRow f.length dirs v, x = 0 :=
    npHsRow_prop (fun x => x = 0) _ _ _ hv (fun a b r _ hr => by
      rw [List.sum_eq_zero hr]; simp)
  rw [trapz_zero _ _ hrow]
  have hl : lastD (npHsRow f.length dirs v) = 0 := lastD_forall (P := (· = 0)) _ rfl hrow
  rw [hl]; simp

/-- with the code's key (radicand of `npstats.hs`) and a non-negative spectrum the all-zero array is smallest -/
theorem hs_key_zero_least (f dirs : Vec) (bins : List Bin) (sel : Bin → Bool) (hd : DirsOk dirs)
    (hnonneg : ∀ b ∈ bins, 0 ≤ b.e) :
    npHsKey f dirs (zeros bins).vals ≤ npHsKey f dirs (select bins sel).vals := by
  rw [npHsKey_zero f dirs _ (zeros_vals_all_zero bins)]
  exact npHsKey_nonneg f dirs _ hd (select_vals_nonneg bins sel hnonneg)

/-! ### outputs as `renders of a duplicate-free destination list ++ zero padding` -/

/-- the destinations of the output partitions: heads, then the sorted swell destinations after
    `swells=None` filtering (`filt`) or truncation -/
def outDs (bins : List Bin) (dest : Bin → Option Dest) (key : Vec → Rat) (hs : List Dest) (n : Nat) (ds : List Dest)
    (cnt : Option Nat) (filt : Bool) : List Dest :=
  hs ++ (match cnt with
    | none => if filt then (sortDs bins dest key ds).filter (fun d => decide (0 < (render bins dest d).vals.sum))
              else sortDs bins dest key ds
    | some s => if s < n then (sortDs bins dest key ds).take s else sortDs bins dest key ds)

/-- number of all-zero partitions appended -/
def outPad (n : Nat) : Option Nat → Nat
  | none => 0
  | some s => if s < n then 0 else if n < s then s - n else 0

section out
variable (bins : List Bin) (dest : Bin → Option Dest) (key : Vec → Rat) (hs : List Dest) (n : Nat) (ds : List Dest)
  (cnt : Option Nat) (filt : Bool)

theorem outDs_tail_sublist :
    ∃ t, outDs bins dest key hs n ds cnt filt = hs ++ t ∧ t.Sublist (sortDs bins dest key ds) := by
  unfold outDs
  refine ⟨_, rfl, ?_⟩
  cases cnt with
  | none => cases filt <;> simp
  | some s => by_cases h : s < n <;> simp [h, List.take_sublist]

theorem outDs_mem (bins : List Bin) (dest : Bin → Option Dest) (key : Vec → Rat) (hs : List Dest) (n : Nat)
    (ds : List Dest) (cnt : Option Nat) (filt : Bool) {d : Dest}
    (h : d ∈ outDs bins dest key hs n ds cnt filt) : d ∈ hs ∨ d ∈ ds := by
  obtain ⟨t, ht, hsub⟩ := outDs_tail_sublist bins dest key hs n ds cnt filt
  rw [ht] at h
  exact (List.mem_append.mp h).imp_right fun h => (sortDs_perm bins dest key ds).mem_iff.mp (hsub.subset h)

/-- nothing is cut off when at least `n` are requested, or everything is (`None` without the filter) -/
def Full (n : Nat) : Option Nat → Bool → Prop
  | some s, _ => n ≤ s
  | none, filt => filt = false

variable (m : Nat)

theorem gen_sum (hnd : ds.Nodup) (i : Nat) (hi : i < bins.length) :
    colSum (ds.map (render bins dest) ++ List.replicate m (zeros bins)) i =
      if (∃ d ∈ ds, dest bins[i] = some d) then bins[i].e else 0 := by
  rw [colSum_append, colSum_all_zeros bins _ (fun _ h => (List.mem_replicate.mp h).2), colSum_render bins dest ds hnd i hi,
    add_zero]

/-- keys along `tail.map render ++ padding` never increase, provided the all-zero array has the smallest key -/
theorem gen_sorted (bins : List Bin) (dest : Bin → Option Dest) (key : Vec → Rat) (ds t : List Dest) (m : Nat)
    (hsub : t.Sublist (sortDs bins dest key ds))
    (hkey0 : ∀ d ∈ ds, key (zeros bins).vals ≤ key (render bins dest d).vals) :
    ((t.map (render bins dest) ++ List.replicate m (zeros bins)).map (fun p => key p.vals)).Pairwise
      (fun x y => y ≤ x) := by
  rw [List.map_append, List.pairwise_append]
  refine ⟨?_, ?_, ?_⟩
  · rw [List.map_map, List.pairwise_map]
    exact (sortDs_pairwise bins dest key ds).sublist hsub
  · rw [List.map_replicate]
    exact List.pairwise_replicate.mpr (Or.inr le_rfl)
  · intro x hx y hy
    rw [List.map_replicate] at hy
    rw [(List.mem_replicate.mp hy).2]
    obtain ⟨p, hp, rfl⟩ := List.mem_map.mp hx
    obtain ⟨d, hd, rfl⟩ := List.mem_map.mp hp
    exact hkey0 d ((sortDs_perm bins dest key ds).mem_iff.mp (hsub.subset hd))

variable {bins dest key hs n ds cnt filt m}

theorem outDs_nodup (hnd : (hs ++ ds).Nodup) : (outDs bins dest key hs n ds cnt filt).Nodup := by
  obtain ⟨t, ht, hsub⟩ := outDs_tail_sublist bins dest key hs n ds cnt filt
  rw [ht]
  exact (((sortDs_perm bins dest key ds).append_left hs).nodup_iff.mpr hnd).sublist (hsub.append_left hs)

theorem outDs_full (h : Full n cnt filt) {d : Dest} (hd : d ∈ hs ∨ d ∈ ds) :
    d ∈ outDs bins dest key hs n ds cnt filt := by
  refine List.mem_append.mpr (hd.imp_right fun hd => ?_)
  have hd := (sortDs_perm bins dest key ds).mem_iff.mpr hd
  cases cnt with
  | none => rwa [show filt = false from h]
  | some s =>
    show d ∈ if s < n then _ else _
    rwa [if_neg (Nat.not_lt.mpr h)]

theorem out_disjoint (hnd : (hs ++ ds).Nodup) (i : Nat) :
    colCount ((outDs bins dest key hs n ds cnt filt).map (render bins dest) ++ List.replicate m (zeros bins)) i ≤ 1 := by
  rw [colCount_append, colCount_replicate_zeros]
  exact colCount_render_le bins dest _ (outDs_nodup hnd) i

theorem out_sum_le (hnd : (hs ++ ds).Nodup) {i : Nat} (hi : i < bins.length) (h0 : 0 ≤ bins[i].e) :
    0 ≤ colSum ((outDs bins dest key hs n ds cnt filt).map (render bins dest) ++ List.replicate m (zeros bins)) i ∧
      colSum ((outDs bins dest key hs n ds cnt filt).map (render bins dest) ++ List.replicate m (zeros bins)) i ≤
        bins[i].e := by
  rw [gen_sum _ _ _ _ (outDs_nodup hnd) i hi]
  split_ifs
  · exact ⟨h0, le_rfl⟩
  · exact ⟨le_rfl, h0⟩

theorem out_sum_exact (hnd : (hs ++ ds).Nodup) (hfull : Full n cnt filt) {i : Nat} (hi : i < bins.length)
    (hd : ∃ d, (d ∈ hs ∨ d ∈ ds) ∧ dest bins[i] = some d) :
    colSum ((outDs bins dest key hs n ds cnt filt).map (render bins dest) ++ List.replicate m (zeros bins)) i =
      bins[i].e := by
  rw [gen_sum _ _ _ _ (outDs_nodup hnd) i hi, if_pos]
  obtain ⟨d, hd, e⟩ := hd
  exact ⟨d, outDs_full hfull hd, e⟩

theorem out_sum_zero (hnd : (hs ++ ds).Nodup) {i : Nat} (hi : i < bins.length) (h : dest bins[i] = none) :
    colSum ((outDs bins dest key hs n ds cnt filt).map (render bins dest) ++ List.replicate m (zeros bins)) i = 0 := by
  rw [gen_sum _ _ _ _ (outDs_nodup hnd) i hi, if_neg]
  rintro ⟨d, _, hd⟩
  rw [h] at hd
  cases hd

/-- after the heads the keys never increase, zero padding last, provided the all-zero array has the smallest key -/
theorem out_drop_sorted (hkey0 : ∀ d ∈ ds, key (zeros bins).vals ≤ key (render bins dest d).vals) :
    ((((outDs bins dest key hs n ds cnt filt).map (render bins dest) ++ List.replicate m (zeros bins)).drop
      hs.length).map fun p => key p.vals).Pairwise (fun x y => y ≤ x) := by
  obtain ⟨t, ht, hsub⟩ := outDs_tail_sublist bins dest key hs n ds cnt filt
  rw [ht, List.map_append, List.append_assoc, List.drop_left' (List.length_map _)]
  exact gen_sorted bins dest key ds t m hsub hkey0

end out

/-! ### the shape the three methods share -/

/-- what follows the wind-sea partitions: the slots sorted by `key`, cut or zero-padded to the requested count; for
    `None` every slot (`filt = false`, PTM3) or those with energy (`filt = true`, PTM1/2) -/
def swellPart (key : Vec → Rat) (bins : List Bin) (slots : List Part) (filt : Bool) : Option Nat → List Part
  | none => if filt then dropNull (sortSlots key slots) else sortSlots key slots
  | some s => fitCount bins (nparts bins) s (sortSlots key slots)

theorem ptm1_eq (key : Vec → Rat) (wscut : Rat) (bins : List Bin) (cnt : Option Nat) :
    ptm1 key wscut bins cnt = ptm1Wsea wscut bins :: swellPart key bins (ptm1Slots wscut bins) true cnt := by
  cases cnt <;> rfl

theorem ptm2_eq (key : Vec → Rat) (wscut : Rat) (bins : List Bin) (cnt : Option Nat) :
    ptm2 key wscut bins cnt =
      ptm1Wsea wscut bins :: ptm2Wsea2 wscut bins :: swellPart key bins (ptm2Slots wscut bins) true cnt := by
  cases cnt <;> rfl

theorem ptm3_eq (key : Vec → Rat) (bins : List Bin) (cnt : Option Nat) :
    ptm3 key bins cnt = swellPart key bins (ptm3Slots bins) false cnt := by
  cases cnt <;> rfl

section swellPart
variable (key : Vec → Rat) (bins : List Bin) (slots : List Part) (filt : Bool)

theorem swellPart_length (h : slots.length = nparts bins) (s : Nat) :
    (swellPart key bins slots filt (some s)).length = s :=
  fitCount_length bins _ s _ ((sortSlots_length key slots).trans h)

theorem mem_swellPart {cnt : Option Nat} {p : Part} (hp : p ∈ swellPart key bins slots filt cnt) :
    p = zeros bins ∨ p ∈ slots := by
  have hs : ∀ {l : List Part}, l.Sublist (sortSlots key slots) → p ∈ l → p = zeros bins ∨ p ∈ slots :=
    fun hl h => Or.inr ((sortSlots_perm key slots).mem_iff.mp (hl.subset h))
  cases cnt with
  | none => cases filt <;> [exact hs (List.Sublist.refl _) hp; exact hs List.filter_sublist hp]
  | some s =>
    replace hp : p ∈ fitCount bins (nparts bins) s (sortSlots key slots) := hp
    unfold fitCount at hp
    split_ifs at hp
    · exact hs (List.take_sublist _ _) hp
    · exact (List.mem_append.mp hp).elim (hs (List.Sublist.refl _)) fun h => Or.inl (List.mem_replicate.mp h).2
    · exact hs (List.Sublist.refl _) hp

/-- with fewer requested than detected the sorted slot list is `kept ++ dropped`, every dropped slot has a key `≤`
    every kept one, and the sorted list is a permutation of the slots (nothing else disappears) -/
theorem swellPart_dropped (s : Nat) (h : s < nparts bins) :
    ∃ dropped, sortSlots key slots = swellPart key bins slots filt (some s) ++ dropped ∧
      (∀ a ∈ swellPart key bins slots filt (some s), ∀ d ∈ dropped, key d.vals ≤ key a.vals) ∧
      (sortSlots key slots).Perm slots := by
  have e : swellPart key bins slots filt (some s) = (sortSlots key slots).take s := if_pos h
  refine ⟨(sortSlots key slots).drop s, ?_, ?_, sortSlots_perm key slots⟩
  · rw [e, List.take_append_drop]
  · have hp := sortSlots_pairwise key slots
    rw [← List.take_append_drop s (sortSlots key slots), List.pairwise_append] at hp
    rw [e]
    exact hp.2.2

end swellPart

/-- renders stay renders: heads that are renders followed by the swell part of the rendered slots are the render of
    `outDs`, then padding -/
theorem heads_swellPart_render (key : Vec → Rat) (bins : List Bin) (dest : Bin → Option Dest) (hs : List Dest)
    (filt : Bool) (cnt : Option Nat) :
    hs.map (render bins dest) ++ swellPart key bins ((swellDs bins).map (render bins dest)) filt cnt =
      (outDs bins dest key hs (nparts bins) (swellDs bins) cnt filt).map (render bins dest) ++
        List.replicate (outPad (nparts bins) cnt) (zeros bins) := by
  unfold swellPart outDs outPad
  rw [sortSlots_map, List.map_append, List.append_assoc]
  congr 1
  cases cnt with
  | none => cases filt <;> simp [dropNull_map]
  | some s => simp only [fitCount_map, (sortDs_perm _ _ _ _).length_eq, swellDs_length]

/-! ### `swells=None`: dropping partitions whose sum is not positive loses nothing of a non-negative spectrum -/

theorem colSum_filter (l : List Part) (q : Part → Bool) (i : Nat)
    (h : ∀ p ∈ l, q p = false → p.vals.getD i 0 = 0) : colSum (l.filter q) i = colSum l i := by
  induction l with
  | nil => rfl
  | cons a t ih =>
    have iht := ih (fun p hp => h p (List.mem_cons_of_mem _ hp))
    rw [List.filter_cons]
    cases hq : q a
    · rw [if_neg Bool.false_ne_true, colSum_cons, iht, h a List.mem_cons_self hq, zero_add]
    · rw [if_pos rfl, colSum_cons, colSum_cons, iht]

theorem colSum_dropNull (l : List Part) (i : Nat) (hn : ∀ p ∈ l, ∀ x ∈ p.vals, 0 ≤ x) :
    colSum (dropNull l) i = colSum l i := by
  refine colSum_filter l _ i fun p hp hq => ?_
  -- a non-negative array whose sum is not positive is zero everywhere: each entry lies between `0` and the sum
  rw [List.getD_eq_getElem?_getD]
  cases hx : p.vals[i]? with
  | none => rfl
  | some x =>
    have hm := List.mem_of_getElem? hx
    exact le_antisymm ((List.single_le_sum (hn p hp) x hm).trans (not_lt.mp (by simpa using hq))) (hn p hp x hm)

/-- so `None` returns, column for column, what requesting every slot returns -/
theorem colSum_swellPart_none (key : Vec → Rat) (bins : List Bin) (slots : List Part) (i : Nat)
    (hn : ∀ p ∈ slots, ∀ x ∈ p.vals, 0 ≤ x) :
    colSum (swellPart key bins slots true none) i = colSum (swellPart key bins slots true (some (nparts bins))) i := by
  have e : swellPart key bins slots true (some (nparts bins)) = sortSlots key slots :=
    (if_neg (lt_irrefl _)).trans (if_neg (lt_irrefl _))
  rw [e]
  exact colSum_dropNull _ i fun p hp => hn p ((sortSlots_perm key slots).mem_iff.mp hp)

/-! ### the three outputs as renders -/

theorem render_vals_nonneg {bins : List Bin} (dest : Bin → Option Dest) (ds : List Dest) (h : ∀ b ∈ bins, 0 ≤ b.e) :
    ∀ p ∈ ds.map (render bins dest), ∀ x ∈ p.vals, 0 ≤ x := by
  intro p hp
  obtain ⟨d, _, rfl⟩ := List.mem_map.mp hp
  exact select_vals_nonneg bins _ h

theorem ptm1_struct (key : Vec → Rat) (wscut : Rat) (bins : List Bin) (cnt : Option Nat) :
    ptm1 key wscut bins cnt =
      (outDs bins (dest (isWindSea wscut bins) false) key [.wsea] (nparts bins) (swellDs bins) cnt true).map
          (render bins (dest (isWindSea wscut bins) false)) ++
        List.replicate (outPad (nparts bins) cnt) (zeros bins) := by
  rw [ptm1_eq, ptm1Wsea_select, ← render_wsea bins _ false, ptm1Slots_eq]
  exact heads_swellPart_render key bins _ [.wsea] true cnt

theorem ptm2_struct (key : Vec → Rat) (wscut : Rat) (bins : List Bin) (cnt : Option Nat) :
    ptm2 key wscut bins cnt =
      (outDs bins (dest (isWindSea wscut bins) true) key [.wsea, .wsea2] (nparts bins) (swellDs bins) cnt true).map
          (render bins (dest (isWindSea wscut bins) true)) ++
        List.replicate (outPad (nparts bins) cnt) (zeros bins) := by
  rw [ptm2_eq, ptm1Wsea_select, ptm2Wsea2_select, ← render_wsea bins _ true, ← render_wsea2, ptm2Slots_eq]
  exact heads_swellPart_render key bins _ [.wsea, .wsea2] true cnt

theorem ptm3_struct (key : Vec → Rat) (bins : List Bin) (cnt : Option Nat) :
    ptm3 key bins cnt =
      (outDs bins (dest (fun _ => false) false) key [] (nparts bins) (swellDs bins) cnt false).map
          (render bins (dest (fun _ => false) false)) ++
        List.replicate (outPad (nparts bins) cnt) (zeros bins) := by
  rw [ptm3_eq, ptm3Slots_eq]
  exact heads_swellPart_render key bins _ [] false cnt

theorem heads1_nodup (bins : List Bin) : ([Dest.wsea] ++ swellDs bins).Nodup :=
  List.nodup_cons.mpr ⟨by simp [swellDs], swellDs_nodup bins⟩

theorem heads2_nodup (bins : List Bin) : ([Dest.wsea, Dest.wsea2] ++ swellDs bins).Nodup :=
  List.nodup_cons.mpr ⟨by simp [swellDs], List.nodup_cons.mpr ⟨by simp [swellDs], swellDs_nodup bins⟩⟩

theorem heads3_nodup (bins : List Bin) : (([] : List Dest) ++ swellDs bins).Nodup := swellDs_nodup bins

end WS.Assembly
