import WsVerif.Model.Flood
/-! Invariants of the abstract flooding machine (`Model/Flood.lean`), preserved by every guarded step.
Headline statements are in `Props/C04.lean`. Mathlib-free.

A step changes labels and finality at one pixel at most.  For each of the three invariants there is one lemma for such
a change (`inv_update`, `inv2_update`, `inv3_update`), whose hypotheses say what is needed of the change at that pixel;
the steps instantiate it. -/
namespace WS.FloodL
open WS.Flood

theorem getD_set {α} (a : Array α) (i j : Nat) (v d : α) :
    (a.setIfInBounds i v).getD j d = if i = j ∧ i < a.size then v else a.getD j d := by
  simp only [Array.getD_eq_getD_getElem?, Array.getElem?_setIfInBounds]
  by_cases h : i = j
  · subst h
    by_cases h2 : i < a.size
    · simp [h2]
    · simp [h2]
  · simp [h]

theorem getD_replicate {α} (n j : Nat) (v : α) : (Array.replicate n v).getD j v = v := by
  simp only [Array.getD_eq_getD_getElem?, Array.getElem?_replicate]
  split <;> rfl

theorem getD_lt_of_ne {α} (a : Array α) (j : Nat) (d : α) (h : a.getD j d ≠ d) : j < a.size := by
  false_or_by_contra
  rename_i hh
  apply h
  simp [Array.getD_eq_getD_getElem?, Array.getElem?_eq_none (Nat.le_of_not_lt hh)]

/-- final pixel of basin `k` -/
def FB (s : St) (k p : Nat) : Prop := s.finOf p = true ∧ s.labOf p = .basin k

/-- the seed pixel of basin `k` (labels start at 1) -/
def seedOf (s : St) (k : Nat) : Option Nat := if 1 ≤ k then s.seeds[k - 1]? else none

/-- `p` is joined to the seed of basin `k` by a chain of final basin-`k` pixels, consecutive ones adjacent -/
inductive Linked (g : Graph) (s : St) (k : Nat) : Nat → Prop
  | seed {p} : seedOf s k = some p → FB s k p → Linked g s k p
  | step {p q} : FB s k p → q ∈ g.adj p → Linked g s k q → Linked g s k p

theorem Linked.mono {g : Graph} {s s' : St} {k p : Nat}
    (hfb : ∀ x, FB s k x → FB s' k x) (hseed : ∀ x, seedOf s k = some x → seedOf s' k = some x)
    (h : Linked g s k p) : Linked g s' k p := by
  induction h with
  | seed hs hf => exact .seed (hseed _ hs) (hfb _ hf)
  | step hf ha _ ih => exact .step (hfb _ hf) ha ih

theorem Linked.fb {g : Graph} {s : St} {k p : Nat} (h : Linked g s k p) : FB s k p := by
  cases h with
  | seed _ hf => exact hf
  | step hf _ _ => exact hf

structure Inv (g : Graph) (s : St) : Prop where
  szLab : s.lab.size = g.n
  szFin : s.fin.size = g.n
  range : ∀ p k, s.labOf p = .basin k → 1 ≤ k ∧ k ≤ s.K
  seedsSz : s.seeds.size = s.K
  seedFB : ∀ k p, seedOf s k = some p → FB s k p
  link : ∀ p k, FB s k p → Linked g s k p
  finLab : ∀ x, s.finOf x = true → (s.labOf x).labelled = true
  done : ∀ x, x < g.n → g.level x < s.h → s.finOf x = true ∧ (s.labOf x).labelled = true
  snapOk : s.phase = .sweeping → ∀ x k, s.snapOf x = .basin k → s.labOf x = .basin k

theorem labOf_init (n p : Nat) : (St.init n).labOf p = .init := getD_replicate _ _ _
theorem finOf_init (n p : Nat) : (St.init n).finOf p = false := getD_replicate _ _ _
theorem seedOf_init (n k : Nat) : seedOf (St.init n) k = none := by simp [seedOf, St.init]

theorem inv_init (g : Graph) : Inv g (St.init g.n) := by
  refine ⟨Array.size_replicate, Array.size_replicate, ?_, rfl, ?_, ?_, ?_, ?_, ?_⟩
  · intro p k h; rw [labOf_init] at h; cases h
  · intro k p h; rw [seedOf_init] at h; cases h
  · intro p k h; have := h.1; rw [finOf_init] at this; cases this
  · intro x h; rw [finOf_init] at h; cases h
  · intro x _ h; cases h
  · intro h; cases h

theorem labOf_setLab (s : St) (p x : Nat) (v : Lab) (l : Array Lab) (hl : l = s.lab.setIfInBounds p v)
    (s' : St) (hs : s'.lab = l) : s'.labOf x = if p = x ∧ p < s.lab.size then v else s.labOf x := by
  unfold St.labOf; rw [hs, hl, getD_set]

theorem finOf_setFin (s : St) (p x : Nat) (s' : St) (hs : s'.fin = s.fin.setIfInBounds p true) :
    s'.finOf x = if p = x ∧ p < s.fin.size then true else s.finOf x := by
  unfold St.finOf; rw [hs, getD_set]

theorem labOf_ne (s s' : St) (p : Nat) (v : Lab) (h : s'.lab = s.lab.setIfInBounds p v) :
    ∀ x, x ≠ p → s'.labOf x = s.labOf x := fun x hx => by
  rw [labOf_setLab s p x v _ rfl s' h, if_neg fun hc => hx hc.1.symm]

theorem finOf_ne (s s' : St) (p : Nat) (h : s'.fin = s.fin.setIfInBounds p true) :
    ∀ x, x ≠ p → s'.finOf x = s.finOf x := fun x hx => by
  rw [finOf_setFin s p x s' h, if_neg fun hc => hx hc.1.symm]

theorem labOf_eq {g : Graph} {s s' : St} (I : Inv g s) {p : Nat} (hp : p < g.n) {v : Lab}
    (h : s'.lab = s.lab.setIfInBounds p v) : s'.labOf p = v := by
  rw [labOf_setLab s p p v _ rfl s' h, if_pos ⟨rfl, I.szLab.symm ▸ hp⟩]

theorem finOf_eq {g : Graph} {s s' : St} (I : Inv g s) {p : Nat} (hp : p < g.n)
    (h : s'.fin = s.fin.setIfInBounds p true) : s'.finOf p = true := by
  rw [finOf_setFin s p p s' h, if_pos ⟨rfl, I.szFin.symm ▸ hp⟩]

theorem Lab.labelled_of_isBasin {l : Lab} (h : l.isBasin = true) : l.labelled = true := by
  cases l <;> first | rfl | cases h

theorem Lab.unlabelled_iff {l : Lab} : l.unlabelled = true ↔ l = .init ∨ l = .mask := by
  cases l <;> simp [Lab.unlabelled]

theorem endlevelOk_spec {g : Graph} {s : St} (h : endlevelOk g s = true) {x : Nat} (hx : x < g.n)
    (hlev : g.level x ≤ s.h) : s.finOf x = true ∧ (s.labOf x).labelled = true := by
  simpa [hlev] using List.all_eq_true.mp h x (List.mem_range.mpr hx)

theorem labelled_basin (k : Nat) : (Lab.basin k).labelled = true := rfl

theorem not_fin_of_unlabelled {g : Graph} {s : St} (I : Inv g s) {p : Nat} (h : (s.labOf p).labelled = false) :
    s.finOf p = false := by
  cases hf : s.finOf p
  · rfl
  · rw [I.finLab p hf] at h; cases h

/-- `level`, `endqueue`, `closed`, `endlevel`, `sweep` -/
theorem inv_frame {g : Graph} {s s' : St} (I : Inv g s)
    (hl : s'.lab = s.lab) (hf : s'.fin = s.fin) (hK : s'.K = s.K) (hs : s'.seeds = s.seeds)
    (hdone : ∀ x, x < g.n → g.level x < s'.h → s.finOf x = true ∧ (s.labOf x).labelled = true)
    (hsnap : s'.phase = .sweeping → ∀ x k, s'.snapOf x = .basin k → s.labOf x = .basin k) : Inv g s' := by
  have e1 : s'.labOf = s.labOf := by funext x; rw [St.labOf, hl]; rfl
  have e2 : s'.finOf = s.finOf := by funext x; rw [St.finOf, hf]; rfl
  have e4 : seedOf s' = seedOf s := by funext k; rw [seedOf, hs]; rfl
  have efb : FB s' = FB s := by funext k x; rw [FB, e1, e2]; rfl
  refine ⟨hl ▸ I.szLab, hf ▸ I.szFin, ?_, by rw [hs, hK]; exact I.seedsSz, ?_, ?_, ?_, ?_, ?_⟩
  · rw [e1, hK]; exact I.range
  · rw [e4, efb]; exact I.seedFB
  · intro p k h; rw [efb] at h
    exact (I.link p k h).mono (fun x hx => by rwa [efb]) (fun x hx => by rwa [e4])
  · rw [e1, e2]; exact I.finLab
  · rw [e1, e2]; exact hdone
  · rw [e1]; exact hsnap

theorem inv_update {g : Graph} {s s' : St} (I : Inv g s) (p : Nat)
    (szL : s'.lab.size = s.lab.size) (szF : s'.fin.size = s.fin.size)
    (hlab : ∀ x, x ≠ p → s'.labOf x = s.labOf x) (hfin : ∀ x, x ≠ p → s'.finOf x = s.finOf x)
    (hh : s'.h = s.h) (hK : s.K ≤ s'.K) (hsz : s'.seeds.size = s'.K)
    (hseed : ∀ k x, seedOf s k = some x → seedOf s' k = some x)
    (hseed' : ∀ k x, seedOf s' k = some x → seedOf s k = some x ∨ (x = p ∧ FB s' k p))
    (hsnap : s'.phase = .sweeping → ∀ x k, s'.snapOf x = .basin k → s'.labOf x = .basin k)
    (hfb : ∀ k, FB s k p → FB s' k p)
    (hnew : ∀ k, FB s' k p → FB s k p ∨ (∃ q, q ∈ g.adj p ∧ FB s k q) ∨ seedOf s' k = some p)
    (hrange : ∀ k, s'.labOf p = .basin k → 1 ≤ k ∧ k ≤ s'.K)
    (hfl : s'.finOf p = true → (s'.labOf p).labelled = true)
    (hdone : s.finOf p = true → s'.finOf p = true ∧ (s'.labOf p).labelled = true) : Inv g s' := by
  have hfb' : ∀ k x, FB s k x → FB s' k x := fun k x h => by
    by_cases hx : x = p
    · exact hx ▸ hfb k (hx ▸ h)
    · rw [FB, hlab x hx, hfin x hx]; exact h
  have hlink : ∀ k x, Linked g s k x → Linked g s' k x := fun k x h => h.mono (hfb' k) (hseed k)
  refine ⟨szL ▸ I.szLab, szF ▸ I.szFin, ?_, hsz, ?_, ?_, ?_, ?_, hsnap⟩
  · intro x k h
    by_cases hx : x = p
    · exact hrange k (hx ▸ h)
    · rw [hlab x hx] at h; exact ⟨(I.range x k h).1, Nat.le_trans (I.range x k h).2 hK⟩
  · intro k x h
    rcases hseed' k x h with h0 | ⟨rfl, h0⟩
    · exact hfb' k x (I.seedFB k x h0)
    · exact h0
  · intro x k h
    by_cases hx : x = p
    · subst hx
      rcases hnew k h with h0 | ⟨q, hq, hfq⟩ | hs
      · exact hlink k x (I.link x k h0)
      · exact .step h hq (hlink k q (I.link q k hfq))
      · exact .seed hs h
    · rw [FB, hlab x hx, hfin x hx] at h; exact hlink k x (I.link x k h)
  · intro x h
    by_cases hx : x = p
    · subst hx; exact hfl h
    · rw [hlab x hx]; rw [hfin x hx] at h; exact I.finLab x h
  · intro x hxn hlev
    rw [hh] at hlev
    by_cases hx : x = p
    · subst hx; exact hdone (I.done x hxn hlev).1
    · rw [hlab x hx, hfin x hx]; exact I.done x hxn hlev

theorem seedOf_push {s s' : St} {p : Nat} (hs : s'.seeds = s.seeds.push p) (k x : Nat) :
    seedOf s' k = some x ↔ seedOf s k = some x ∨ (k = s.seeds.size + 1 ∧ x = p) := by
  unfold seedOf
  rw [hs, Array.getElem?_push]
  by_cases hk : k = s.seeds.size + 1
  · simp [hk, eq_comm]
  · have : k - 1 ≠ s.seeds.size ∨ ¬1 ≤ k := by omega
    rcases this with h | h <;> simp [h, hk]

/-- a label change at a pixel that is not final, in the open phase (`mark`, `inherit`, `conflict`) -/
theorem inv_relabel {g : Graph} {s s' : St} (I : Inv g s) {p : Nat} {v : Lab} (hp : p < g.n)
    (hl : s'.lab = s.lab.setIfInBounds p v) (hf : s'.fin = s.fin) (hK : s'.K = s.K) (hs : s'.seeds = s.seeds)
    (hh : s'.h = s.h) (hph : s'.phase = .opn)
    (hnf : s.finOf p = false) (hv : ∀ k, v = .basin k → 1 ≤ k ∧ k ≤ s.K) : Inv g s' := by
  have hnf' : s'.finOf p = false := by rw [St.finOf, hf]; exact hnf
  refine inv_update I p (by rw [hl, Array.size_setIfInBounds]) (by rw [hf]) (labOf_ne s s' p v hl)
    (fun x _ => by rw [St.finOf, hf]; rfl) hh (Nat.le_of_eq hK.symm) (by rw [hs, hK]; exact I.seedsSz)
    (fun k x h => by rwa [seedOf, hs]) (fun k x h => .inl (by rwa [seedOf, hs] at h)) (fun h => by cases hph.symm.trans h)
    ?_ ?_ ?_ ?_ ?_
  · intro k h; rw [FB, hnf] at h; cases h.1
  · intro k h; rw [FB, hnf'] at h; cases h.1
  · intro k h; rw [labOf_eq I hp hl] at h; rw [hK]; exact hv k h
  · intro h; rw [hnf'] at h; cases h
  · intro h; rw [hnf] at h; cases h

/-- a mask pixel becomes a final pixel of basin `k` (`seed`, `flood`) -/
theorem inv_newfinal {g : Graph} {s s' : St} (I : Inv g s) {p k : Nat} (hp : p < g.n)
    (hl : s'.lab = s.lab.setIfInBounds p (.basin k)) (hf : s'.fin = s.fin.setIfInBounds p true)
    (hmask : s.labOf p = .mask) (hh : s'.h = s.h) (hph : s'.phase = .seeding)
    (hK : s.K ≤ s'.K) (hk : 1 ≤ k ∧ k ≤ s'.K) (hsz : s'.seeds.size = s'.K)
    (hseed : ∀ k' x, seedOf s k' = some x → seedOf s' k' = some x)
    (hseed' : ∀ k' x, seedOf s' k' = some x → seedOf s k' = some x ∨ (x = p ∧ k' = k))
    (hev : (∃ q, q ∈ g.adj p ∧ FB s k q) ∨ seedOf s' k = some p) : Inv g s' := by
  have epl := labOf_eq I hp hl
  have epf := finOf_eq I hp hf
  have hk' : ∀ k', s'.labOf p = .basin k' → k' = k := fun k' h => by rw [epl] at h; injection h with h; exact h.symm
  refine inv_update I p (by rw [hl, Array.size_setIfInBounds]) (by rw [hf, Array.size_setIfInBounds])
    (labOf_ne s s' p _ hl) (finOf_ne s s' p hf) hh hK hsz hseed ?_ (fun h => by cases hph.symm.trans h) ?_ ?_ ?_
    (fun _ => epl ▸ rfl) (fun _ => ⟨epf, epl ▸ rfl⟩)
  · intro k' x h
    rcases hseed' k' x h with h0 | ⟨rfl, rfl⟩
    · exact .inl h0
    · exact .inr ⟨rfl, epf, epl⟩
  · intro k' h; rw [FB, hmask] at h; cases h.2
  · intro k' h; rw [hk' k' h.2]; exact .inr hev
  · intro k' h; rw [hk' k' h]; exact hk

theorem step_inv {g : Graph} {s s' : St} (e : Step) (I : Inv g s) (h : step g s e = some s') : Inv g s' := by
  cases e with
  | level _ | endqueue =>
    obtain ⟨_, rfl⟩ := Option.ite_some_none_eq_some.mp h
    exact inv_frame I rfl rfl rfl rfl I.done (fun hc => by cases hc)
  | closed q =>
    obtain ⟨_, rfl⟩ := Option.ite_some_none_eq_some.mp h
    exact inv_frame I rfl rfl rfl rfl I.done I.snapOk
  | mark p =>
    obtain ⟨⟨hph, hp, hlp, _⟩, rfl⟩ := Option.ite_some_none_eq_some.mp h
    exact inv_relabel I hp rfl rfl rfl rfl rfl hph (not_fin_of_unlabelled I (by rw [hlp]; rfl))
      (fun k hk => by cases hk)
  | inherit p q =>
    obtain ⟨⟨hph, hp, _, hfp, _⟩, rfl⟩ := Option.ite_some_none_eq_some.mp h
    exact inv_relabel I hp rfl rfl rfl rfl rfl hph hfp (I.range q)
  | conflict p =>
    obtain ⟨⟨hph, hp, hfp, _⟩, rfl⟩ := Option.ite_some_none_eq_some.mp h
    exact inv_relabel I hp rfl rfl rfl rfl rfl hph hfp (fun k hk => by cases hk)
  | finalize p =>
    obtain ⟨⟨hph, hp, hfp, hg⟩, hs'⟩ := Option.ite_some_none_eq_some.mp h
    have epf := finOf_eq I hp (congrArg St.fin hs'.symm)
    subst hs'
    refine inv_update I p rfl (by simp) (fun _ _ => rfl) (finOf_ne s _ p rfl) rfl (Nat.le_refl _) I.seedsSz
      (fun _ _ h => h) (fun _ _ h => .inl h) (fun hc => by cases hph.symm.trans hc) (fun k h => ⟨epf, h.2⟩) ?_
      (I.range p) ?_ (fun h => ⟨epf, I.finLab p h⟩)
    · intro k h
      rcases hg with hw | ⟨_, hany⟩
      · exact absurd (hw.symm.trans h.2) (by intro hc; cases hc)
      · obtain ⟨q, hq, hqq⟩ := List.any_eq_true.mp hany
        rw [Bool.and_eq_true, beq_iff_eq] at hqq
        exact .inr (.inl ⟨q, hq, hqq.1, hqq.2.trans h.2⟩)
    · intro _
      rcases hg with hw | ⟨hb, _⟩
      · exact (congrArg Lab.labelled hw).trans rfl
      · exact Lab.labelled_of_isBasin hb
  | seed p k =>
    obtain ⟨⟨hph, hp, _, hmask, rfl⟩, hs'⟩ := Option.ite_some_none_eq_some.mp h
    have hps := seedOf_push (congrArg St.seeds hs'.symm)
    rw [I.seedsSz] at hps
    subst hs'
    exact inv_newfinal I hp rfl rfl hmask rfl hph (Nat.le_succ _) ⟨Nat.le_add_left _ _, Nat.le_refl _⟩
      (by simp [I.seedsSz]) (fun k' x hx => (hps k' x).mpr (.inl hx))
      (fun k' x hx => ((hps k' x).mp hx).imp_right fun hh => ⟨hh.2, hh.1⟩) (.inr ((hps _ _).mpr (.inr ⟨rfl, rfl⟩)))
  | flood p q =>
    obtain ⟨⟨hph, hp, _, hmask, hadj, hfq, hlq, hK⟩, rfl⟩ := Option.ite_some_none_eq_some.mp h
    exact inv_newfinal I hp rfl rfl hmask rfl hph (Nat.le_refl _) ⟨hK, Nat.le_refl _⟩ I.seedsSz
      (fun _ _ hx => hx) (fun _ _ hx => .inl hx) (.inl ⟨q, List.contains_iff_mem.mp hadj, hfq, hlq⟩)
  | endlevel =>
    obtain ⟨⟨_, _, hg⟩, rfl⟩ := Option.ite_some_none_eq_some.mp h
    exact inv_frame I rfl rfl rfl rfl (fun x hx hlev => endlevelOk_spec hg hx (Nat.le_of_lt_succ hlev))
      (fun hc => by cases hc)
  | sweep =>
    obtain ⟨_, rfl⟩ := Option.ite_some_none_eq_some.mp h
    exact inv_frame I rfl rfl rfl rfl I.done (fun _ _ _ h => h)
  | resolve p q =>
    obtain ⟨⟨hph, hp, _, hsp, hlp, hadj, hsq, _, hfq⟩, hs'⟩ := Option.ite_some_none_eq_some.mp h
    obtain ⟨k, hk⟩ : ∃ k, s.snapOf q = .basin k := by
      cases h : s.snapOf q <;> rw [h] at hsq <;> first | exact ⟨_, rfl⟩ | cases hsq
    have hlq := I.snapOk hph q k hk
    have epl := labOf_eq I hp (congrArg St.lab hs'.symm)
    have e1 := labOf_ne s s' p _ (congrArg St.lab hs'.symm)
    rw [hk] at epl
    have hk' : ∀ k', s'.labOf p = .basin k' → k' = k := fun k' h => by rw [epl] at h; injection h with h; exact h.symm
    subst hs'
    refine inv_update I p (by simp) rfl e1 (fun _ _ => rfl) rfl (Nat.le_refl _) I.seedsSz
      (fun _ _ h => h) (fun _ _ h => .inl h) ?_ ?_ ?_ ?_ (fun _ => epl ▸ rfl) (fun h => ⟨h, epl ▸ rfl⟩)
    · intro _ x k' hx
      by_cases hxp : x = p
      · subst hxp; exact absurd (hsp.symm.trans hx) (by intro hc; cases hc)
      · rw [e1 x hxp]; exact I.snapOk hph x k' hx
    · intro k' h'; have := h'.2; rw [hlp] at this; cases this
    · intro k' h'; rw [hk' k' h'.2]; exact .inr (.inl ⟨q, List.contains_iff_mem.mp hadj, hfq, hlq⟩)
    · intro k' h'; rw [hk' k' h']; exact I.range q k hlq

theorem runFrom_induction {g : Graph} {P : St → Prop} (hstep : ∀ s s' e, P s → step g s e = some s' → P s')
    (t : List Step) {s s' : St} (h0 : P s) (h : runFrom g s t = some s') : P s' := by
  induction t generalizing s with
  | nil => injection h with h; exact h ▸ h0
  | cons e es ih =>
    rw [runFrom] at h
    cases hs : step g s e with
    | none => rw [hs] at h; cases h
    | some s1 => rw [hs] at h; exact ih (hstep s s1 e h0 hs) h

theorem run_inv {g : Graph} {t : List Step} {s : St} (h : run g t = some s) : Inv g s :=
  runFrom_induction (fun _ _ e I hs => step_inv e I hs) t (inv_init g) h

/-- path inside a vertex set `S`: consecutive vertices adjacent, all vertices in `S` -/
inductive Conn (g : Graph) (S : Nat → Prop) : Nat → Nat → Prop
  | refl {a} : S a → Conn g S a a
  | step {a b c} : S a → b ∈ g.adj a → Conn g S b c → Conn g S a c

theorem Conn.trans {g : Graph} {S : Nat → Prop} {a b c : Nat} (h1 : Conn g S a b) (h2 : Conn g S b c) :
    Conn g S a c := by
  induction h1 with
  | refl _ => exact h2
  | step hs ha _ ih => exact .step hs ha (ih h2)

theorem Conn.right_mem {g : Graph} {S : Nat → Prop} {a b : Nat} (h : Conn g S a b) : S b := by
  induction h with
  | refl hs => exact hs
  | step _ _ _ ih => exact ih

theorem Conn.left_mem {g : Graph} {S : Nat → Prop} {a b : Nat} (h : Conn g S a b) : S a := by
  cases h with
  | refl hs => exact hs
  | step hs _ _ => exact hs

theorem Conn.snoc {g : Graph} {S : Nat → Prop} {a b c : Nat} (h : Conn g S a b) (hc : S c) (hadj : c ∈ g.adj b) :
    Conn g S a c :=
  h.trans (.step h.right_mem hadj (.refl hc))

theorem Conn.symm {g : Graph} {S : Nat → Prop} (hsym : ∀ a b, b ∈ g.adj a → a ∈ g.adj b) {a b : Nat}
    (h : Conn g S a b) : Conn g S b a := by
  induction h with
  | refl hs => exact .refl hs
  | step hs ha hc ih => exact ih.trans (.step hc.left_mem (hsym _ _ ha) (.refl hs))

/-- the plateau of `x0`: vertices joined to `x0` through vertices of the same level -/
def Plateau (g : Graph) (x0 x : Nat) : Prop := Conn g (fun y => y < g.n ∧ g.level y = g.level x0) x0 x

/-- `x0` lies on a regional minimum: no neighbour of its plateau is lower -/
def RegMin (g : Graph) (x0 : Nat) : Prop :=
  x0 < g.n ∧ ∀ x, Plateau g x0 x → ∀ y ∈ g.adj x, y < g.n → g.level x0 ≤ g.level y

theorem Plateau.level {g : Graph} {x0 x : Nat} (h : Plateau g x0 x) : x < g.n ∧ g.level x = g.level x0 := h.right_mem

/-- well-formed symmetric graph -/
structure WF (g : Graph) : Prop where
  lt : ∀ x y, y ∈ g.adj x → y < g.n
  symm : ∀ x y, y ∈ g.adj x → x ∈ g.adj y

theorem Plateau.of_level_eq {g : Graph} {a l x y : Nat} (h : g.level a = l)
    (hc : Conn g (fun z => z < g.n ∧ g.level z = g.level a) x y) : Conn g (fun z => z < g.n ∧ g.level z = l) x y :=
  h ▸ hc

theorem Plateau.swap {g : Graph} (wf : WF g) {a b : Nat} (h : Plateau g a b) : Plateau g b a :=
  Plateau.of_level_eq h.level.2.symm (Conn.symm wf.symm h)

theorem Plateau.trans {g : Graph} {a b c : Nat} (h1 : Plateau g a b) (h2 : Plateau g b c) : Plateau g a c :=
  Conn.trans h1 (Plateau.of_level_eq h1.level.2 h2)

/-- what has been touched lies at or below the current level, and what is not yet final lies on it; a regional
    minimum either holds a seed or is still untouched (`init`/`mask` only) -/
structure Inv2 (g : Graph) (s : St) : Prop where
  lvl : ∀ x, s.labOf x ≠ .init → g.level x ≤ s.h
  cur : ∀ x, s.labOf x ≠ .init → s.finOf x = false → g.level x = s.h
  nl : ∀ x0, RegMin g x0 → (∃ k p, seedOf s k = some p ∧ Plateau g x0 p) ∨
        (∀ x, Plateau g x0 x → s.labOf x = .init ∨ s.labOf x = .mask)

theorem inv2_init (g : Graph) : Inv2 g (St.init g.n) :=
  ⟨fun x h => absurd (labOf_init _ x) h, fun x h => absurd (labOf_init _ x) h,
    fun _ _ => .inr fun x _ => .inl (labOf_init _ x)⟩

theorem labOf_lt {g : Graph} {s : St} (I : Inv g s) {x : Nat} (h : s.labOf x ≠ .init) : x < g.n :=
  I.szLab ▸ getD_lt_of_ne s.lab x .init h

theorem Lab.ne_init_of_labelled {l : Lab} (h : l.labelled = true) : l ≠ .init := by
  intro hc; rw [hc] at h; cases h

/-- a pixel of the current level on an unlabelled plateau of a regional minimum has no labelled neighbour: that
    neighbour would be strictly higher, but labelled pixels are not above the current level -/
theorem no_labelled_nb {g : Graph} {s : St} (I : Inv g s) (J : Inv2 g s) {x0 p q : Nat} (hr : RegMin g x0)
    (hfresh : ∀ x, Plateau g x0 x → s.labOf x = .init ∨ s.labOf x = .mask)
    (hp : Plateau g x0 p) (hlev : g.level p = s.h) (hq : q ∈ g.adj p) (hlq : (s.labOf q).labelled = true) : False := by
  have hqi := Lab.ne_init_of_labelled hlq
  have hqn := labOf_lt I hqi
  have h1 := hr.2 p hp q hq hqn
  have h2 := J.lvl q hqi
  have heq : g.level q = g.level x0 := by have := hp.level.2; omega
  rcases hfresh q (hp.snoc ⟨hqn, heq⟩ hq) with h' | h' <;> rw [h'] at hlq <;> cases hlq

/-- labels and finality change at most at `p`; `hnl` says what happens when `p` lies on a still unlabelled
    plateau of a regional minimum -/
theorem inv2_update {g : Graph} {s s' : St} (J : Inv2 g s) (p : Nat)
    (hlab : ∀ x, x ≠ p → s'.labOf x = s.labOf x) (hfin : ∀ x, x ≠ p → s'.finOf x = s.finOf x)
    (hh : s'.h = s.h) (hseed : ∀ k x, seedOf s k = some x → seedOf s' k = some x)
    (hlvl : s'.labOf p ≠ .init → g.level p ≤ s.h) (hcur : s'.labOf p ≠ .init → s'.finOf p = false → g.level p = s.h)
    (hnl : ∀ x0, RegMin g x0 → Plateau g x0 p → (∀ x, Plateau g x0 x → s.labOf x = .init ∨ s.labOf x = .mask) →
      (∃ k y, seedOf s' k = some y ∧ Plateau g x0 y) ∨ s'.labOf p = .init ∨ s'.labOf p = .mask) : Inv2 g s' := by
  refine ⟨fun x hx => ?_, fun x hx hf => ?_, fun x0 hr => ?_⟩
  · rw [hh]
    by_cases hxp : x = p
    · subst hxp; exact hlvl hx
    · rw [hlab x hxp] at hx; exact J.lvl x hx
  · rw [hh]
    by_cases hxp : x = p
    · subst hxp; exact hcur hx hf
    · rw [hlab x hxp] at hx; rw [hfin x hxp] at hf; exact J.cur x hx hf
  · rcases J.nl x0 hr with ⟨k, y, h1, h2⟩ | hfresh
    · exact .inl ⟨k, y, hseed k y h1, h2⟩
    · by_cases hpp : Plateau g x0 p
      · refine (hnl x0 hr hpp hfresh).imp_right fun hp x hx => ?_
        by_cases hxp : x = p
        · subst hxp; exact hp
        · rw [hlab x hxp]; exact hfresh x hx
      · exact .inr fun x hx => by rw [hlab x fun hc => hpp (hc ▸ hx)]; exact hfresh x hx

theorem step_inv2 {g : Graph} {s s' : St} (e : Step) (I : Inv g s) (J : Inv2 g s) (h : step g s e = some s') :
    Inv2 g s' := by
  cases e with
  | level _ | endqueue | closed _ | sweep =>
    obtain ⟨_, rfl⟩ := Option.ite_some_none_eq_some.mp h
    exact inv2_update J 0 (fun _ _ => rfl) (fun _ _ => rfl) rfl (fun _ _ h => h) (J.lvl 0) (J.cur 0)
      (fun _ _ hp hf => .inr (hf 0 hp))
  | mark p =>
    obtain ⟨⟨_, hp, _, hlev⟩, hs'⟩ := Option.ite_some_none_eq_some.mp h
    have epl := labOf_eq I hp (congrArg St.lab hs'.symm)
    subst hs'
    exact inv2_update J p (labOf_ne s _ p _ rfl) (fun _ _ => rfl) rfl (fun _ _ h => h) (fun _ => Nat.le_of_eq hlev)
      (fun _ _ => hlev) (fun _ _ _ _ => .inr (.inr epl))
  | inherit p q =>
    obtain ⟨⟨_, hp, _, hfp, hadj, _, hbq, hlp⟩, rfl⟩ := Option.ite_some_none_eq_some.mp h
    have hlev : g.level p = s.h := J.cur p (by rcases hlp with h | h <;> rw [h] <;> intro hc <;> cases hc) hfp
    exact inv2_update J p (labOf_ne s _ p _ rfl) (fun _ _ => rfl) rfl (fun _ _ h => h) (fun _ => Nat.le_of_eq hlev)
      (fun _ _ => hlev) (fun x0 hr hpp hf =>
        (no_labelled_nb I J hr hf hpp hlev (List.contains_iff_mem.mp hadj) (Lab.labelled_of_isBasin hbq)).elim)
  | conflict p =>
    obtain ⟨⟨_, hp, hfp, hlp, hany⟩, rfl⟩ := Option.ite_some_none_eq_some.mp h
    have hlev : g.level p = s.h := J.cur p hlp hfp
    obtain ⟨q, hq, hqq⟩ := List.any_eq_true.mp hany
    rw [Bool.and_eq_true] at hqq
    exact inv2_update J p (labOf_ne s _ p _ rfl) (fun _ _ => rfl) rfl (fun _ _ h => h) (fun _ => Nat.le_of_eq hlev)
      (fun _ _ => hlev) (fun x0 hr hpp hf => (no_labelled_nb I J hr hf hpp hlev hq hqq.2).elim)
  | finalize p =>
    obtain ⟨⟨_, hp, hfp, _⟩, hs'⟩ := Option.ite_some_none_eq_some.mp h
    have epf := finOf_eq I hp (congrArg St.fin hs'.symm)
    subst hs'
    exact inv2_update J p (fun _ _ => rfl) (finOf_ne s _ p rfl) rfl (fun _ _ h => h) (J.lvl p)
      (fun _ hf => by rw [epf] at hf; cases hf) (fun _ _ hpp hf => .inr (hf p hpp))
  | seed p k =>
    obtain ⟨⟨_, hp, _, hmask, rfl⟩, hs'⟩ := Option.ite_some_none_eq_some.mp h
    have hps := seedOf_push (congrArg St.seeds hs'.symm)
    have epf := finOf_eq I hp (congrArg St.fin hs'.symm)
    subst hs'
    exact inv2_update J p (labOf_ne s _ p _ rfl) (finOf_ne s _ p rfl) rfl (fun k x hx => (hps k x).mpr (.inl hx))
      (fun _ => J.lvl p (by rw [hmask]; intro hc; cases hc)) (fun _ hf => by rw [epf] at hf; cases hf)
      (fun x0 _ hpp _ => .inl ⟨_, p, (hps _ _).mpr (.inr ⟨rfl, rfl⟩), hpp⟩)
  | flood p q =>
    obtain ⟨⟨_, hp, _, hmask, hadj, _, hlq, _⟩, hs'⟩ := Option.ite_some_none_eq_some.mp h
    have epf := finOf_eq I hp (congrArg St.fin hs'.symm)
    subst hs'
    have hmi : s.labOf p ≠ .init := by rw [hmask]; intro hc; cases hc
    exact inv2_update J p (labOf_ne s _ p _ rfl) (finOf_ne s _ p rfl) rfl (fun _ _ h => h)
      (fun _ => J.lvl p hmi) (fun _ hf => by rw [epf] at hf; cases hf)
      (fun x0 hr hpp hf => (no_labelled_nb I J hr hf hpp (J.cur p hmi (not_fin_of_unlabelled I (by rw [hmask]; rfl)))
        (List.contains_iff_mem.mp hadj) (by rw [hlq]; rfl)).elim)
  | endlevel =>
    obtain ⟨⟨_, _, hok⟩, rfl⟩ := Option.ite_some_none_eq_some.mp h
    refine ⟨fun x hx => Nat.le_succ_of_le (J.lvl x hx), fun x hx hf => ?_, J.nl⟩
    cases (endlevelOk_spec hok (labOf_lt I hx) (J.lvl x hx)).1.symm.trans hf
  | resolve p q =>
    obtain ⟨⟨_, hp, _, _, hlp, _, _, hfp, _⟩, rfl⟩ := Option.ite_some_none_eq_some.mp h
    exact inv2_update J p (labOf_ne s _ p _ rfl) (fun _ _ => rfl) rfl (fun _ _ h => h)
      (fun _ => J.lvl p (by rw [hlp]; intro hc; cases hc)) (fun _ hf => by cases hfp.symm.trans hf)
      (fun _ _ hpp hf => by rcases hf p hpp with h' | h' <;> rw [hlp] at h' <;> cases h')

theorem run_inv2 {g : Graph} {t : List Step} {s : St} (h : run g t = some s) : Inv2 g s :=
  (runFrom_induction (P := fun s => Inv g s ∧ Inv2 g s)
    (fun _ _ e IJ hs => ⟨step_inv e IJ.1 hs, step_inv2 e IJ.1 IJ.2 hs⟩) t ⟨inv_init g, inv2_init g⟩ h).2

/-- bookkeeping of the `mask` label (`noMaskIdle`, `maskCur`; in the seeding phase every pixel up to the current
    level is marked and a mask pixel only has unlabelled or frontier neighbours), and the seeds: each sits on a
    regional minimum whose plateau is wholly in its basin, or is being flooded right now (`dyn`) -/
structure Inv3 (g : Graph) (s : St) : Prop where
  noMaskIdle : (s.phase = .idle ∨ s.phase = .sweeping) → ∀ x, s.labOf x ≠ .mask
  maskCur : ∀ x, s.labOf x = .mask → x ∈ s.cur
  seedLow : s.phase = .seeding → ∀ x, x < g.n → g.level x ≤ s.h → s.labOf x ≠ .init
  maskNb : s.phase = .seeding → ∀ x, s.labOf x = .mask → ∀ y ∈ g.adj x,
    s.labOf y = .init ∨ s.labOf y = .mask ∨ y ∈ s.frontier
  rm : ∀ k p, seedOf s k = some p → RegMin g p
  dyn : ∀ k p, seedOf s k = some p → ∀ x, Plateau g p x →
    (s.labOf x = .basin k ∧ s.finOf x = true) ∨
    (s.labOf x = .mask ∧ s.phase = .seeding ∧ g.level p = s.h ∧ k = s.K)

theorem inv3_init (g : Graph) : Inv3 g (St.init g.n) := by
  refine ⟨fun _ x h => ?_, fun x h => ?_, fun h => ?_, fun h => ?_, fun k p h => ?_, fun k p h => ?_⟩
  · rw [labOf_init] at h; cases h
  · rw [labOf_init] at h; cases h
  · cases h
  · cases h
  · rw [seedOf_init] at h; cases h
  · rw [seedOf_init] at h; cases h

theorem mask_level {g : Graph} {s : St} (I : Inv g s) (J : Inv2 g s) {x : Nat} (h : s.labOf x = .mask) :
    g.level x = s.h :=
  J.cur x (by rw [h]; intro hc; cases hc) (not_fin_of_unlabelled I (by rw [h]; rfl))

theorem plateau_all_mask {g : Graph} {s : St} (K3 : Inv3 g s)
    (hph : s.phase = .seeding) (hfr : s.frontier = []) {a x : Nat}
    (hc : Conn g (fun y => y < g.n ∧ g.level y = s.h) a x) (ha : s.labOf a = .mask) : s.labOf x = .mask := by
  induction hc with
  | refl _ => exact ha
  | @step a b c hs hadj hbc ih =>
    apply ih
    have hb := hbc.left_mem
    rcases K3.maskNb hph a ha b hadj with h | h | h
    · exact absurd h (K3.seedLow hph b hb.1 (Nat.le_of_eq hb.2))
    · exact h
    · rw [hfr] at h; cases h

/-- a basin pixel and a mask pixel cannot be joined inside one plateau when the frontier is empty -/
theorem no_mask_in_seeded_plateau {g : Graph} {s : St} (wf : WF g) (K3 : Inv3 g s)
    (hph : s.phase = .seeding) (hfr : s.frontier = []) {k p : Nat} (hs : seedOf s k = some p) {a x : Nat}
    (hpa : Plateau g p a) (hc : Conn g (fun y => y < g.n ∧ g.level y = g.level p) a x)
    (ha : ∃ k', s.labOf a = .basin k') (hx : s.labOf x = .mask) : False := by
  induction hc with
  | refl _ => obtain ⟨k', hk'⟩ := ha; rw [hk'] at hx; cases hx
  | @step a b c hsa hadj hbc ih =>
    have hpb : Plateau g p b := hpa.snoc hbc.left_mem hadj
    rcases K3.dyn k p hs b hpb with ⟨hb, _⟩ | ⟨hb, _⟩
    · exact ih hpb ⟨k, hb⟩ hx
    · obtain ⟨k', hk'⟩ := ha
      rcases K3.maskNb hph b hb a (wf.symm a b hadj) with h | h | h
      · rw [hk'] at h; cases h
      · rw [hk'] at h; cases h
      · rw [hfr] at h; cases h

/-- `level`, `finalize`, `endqueue`, `closed`, `sweep`: labels stay, finality may grow -/
theorem inv3_same_lab {g : Graph} {s s' : St} (K3 : Inv3 g s)
    (hl : s'.lab = s.lab) (hfin : ∀ x, s.finOf x = true → s'.finOf x = true) (hs : s'.seeds = s.seeds)
    (hK : s'.K = s.K) (hh : s'.h = s.h) (hph : s.phase = .seeding → s'.phase = .seeding)
    (h1 : (s'.phase = .idle ∨ s'.phase = .sweeping) → ∀ x, s.labOf x ≠ .mask)
    (h2 : ∀ x, s.labOf x = .mask → x ∈ s'.cur)
    (h3 : s'.phase = .seeding → ∀ x, x < g.n → g.level x ≤ s.h → s.labOf x ≠ .init)
    (h4 : s'.phase = .seeding → ∀ x, s.labOf x = .mask → ∀ y ∈ g.adj x,
      s.labOf y = .init ∨ s.labOf y = .mask ∨ y ∈ s'.frontier) : Inv3 g s' := by
  have e1 : s'.labOf = s.labOf := by funext x; rw [St.labOf, hl]; rfl
  have e4 : seedOf s' = seedOf s := by funext k; rw [seedOf, hs]; rfl
  refine ⟨?_, ?_, ?_, ?_, ?_, ?_⟩
  · rw [e1]; exact h1
  · rw [e1]; exact h2
  · rw [e1, hh]; exact h3
  · rw [e1]; exact h4
  · rw [e4]; exact K3.rm
  · intro k p h x hx
    rw [e4] at h; rw [e1, hh, hK]
    exact (K3.dyn k p h x hx).imp (fun a => ⟨a.1, hfin x a.2⟩) (fun a => ⟨a.1, hph a.2.1, a.2.2⟩)

/-- labels and finality change at most at `p`, in a phase that stays; seeds are kept, and a new seed comes with
    its own proof of `rm` and `dyn` (`hseed`) -/
theorem inv3_update {g : Graph} {s s' : St} (K3 : Inv3 g s) (p : Nat)
    (hlab : ∀ x, x ≠ p → s'.labOf x = s.labOf x) (hfin : ∀ x, x ≠ p → s'.finOf x = s.finOf x)
    (hph : s'.phase = s.phase) (hh : s'.h = s.h)
    (hcur : ∀ x, x ∈ s.cur → x ∈ s'.cur) (hfr : ∀ x, x ∈ s.frontier → x ∈ s'.frontier)
    (hidle : (s.phase = .idle ∨ s.phase = .sweeping) → s'.labOf p ≠ .mask)
    (hmc : s'.labOf p = .mask → p ∈ s'.cur)
    (hni : s.labOf p ≠ .init → s'.labOf p ≠ .init)
    (hsd : s.phase = .seeding → s'.labOf p ≠ .mask ∧ p ∈ s'.frontier)
    (hdyn : ∀ k, (s.labOf p = .basin k ∧ s.finOf p = true) ∨
      (s.labOf p = .mask ∧ s.phase = .seeding ∧ k = s.K ∧ s'.K = s.K) → s'.labOf p = .basin k ∧ s'.finOf p = true)
    (hseed : ∀ k r, seedOf s' k = some r →
      (seedOf s k = some r ∧ (s'.K = s.K ∨ ∀ x, Plateau g r x → s.labOf x ≠ .mask)) ∨
      (RegMin g r ∧ ∀ x, Plateau g r x → (s'.labOf x = .basin k ∧ s'.finOf x = true) ∨
        (s'.labOf x = .mask ∧ s'.phase = .seeding ∧ g.level r = s'.h ∧ k = s'.K))) : Inv3 g s' := by
  refine ⟨fun hp x hx => ?_, fun x hx => ?_, fun hp x hxn hlev => ?_, fun hp x hx y hy => ?_, fun k r hr => ?_,
    fun k r hr x hx => ?_⟩
  · rw [hph] at hp
    by_cases hxp : x = p
    · subst hxp; exact hidle hp hx
    · rw [hlab x hxp] at hx; exact K3.noMaskIdle hp x hx
  · by_cases hxp : x = p
    · subst hxp; exact hmc hx
    · rw [hlab x hxp] at hx; exact hcur x (K3.maskCur x hx)
  · rw [hph] at hp; rw [hh] at hlev
    have := K3.seedLow hp x hxn hlev
    by_cases hxp : x = p
    · subst hxp; exact hni this
    · rw [hlab x hxp]; exact this
  · rw [hph] at hp
    have hxp : x ≠ p := fun hc => (hsd hp).1 (hc ▸ hx)
    rw [hlab x hxp] at hx
    by_cases hyp : y = p
    · subst hyp; exact .inr (.inr (hsd hp).2)
    · rw [hlab y hyp]
      exact (K3.maskNb hp x hx y hy).imp_right (Or.imp_right (hfr y))
  · rcases hseed k r hr with ⟨h0, _⟩ | ⟨h0, _⟩
    · exact K3.rm k r h0
    · exact h0
  · rcases hseed k r hr with ⟨h0, hK⟩ | ⟨_, h0⟩
    · have old := K3.dyn k r h0 x hx
      rcases hK with hK | hK
      · by_cases hxp : x = p
        · subst hxp; exact .inl (hdyn k (old.imp_right fun a => ⟨a.1, a.2.1, a.2.2.2, hK⟩))
        · rw [hlab x hxp, hfin x hxp, hph, hh, hK]; exact old
      · have old' := old.resolve_right fun a => hK x hx a.1
        by_cases hxp : x = p
        · subst hxp; exact .inl (hdyn k (.inl old'))
        · rw [hlab x hxp, hfin x hxp]; exact .inl old'
    · exact h0 x hx

/-- a relabelling of a non-final pixel during the open phase (`mark`, `inherit`, `conflict`) -/
theorem inv3_opn_update {g : Graph} {s s' : St} (I : Inv g s) (K3 : Inv3 g s) {p : Nat} {v : Lab} (hp : p < g.n)
    (hl : s'.lab = s.lab.setIfInBounds p v) (hf : s'.fin = s.fin) (hs : s'.seeds = s.seeds) (hK : s'.K = s.K)
    (hh : s'.h = s.h) (hph : s.phase = .opn) (hph' : s'.phase = s.phase) (hfr : s'.frontier = s.frontier)
    (hcur : ∀ x, x ∈ s.cur → x ∈ s'.cur) (hpc : v = .mask → p ∈ s'.cur) (hvi : v ≠ .init)
    (hnf : s.finOf p = false) : Inv3 g s' := by
  have epl := labOf_eq I hp hl
  refine inv3_update K3 p (labOf_ne s s' p v hl) (fun x _ => by rw [St.finOf, hf]; rfl) hph' hh hcur
    (fun x hx => hfr ▸ hx) ?_ (fun h => hpc (epl ▸ h)) (fun _ => epl ▸ hvi) ?_ ?_
    (fun k r h => .inl ⟨by rwa [seedOf, hs] at h, .inl hK⟩)
  · intro hc; rw [hph] at hc; rcases hc with hc | hc <;> cases hc
  · intro hc; rw [hph] at hc; cases hc
  · rintro k (⟨_, a⟩ | ⟨_, a, _⟩)
    · rw [hnf] at a; cases a
    · rw [hph] at a; cases a

theorem step_inv3 {g : Graph} {s s' : St} (wf : WF g) (e : Step) (I : Inv g s) (J : Inv2 g s) (K3 : Inv3 g s)
    (h : step g s e = some s') : Inv3 g s' := by
  cases e with
  | level hh =>
    obtain ⟨hg, rfl⟩ := Option.ite_some_none_eq_some.mp h
    refine inv3_same_lab K3 rfl (fun _ hx => hx) rfl rfl rfl (fun hp => by rw [hg.1] at hp; cases hp) ?_ ?_ ?_ ?_
    · intro hp; rcases hp with hp | hp <;> cases hp
    · intro x hx; exact absurd hx (K3.noMaskIdle (Or.inl hg.1) x)
    · intro hp; cases hp
    · intro hp; cases hp
  | mark p =>
    obtain ⟨⟨hph, hp, hlp, _⟩, rfl⟩ := Option.ite_some_none_eq_some.mp h
    exact inv3_opn_update I K3 hp rfl rfl rfl rfl rfl hph rfl rfl (fun x hx => List.mem_cons_of_mem _ hx)
      (fun _ => List.mem_cons_self) (by intro hc; cases hc) (not_fin_of_unlabelled I (by rw [hlp]; rfl))
  | inherit p q =>
    obtain ⟨⟨hph, hp, _, hfp, _, _, hbq, _⟩, rfl⟩ := Option.ite_some_none_eq_some.mp h
    exact inv3_opn_update I K3 hp rfl rfl rfl rfl rfl hph rfl rfl (fun x hx => hx)
      (fun hc => by rw [hc] at hbq; cases hbq) (fun hc => by rw [hc] at hbq; cases hbq) hfp
  | conflict p =>
    obtain ⟨⟨hph, hp, hfp, _⟩, rfl⟩ := Option.ite_some_none_eq_some.mp h
    exact inv3_opn_update I K3 hp rfl rfl rfl rfl rfl hph rfl rfl (fun x hx => hx)
      (fun hc => by cases hc) (fun hc => by cases hc) hfp
  | finalize p =>
    obtain ⟨hg, rfl⟩ := Option.ite_some_none_eq_some.mp h
    refine inv3_same_lab K3 rfl ?_ rfl rfl rfl (fun hp => hp) ?_ K3.maskCur ?_ ?_
    · intro x hx
      rw [finOf_setFin s p x _ rfl]
      split
      · rfl
      · exact hx
    · intro hp; rw [hg.1] at hp; rcases hp with hp | hp <;> cases hp
    · intro hp; rw [hg.1] at hp; cases hp
    · intro hp; rw [hg.1] at hp; cases hp
  | endqueue =>
    obtain ⟨hg, rfl⟩ := Option.ite_some_none_eq_some.mp h
    obtain ⟨hph, hok⟩ := hg
    unfold endqueueOk at hok
    simp only [Bool.and_eq_true, List.all_eq_true] at hok
    obtain ⟨⟨ha, _⟩, hc⟩ := hok
    refine inv3_same_lab K3 rfl (fun _ hx => hx) rfl rfl rfl (fun hp => by cases hph.symm.trans hp) ?_ K3.maskCur ?_ ?_
    · intro hp; rcases hp with hp | hp <;> cases hp
    · intro _ x hx hlev
      have := ha x (List.mem_range.mpr hx)
      simpa [hlev] using this
    · intro _ x hx y hy
      have := hc x (K3.maskCur x hx)
      simp only [hx, bne_self_eq_false, Bool.false_or, List.all_eq_true] at this
      exact (Lab.unlabelled_iff.mp (this y hy)).imp_right .inl
  | seed p k =>
    obtain ⟨⟨hph, hp, hfr, hmask, rfl⟩, hs'⟩ := Option.ite_some_none_eq_some.mp h
    have hlev : g.level p = s.h := mask_level I J hmask
    have epl := labOf_eq I hp (congrArg St.lab hs'.symm)
    have epf := finOf_eq I hp (congrArg St.fin hs'.symm)
    have hps := seedOf_push (congrArg St.seeds hs'.symm)
    have e1 := labOf_ne s s' p _ (congrArg St.lab hs'.symm)
    have hpm : s'.labOf p ≠ .mask := by rw [epl]; intro hc; cases hc
    have hpi : s'.labOf p ≠ .init := by rw [epl]; intro hc; cases hc
    rw [I.seedsSz] at hps
    subst hs'
    -- the plateau of the new seed is made of mask pixels
    have hplm : ∀ x, Plateau g p x → s.labOf x = .mask := fun x hx =>
      plateau_all_mask K3 hph hfr (Plateau.of_level_eq hlev hx) hmask
    refine inv3_update K3 p e1 (finOf_ne s _ p rfl) rfl rfl (fun x hx => hx) (fun x hx => by rw [hfr] at hx; cases hx)
      (fun _ => hpm) (fun hc => absurd hc hpm) (fun _ => hpi) (fun _ => ⟨hpm, List.mem_singleton.mpr rfl⟩) ?_ ?_
    · rintro k (⟨a, _⟩ | ⟨_, _, _, a⟩)
      · rw [hmask] at a; cases a
      · exact absurd a (Nat.succ_ne_self _)
    · intro k r hr
      rcases (hps k r).mp hr with h0 | ⟨rfl, rfl⟩
      · exact .inl ⟨h0, .inr fun x hx hm => no_mask_in_seeded_plateau wf K3 hph hfr h0
          (.refl ⟨(K3.rm k r h0).1, rfl⟩) hx ⟨k, (I.seedFB k r h0).2⟩ hm⟩
      · refine .inr ⟨⟨hp, fun x hx y hy hyn => ?_⟩, fun x hx => ?_⟩
        · have hxl := hx.level
          rcases K3.maskNb hph x (hplm x hx) y hy with h' | h' | h'
          · rcases Nat.lt_or_ge s.h (g.level y) with hlt | hge
            · omega
            · exact absurd h' (K3.seedLow hph y hyn hge)
          · have := mask_level I J h'; omega
          · rw [hfr] at h'; cases h'
        · by_cases hxp : x = r
          · subst hxp; exact .inl ⟨epl, epf⟩
          · exact .inr ⟨by rw [e1 x hxp]; exact hplm x hx, hph, hlev, rfl⟩
  | flood p q =>
    obtain ⟨⟨hph, hp, _, hmask, _⟩, hs'⟩ := Option.ite_some_none_eq_some.mp h
    have epl := labOf_eq I hp (congrArg St.lab hs'.symm)
    have epf := finOf_eq I hp (congrArg St.fin hs'.symm)
    have hpm : s'.labOf p ≠ .mask := by rw [epl]; intro hc; cases hc
    have hpi : s'.labOf p ≠ .init := by rw [epl]; intro hc; cases hc
    subst hs'
    refine inv3_update K3 p (labOf_ne s _ p _ rfl) (finOf_ne s _ p rfl) rfl rfl (fun x hx => hx)
      (fun x hx => List.mem_cons_of_mem _ hx) (fun _ => hpm) (fun hc => absurd hc hpm) (fun _ => hpi)
      (fun _ => ⟨hpm, List.mem_cons_self⟩) ?_
      (fun k r h => .inl ⟨h, .inl rfl⟩)
    rintro k (⟨a, _⟩ | ⟨_, _, rfl, _⟩)
    · rw [hmask] at a; cases a
    · exact ⟨epl, epf⟩
  | closed q =>
    obtain ⟨hg, rfl⟩ := Option.ite_some_none_eq_some.mp h
    obtain ⟨hph, hok⟩ := hg
    rw [List.all_eq_true] at hok
    refine inv3_same_lab K3 rfl (fun _ hx => hx) rfl rfl rfl (fun hp => hp) ?_ K3.maskCur (K3.seedLow) ?_
    · intro hp; rw [hph] at hp; rcases hp with hp | hp <;> cases hp
    · intro _ x hx y hy
      refine (K3.maskNb hph x hx y hy).imp_right (Or.imp_right fun h' => List.mem_filter.mpr ⟨h', ?_⟩)
      -- `y = q` is excluded: `q` has the mask neighbour `x`
      rw [bne_iff_ne]; rintro rfl
      have := hok x (wf.symm x y hy)
      rw [hx] at this; cases this
  | endlevel =>
    obtain ⟨⟨_, _, hok⟩, rfl⟩ := Option.ite_some_none_eq_some.mp h
    have hnomask : ∀ x, s.labOf x ≠ .mask := fun x hx => by
      have := (endlevelOk_spec hok (labOf_lt I (by rw [hx]; intro hc; cases hc)) (Nat.le_of_eq (mask_level I J hx))).2
      rw [hx] at this; cases this
    exact ⟨fun _ => hnomask, fun x hx => absurd hx (hnomask x), (fun hp => by cases hp), (fun hp => by cases hp),
      K3.rm, fun k p hp x hx => (K3.dyn k p hp x hx).imp_right fun a => absurd a.1 (hnomask x)⟩
  | sweep =>
    obtain ⟨hg, rfl⟩ := Option.ite_some_none_eq_some.mp h
    have hnm := K3.noMaskIdle hg
    refine inv3_same_lab K3 rfl (fun _ hx => hx) rfl rfl rfl ?_ (fun _ => hnm) (fun x hx => absurd hx (hnm x)) ?_ ?_
    · intro hp; rcases hg with hg | hg <;> rw [hg] at hp <;> cases hp
    · intro hp; cases hp
    · intro hp; cases hp
  | resolve p q =>
    obtain ⟨⟨hph, hp, _, _, hlp, _, hsq, _⟩, hs'⟩ := Option.ite_some_none_eq_some.mp h
    have epl := labOf_eq I hp (congrArg St.lab hs'.symm)
    have hpm : s'.labOf p ≠ .mask := by rw [epl]; intro hc; rw [hc] at hsq; cases hsq
    have hpi : s'.labOf p ≠ .init := by rw [epl]; intro hc; rw [hc] at hsq; cases hsq
    subst hs'
    refine inv3_update K3 p (labOf_ne s _ p _ rfl) (fun _ _ => rfl) rfl rfl (fun x hx => hx) (fun x hx => hx)
      (fun _ => hpm) (fun hc => absurd hc hpm) (fun _ => hpi) (fun hc => by rw [hph] at hc; cases hc) ?_ (fun k r h => .inl ⟨h, .inl rfl⟩)
    rintro k (⟨a, _⟩ | ⟨a, _⟩) <;> rw [hlp] at a <;> cases a

theorem run_inv3 {g : Graph} (wf : WF g) {t : List Step} {s : St} (h : run g t = some s) : Inv3 g s :=
  (runFrom_induction (P := fun s => Inv g s ∧ Inv2 g s ∧ Inv3 g s)
    (fun _ _ e H hs => ⟨step_inv e H.1 hs, step_inv2 e H.1 H.2.1 hs, step_inv3 wf e H.1 H.2.1 H.2.2 hs⟩) t
    ⟨inv_init g, inv2_init g, inv3_init g⟩ h).2.2

end WS.FloodL
