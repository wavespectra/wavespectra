import WsVerif.Model.PeakXr
import WsVerif.Lemmas.Argmax
import WsVerif.Lemmas.Basic
import Mathlib.Tactic.Linarith
import Mathlib.Tactic.Ring
import Mathlib.Tactic.FieldSimp
/-!
Helper lemmas for the T-tier bridges of `Props/C02xr.lean`: the list forms emitted by `harness/translate_xr2.py` for the
`concat / diff / where / argmax` pipeline of `SpecArray._peak` are the index forms of `Model/Peak.lean`; the guarded range tests of
`scale_by_hs` and the chains of possibly-NaN operations of `gamma` are those of the twins in `Model/PeakXr.lean`.  No generated
definition is mentioned here.
-/
namespace WS
open WS.Stats WS.Peak

theorem diff1_length (l : Vec) : (XrP.diff1 l).length = l.length - 1 := by
  simp only [XrP.diff1, List.length_zipWith, List.length_tail, Nat.min_eq_right (Nat.sub_le _ _)]

theorem diff1_getElem (l : Vec) (i : Nat) (h : i < (XrP.diff1 l).length) :
    (XrP.diff1 l)[i] = getR l (i + 1) - getR l i := by
  have h1 : i + 1 < l.length := by rw [diff1_length] at h; omega
  rw [getR_eq_getElem l (i + 1) h1, getR_eq_getElem l i (Nat.lt_of_succ_lt h1)]
  simp only [XrP.diff1, List.getElem_zipWith, List.getElem_tail]

/-- with the first bin prepended, position `i` rises from its left neighbour iff it has one and exceeds it -/
theorem pad_left_rises (a : Vec) (i : Nat) :
    getR (getR a 0 :: a) i < getR (getR a 0 :: a) (i + 1) ↔ 0 < i ∧ getR a (i - 1) < getR a i := by
  cases i with
  | zero => exact ⟨fun h => absurd h (lt_irrefl _), fun h => absurd h.1 (lt_irrefl _)⟩
  | succ j => exact ⟨fun h => ⟨j.succ_pos, h⟩, fun h => h.2⟩

/-- with the last bin appended, position `i` falls to its right neighbour iff it has one and exceeds it -/
theorem pad_right_falls (a : Vec) (i : Nat) (hi : i < a.length) :
    getR (a ++ [lastD a]) (i + 1) < getR (a ++ [lastD a]) i ↔ i + 1 < a.length ∧ getR a (i + 1) < getR a i := by
  rw [getR_append_left _ _ _ hi]
  rcases Nat.lt_or_ge (i + 1) a.length with h | h
  · rw [getR_append_left _ _ _ h, and_iff_right h]
  · -- `i` is the last position: its right neighbour is the appended copy of itself
    have e : a.length = i + 1 := Nat.le_antisymm h hi
    have hl : getR (a ++ [lastD a]) (i + 1) = getR a i := by
      rw [getR_append_right _ _ _ h, lastD_eq_getR, e, Nat.sub_self]; rfl
    rw [hl, e]
    exact ⟨fun h' => absurd h' (lt_irrefl _), fun h' => absurd h'.1 (lt_irrefl _)⟩

/-- **the mask of `_peak`**: prepend the first bin / append the last one, difference, `> 0` / `< 0`, `logical_and`, `where(·, 0)`
    is `Peak.masked` (interior strict local maxima keep their value, everything else is 0) -/
theorem peak_mask_eq (a : Vec) :
    List.zipWith (fun x c => if c then x else (0 : Rat)) a
      (List.zipWith (fun p q => p && q)
        (List.map (fun t => decide (t > (0 : Rat))) (XrP.diff1 (getR a 0 :: a)))
        (List.map (fun t => decide (t < (0 : Rat))) (XrP.diff1 (a ++ [lastD a])))) = masked a := by
  apply List.ext_getElem
  · simp only [List.length_zipWith, List.length_map, diff1_length, List.length_cons, List.length_append,
      List.length_nil, Nat.zero_add, Nat.add_sub_cancel, Nat.min_self, masked, List.length_range]
  intro i h1 h2
  have hi : i < a.length := by simpa only [masked, List.length_map, List.length_range] using h2
  simp only [List.getElem_zipWith, List.getElem_map, masked, List.getElem_range, diff1_getElem, gt_iff_lt,
    ← getR_eq_getElem a i hi]
  refine if_congr ?_ rfl rfl
  -- both sides are the same four conditions, grouped differently
  simp only [isPeak, Bool.and_eq_true, decide_eq_true_eq, sub_pos, sub_neg, pad_left_rises, pad_right_falls a i hi]
  exact ⟨fun ⟨⟨h0, hl⟩, hn, hr⟩ => ⟨⟨⟨h0, hn⟩, hl⟩, hr⟩, fun ⟨⟨⟨h0, hn⟩, hl⟩, hr⟩ => ⟨⟨h0, hl⟩, hn, hr⟩⟩

/-- entry of an element-wise product (out of range on either side: `0`) -/
theorem getR_zipWith_mul (u v : Vec) (p : Nat) :
    getR (List.zipWith (fun a b => a * b) u v) p = getR u p * getR v p := by
  simp only [getR, List.getD_eq_getElem?_getD, List.getElem?_zipWith']
  cases u[p]? <;> cases v[p]? <;> simp

/-! ### `scale_by_hs`: one guarded range test -/

/-- `if lo != -inf or hi != inf: condition = condition * ((x >= lo) & (x <= hi))` on a possibly-NaN statistic -/
theorem range_step (c : Bool) (lo hi : XrP.Bound) (x : Option ℚ) :
    (if (decide (lo ≠ XrP.Bound.ninf) || decide (hi ≠ XrP.Bound.pinf)) = true then
        (c && (Option.any (fun t => XrP.geB t lo) x && Option.any (fun t => XrP.leB t hi) x)) else c) =
      (c && XrP.rangeTest lo hi x) := by
  unfold XrP.rangeTest
  by_cases h1 : lo = XrP.Bound.ninf <;> by_cases h2 : hi = XrP.Bound.pinf <;> cases x <;> simp [h1, h2]

/-- … and on `hs` (never NaN), starting from the neutral condition -/
theorem range_step_some_true (lo hi : XrP.Bound) (x : ℚ) :
    (if (decide (lo ≠ XrP.Bound.ninf) || decide (hi ≠ XrP.Bound.pinf)) = true then
        (XrP.geB x lo && XrP.leB x hi) else true) = XrP.rangeTest lo hi (some x) :=
  range_step true lo hi (some x)

/-! ### `gamma`: three chains of operations on possibly-NaN values -/

/-- `gamma` before the polynomial: the possibly-NaN peak frequency enters three times, a guarded division twice -/
theorem gamma_raw_chain (a b hs mx : ℚ) (fp : Option ℚ) :
    (Option.bind (Option.map (fun t => t * b) (Option.bind (Option.map (fun t => a * hs ^ 2 * t) (Option.map (fun t => t ^ 4) fp))
        fun x => Option.map (fun y => x * y) (Option.bind fp fun y => divOpt 1 (y ^ 5)))) fun y => divOpt mx y) =
      fp.bind fun p => (divOpt 1 (p ^ 5)).bind fun r => divOpt mx (a * hs ^ 2 * p ^ 4 * r * b) := by
  cases fp with
  | none => rfl
  | some p =>
    cases h : divOpt 1 (p ^ 5) <;> simp only [Option.map_some, Option.bind_some, Option.map_none, Option.bind_none, h]

/-- the accumulation loop of the quartic (lowest order first) on a possibly-NaN argument -/
theorem gamma_poly_chain (c0 c1 c2 c3 c4 : ℚ) (g : Option ℚ) :
    (Option.bind (Option.bind (Option.bind (Option.bind
      (Option.map (fun t => 0 + t) (Option.map (fun t => c0 * t) (Option.map (fun t => t ^ 0) g)))
      fun x => Option.map (fun y => x + y) (Option.map (fun t => c1 * t) (Option.map (fun t => t ^ 1) g)))
      fun x => Option.map (fun y => x + y) (Option.map (fun t => c2 * t) (Option.map (fun t => t ^ 2) g)))
      fun x => Option.map (fun y => x + y) (Option.map (fun t => c3 * t) (Option.map (fun t => t ^ 3) g)))
      fun x => Option.map (fun y => x + y) (Option.map (fun t => c4 * t) (Option.map (fun t => t ^ 4) g))) =
    g.map (polyEval [c0, c1, c2, c3, c4]) := by
  cases g with
  | none => rfl
  | some x =>
    simp only [Option.map_some, Option.bind_some, polyEval, List.zipIdx_cons, List.zipIdx_nil, List.map_cons, List.map_nil,
      List.sum_cons, List.sum_nil, add_zero, zero_add, add_assoc]
    rfl

/-- `gamma.where(gamma >= 1, 1)`: NaN compares false and is replaced too -/
theorem where_ge_one (g : Option ℚ) :
    (if Option.any (fun t => decide (t ≥ (1 : ℚ))) g then g else some 1) =
      match g with
      | some x => if 1 ≤ x then some x else some 1
      | none => some 1 := by
  cases g with
  | none => rfl
  | some x => simp only [Option.any_some, ge_iff_le, decide_eq_true_eq]

theorem maxD_mono_init (l : Vec) (a b : ℚ) (h : a ≤ b) : maxD l a ≤ maxD l b :=
  (maxD_le_iff l a _).mpr ⟨h.trans (le_maxD l b).1, (le_maxD l b).2⟩

/-- `maxV` of a non-negative array is the model's `maxD · 0` -/
theorem maxV_eq_maxD (S : Vec) (h0 : ∀ x ∈ S, 0 ≤ x) : XrP.maxV S = maxD S 0 := by
  cases S with
  | nil => rfl
  | cons x xs =>
    show maxD xs x = maxD xs (maxR 0 x)
    rw [maxR_eq_max, max_eq_right (h0 x List.mem_cons_self)]

end WS
