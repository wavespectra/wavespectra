import WsVerif.Model.Select
import WsVerif.Model.SelectFixed
import WsVerif.Lemmas.Sums
import Mathlib.Tactic.Ring
import Mathlib.Tactic.Linarith
import Mathlib.Algebra.Order.Field.Rat
import Mathlib.Algebra.BigOperators.Group.List.Basic
import Mathlib.Algebra.Order.BigOperators.Group.List
/-! Lemmas for C14 (station selection) about `Model/Select.lean`: `x % 360` and whole turns, the first argmin, the
    square-root oracle, the dependence of the distances on residues only, the loop of `sel_nearest`, `array.min()/max()`,
    `np.where`, the kept neighbours `nearer` and the collection loop of `sel_idw`. -/
namespace WS.Select
open WS

/-- the translator renders a Python Boolean expression `e` as `if e then true else false` -/
theorem if_true_false (b : Bool) : (if b then true else false) = b := by cases b <;> rfl

/-! ### `x % 360` -/

theorem mod360_def (x : ℚ) : mod360 x = x - 360 * ((x / 360).floor : ℚ) := rfl

theorem pos360 : (0 : ℚ) < 360 := by norm_num

theorem mod360_nonneg (x : ℚ) : 0 ≤ mod360 x := pmod_nonneg x pos360

theorem mod360_lt (x : ℚ) : mod360 x < 360 := pmod_lt x pos360

theorem mod360_add_int (x : ℚ) (k : ℤ) : mod360 (x + 360 * k) = mod360 x := pmod_add_mul_int x 360 k pos360.ne'

theorem mod360_eq_add_int (x : ℚ) : ∃ k : ℤ, mod360 x = x + 360 * k :=
  ⟨-(x / 360).floor, by rw [mod360_def, Int.cast_neg, mul_neg, sub_eq_add_neg]⟩

theorem to180_eq_add_int (x : ℚ) : ∃ k : ℤ, to180 x = x + 360 * k := by
  unfold to180
  split
  · exact ⟨-1, by rw [Int.cast_neg, Int.cast_one, mul_neg, mul_one, sub_eq_add_neg]⟩
  · exact ⟨0, by rw [Int.cast_zero, mul_zero, add_zero]⟩

theorem mod360_of_turns {x y : ℚ} (h : ∃ k : ℤ, y = x + 360 * k) : mod360 y = mod360 x := by
  obtain ⟨k, rfl⟩ := h
  exact mod360_add_int x k

theorem mod360_idem (x : ℚ) : mod360 (mod360 x) = mod360 x := mod360_of_turns (mod360_eq_add_int x)

theorem mod360_to180 (x : ℚ) : mod360 (to180 x) = mod360 x := mod360_of_turns (to180_eq_add_int x)

theorem mod360_le_self {y : ℚ} (h : 0 ≤ y) : mod360 y ≤ y :=
  sub_le_self _ (mul_nonneg pos360.le
    (Int.cast_nonneg (Rat.le_floor_iff.mpr (by rw [Int.cast_zero]; exact div_nonneg h pos360.le))))

theorem mod360_of_range {x : ℚ} (h0 : 0 ≤ x) (h1 : x < 360) : mod360 x = x := pmod_eq_self h0 h1

theorem argminFirst_cons_cons (x y : ℚ) (ys : Vec) : argminFirst (x :: y :: ys) =
    if (y :: ys).getD (argminFirst (y :: ys)) 0 < x then argminFirst (y :: ys) + 1 else 0 := rfl

theorem argminFirst_lt : ∀ (l : Vec), l ≠ [] → argminFirst l < l.length
  | [], h => absurd rfl h
  | [_], _ => Nat.zero_lt_one
  | x :: y :: ys, _ => by
    rw [argminFirst_cons_cons]
    split
    · exact Nat.succ_lt_succ (argminFirst_lt (y :: ys) (List.cons_ne_nil _ _))
    · exact Nat.succ_pos _

theorem argminFirst_le : ∀ (l : Vec) (k : Nat), k < l.length → l.getD (argminFirst l) 0 ≤ l.getD k 0
  | [x], 0, _ => le_refl x
  | x :: y :: ys, k, h => by
    have ih := argminFirst_le (y :: ys)
    rw [argminFirst_cons_cons]
    split
    · next hc =>
      cases k with
      | zero => exact le_of_lt hc
      | succ k => exact ih k (Nat.lt_of_succ_lt_succ h)
    · next hc =>
      cases k with
      | zero => exact le_refl x
      | succ k => exact le_trans (not_lt.mp hc) (ih k (Nat.lt_of_succ_lt_succ h))

/-- `sq` is an exact square root on the radicands `S` -/
def SqrtOn (sq : ℚ → ℚ) (S : List ℚ) : Prop := ∀ x ∈ S, 0 ≤ sq x ∧ sq x * sq x = x

theorem sqrt_le_iff {sq : ℚ → ℚ} {x y : ℚ} (hx : 0 ≤ sq x ∧ sq x * sq x = x) (hy : 0 ≤ sq y ∧ sq y * sq y = y) :
    sq x ≤ sq y ↔ x ≤ y := by
  rw [mul_self_le_mul_self_iff hx.1 hy.1, hx.2, hy.2]

/-! ### radicand rows, residues -/

/-- the radicands of `Coordinates.distance` for every query (rows) and station (columns) -/
def radRows (ld : ℚ → ℚ → ℚ) (dl dla ql qla : Vec) : List Vec :=
  List.zipWith (fun qlon qlat => distSqRow ld dl dla qlon qlat) (lonsQ ql dl) qla

theorem distRows_eq (sq : ℚ → ℚ) (ld : ℚ → ℚ → ℚ) (dl dla ql qla : Vec) :
    distRows sq ld dl dla ql qla = (radRows ld dl dla ql qla).map (fun r => r.map sq) := by
  unfold distRows radRows distRow
  rw [List.map_zipWith]

/-- radicand row from residues -/
def distSqRowR (ld : ℚ → ℚ → ℚ) (dr dla : Vec) (qr qlat : ℚ) : Vec :=
  List.zipWith (fun a b => (ld a qr) ^ 2 + (b - qlat) ^ 2) dr dla

theorem distSqRow_residues (ld : ℚ → ℚ → ℚ) (dl dla : Vec) (qlon qlat : ℚ) :
    distSqRow ld dl dla qlon qlat = distSqRowR ld (dl.map mod360) dla (mod360 qlon) qlat := by
  unfold distSqRow distSqRowR distSq
  rw [List.zipWith_map_left]

theorem swapConv_residues (a : Vec) : (swapConv a).map mod360 = a.map mod360 := by
  unfold swapConv
  split
  · simp [List.map_map, Function.comp_def, mod360_idem]
  · split
    · simp [List.map_map, Function.comp_def, mod360_to180]
    · rfl

/-- `Coordinates.lons` never changes a longitude modulo 360 -/
theorem lonsQ_residues (ql dl : Vec) : (lonsQ ql dl).map mod360 = ql.map mod360 := by
  unfold lonsQ
  split
  · rfl
  · exact swapConv_residues ql

theorem radRows_residues (ld : ℚ → ℚ → ℚ) (dl dla ql qla : Vec) :
    radRows ld dl dla ql qla =
      List.zipWith (fun qr qlat => distSqRowR ld (dl.map mod360) dla qr qlat) (ql.map mod360) qla := by
  unfold radRows
  rw [← lonsQ_residues ql dl, List.zipWith_map_left]
  congr 1
  funext a b
  exact distSqRow_residues ld dl dla a b

theorem validate_residues (dl dl' ql ql' qla : Vec) (hd : dl.map mod360 = dl'.map mod360)
    (hq : ql.map mod360 = ql'.map mod360) : validate dl ql qla = validate dl' ql' qla := by
  have h1 := congrArg List.length hd
  have h2 := congrArg List.length hq
  rw [List.length_map, List.length_map] at h1 h2
  simp only [validate, ← List.length_eq_zero_iff, h1, h2]

/-- the distances depend on the longitudes only through their residues -/
theorem distRows_residues (sq : ℚ → ℚ) (ld : ℚ → ℚ → ℚ) {dl dl' ql ql' : Vec} (dla qla : Vec)
    (hd : dl.map mod360 = dl'.map mod360) (hq : ql.map mod360 = ql'.map mod360) :
    distRows sq ld dl dla ql qla = distRows sq ld dl' dla ql' qla := by
  rw [distRows_eq, distRows_eq, radRows_residues, radRows_residues ld dl', hd, hq]

theorem bind_eq_ok {ε α β : Type} {x : Except ε α} {f : α → Except ε β} {b : β} :
    x >>= f = .ok b ↔ ∃ a, x = .ok a ∧ f a = .ok b := by
  cases x with
  | error e => exact ⟨nofun, fun ⟨_, h, _⟩ => nomatch h⟩
  | ok a => exact ⟨fun h => ⟨a, rfl, h⟩, fun ⟨_, h, h'⟩ => Except.ok.inj h ▸ h'⟩

/-! ### the loop of `sel_nearest` -/

/-- one iteration of the loop of `sel_nearest`, by what it does to `station_ids` -/
theorem nearestLoop_cons (tol : ℚ) (unique exact : Bool) (missing : Missing) (d : Vec) (rest : List Vec) (acc : List Nat) :
    nearestLoop tol unique exact missing (d :: rest) acc =
      if d.getD (argminFirst d) 0 > tol ∧ missing = .raise then .error .assertionError
      else if d.getD (argminFirst d) 0 > tol ∧ missing = .ignore then nearestLoop tol unique exact missing rest acc
      else if exact = true ∧ d.getD (argminFirst d) 0 > 0 then .error .assertionError
      else if unique = true ∧ argminFirst d ∈ acc then nearestLoop tol unique exact missing rest acc
      else nearestLoop tol unique exact missing rest (acc ++ [argminFirst d]) := by
  rw [nearestLoop]

theorem nearestLoop_raise (tol : ℚ) (exact : Bool) :
    ∀ (rows : List Vec) (acc ids : List Nat),
      nearestLoop tol false exact .raise rows acc = .ok ids →
      ids = acc ++ rows.map argminFirst ∧
        ∀ d ∈ rows, d.getD (argminFirst d) 0 ≤ tol ∧ (exact = true → d.getD (argminFirst d) 0 ≤ 0)
  | [], acc, ids, h => by
    cases h
    exact ⟨(List.append_nil _).symm, nofun⟩
  | d :: rest, acc, ids, h => by
    rw [nearestLoop_cons] at h
    by_cases h1 : d.getD (argminFirst d) 0 > tol
    · rw [if_pos ⟨h1, rfl⟩] at h; cases h
    · rw [if_neg fun c => h1 c.1, if_neg fun c => h1 c.1] at h
      by_cases h2 : exact = true ∧ d.getD (argminFirst d) 0 > 0
      · rw [if_pos h2] at h; cases h
      · rw [if_neg h2, if_neg fun c => Bool.false_ne_true c.1] at h
        obtain ⟨e, hr⟩ := nearestLoop_raise tol exact rest _ ids h
        rw [List.append_assoc] at e
        exact ⟨e, List.forall_mem_cons.mpr ⟨⟨not_lt.mp h1, fun he => not_lt.mp fun c => h2 ⟨he, c⟩⟩, hr⟩⟩

theorem nearestLoop_mem (tol : ℚ) (unique exact : Bool) (missing : Missing) (hm : missing ≠ .other) :
    ∀ (rows : List Vec) (acc ids : List Nat),
      nearestLoop tol unique exact missing rows acc = .ok ids →
      ∀ i ∈ ids, i ∈ acc ∨ ∃ d ∈ rows, i = argminFirst d ∧ d.getD i 0 ≤ tol ∧ (exact = true → d.getD i 0 ≤ 0)
  | [], acc, ids, h => by
    cases h
    exact fun i hi => Or.inl hi
  | d :: rest, acc, ids, h => by
    rw [nearestLoop_cons] at h
    -- a row is skipped (`acc` unchanged) or, when within the tolerance, contributes its first nearest station
    intro i hi
    have skip := fun h' => (nearestLoop_mem tol unique exact missing hm rest acc ids h' i hi).imp_right
      (List.exists_mem_cons_of_exists (a := d))
    by_cases h1 : d.getD (argminFirst d) 0 > tol
    · cases missing with
      | raise => rw [if_pos ⟨h1, rfl⟩] at h; cases h
      | ignore => rw [if_neg (by simp), if_pos ⟨h1, rfl⟩] at h; exact skip h
      | other => exact absurd rfl hm
    · rw [if_neg fun c => h1 c.1, if_neg fun c => h1 c.1] at h
      split at h
      · cases h
      · next h2 =>
        split at h
        · exact skip h
        · rcases nearestLoop_mem tol unique exact missing hm rest _ ids h i hi with h0 | h0
          · rcases List.mem_append.mp h0 with h0 | h0
            · exact Or.inl h0
            · obtain rfl := List.mem_singleton.mp h0
              exact Or.inr ⟨d, List.mem_cons_self, rfl, not_lt.mp h1, fun he => not_lt.mp fun c => h2 ⟨he, c⟩⟩
          · exact Or.inr (List.exists_mem_cons_of_exists h0)

theorem nearestLoop_beyond (tol : ℚ) (unique exact : Bool) :
    ∀ (rows : List Vec) (acc : List Nat), (∃ d ∈ rows, tol < d.getD (argminFirst d) 0) →
      nearestLoop tol unique exact .raise rows acc = .error .assertionError
  | d :: rest, acc, h => by
    rw [nearestLoop_cons]
    by_cases h1 : d.getD (argminFirst d) 0 > tol
    · rw [if_pos ⟨h1, rfl⟩]
    · have hrest : ∃ d' ∈ rest, tol < d'.getD (argminFirst d') 0 := by
        obtain ⟨d', hd', hlt⟩ := h
        rcases List.mem_cons.mp hd' with rfl | hr
        · exact absurd hlt h1
        · exact ⟨d', hr, hlt⟩
      rw [if_neg fun c => h1 c.1, if_neg fun c => h1 c.1]
      split
      · rfl
      · split <;> exact nearestLoop_beyond tol unique exact rest _ hrest

theorem getD_map_of_lt (f : ℚ → ℚ) (l : Vec) (i : Nat) (h : i < l.length) :
    (l.map f).getD i 0 = f (l.getD i 0) := getR_map_of_lt l f 0 i h

theorem getD_mem_of_lt (l : Vec) (i : Nat) (h : i < l.length) : l.getD i 0 ∈ l := getR_mem l i h

theorem getD_of_getElem? {d : Vec} {i : Nat} {x : ℚ} (h : d[i]? = some x) : i < d.length ∧ d.getD i 0 = x :=
  ⟨(List.getElem?_eq_some_iff.mp h).1, by rw [List.getD_eq_getElem?_getD, h]; rfl⟩

/-! ### `array.min()` / `array.max()` -/

theorem le_arrMin_cons (y : ℚ) (ys : Vec) (b : ℚ) : b ≤ arrMin (y :: ys) ↔ ∀ x ∈ y :: ys, b ≤ x :=
  (le_minD_iff ys y b).trans List.forall_mem_cons.symm

theorem arrMax_cons_le (y : ℚ) (ys : Vec) (b : ℚ) : arrMax (y :: ys) ≤ b ↔ ∀ x ∈ y :: ys, x ≤ b :=
  (maxD_le_iff ys y b).trans (List.forall_mem_cons (p := (· ≤ b))).symm

theorem arrMin_le : ∀ {l : Vec} {x : ℚ}, x ∈ l → arrMin l ≤ x
  | y :: ys, x, h => (le_arrMin_cons y ys _).mp le_rfl x h

theorem le_arrMax : ∀ {l : Vec} {x : ℚ}, x ∈ l → x ≤ arrMax l
  | y :: ys, x, h => (arrMax_cons_le y ys _).mp le_rfl x h

theorem le_arrMin : ∀ {l : Vec} {b : ℚ}, b ≤ 0 → (∀ x ∈ l, b ≤ x) → b ≤ arrMin l
  | [], _, hb, _ => hb
  | y :: ys, _, _, h => (le_arrMin_cons y ys _).mpr h

theorem arrMax_le : ∀ {l : Vec} {b : ℚ}, 0 ≤ b → (∀ x ∈ l, x ≤ b) → arrMax l ≤ b
  | [], _, hb, _ => hb
  | y :: ys, _, _, h => (arrMax_cons_le y ys _).mpr h

/-! ### `np.where` -/

theorem mem_whereIdx (dl dla : Vec) (p : ℚ → ℚ → Bool) (i : Nat) :
    i ∈ whereIdx dl dla p ↔ ∃ lon lat, (dl.zip dla)[i]? = some (lon, lat) ∧ p lon lat = true := by
  unfold whereIdx
  constructor
  · intro h
    obtain ⟨⟨⟨lon, lat⟩, j⟩, ht, rfl⟩ := List.mem_map.mp h
    obtain ⟨hz, hp⟩ := List.mem_filter.mp ht
    exact ⟨lon, lat, List.mem_zipIdx_iff_getElem?.mp hz, hp⟩
  · rintro ⟨lon, lat, hz, hp⟩
    exact List.mem_map.mpr ⟨((lon, lat), i), List.mem_filter.mpr ⟨List.mem_zipIdx_iff_getElem?.mpr hz, hp⟩, rfl⟩

theorem whereIdx_map_left (c : ℚ → ℚ) (dl dla : Vec) (p : ℚ → ℚ → Bool) :
    whereIdx (dl.map c) dla p = whereIdx dl dla (fun lon lat => p (c lon) lat) := by
  unfold whereIdx
  rw [List.zip_map_left, List.zipIdx_map, List.filter_map, List.map_map]
  rfl

/-- membership in the repaired box test ⇔ some representative of the longitude lies in `[lo, hi]` -/
theorem mod360_sub_le_iff (x lo hi : ℚ) :
    mod360 (x - lo) ≤ hi - lo ↔ ∃ k : ℤ, lo ≤ x + 360 * k ∧ x + 360 * k ≤ hi := by
  constructor
  · intro h
    obtain ⟨k, hk⟩ := mod360_eq_add_int (x - lo)
    have h0 := mod360_nonneg (x - lo)
    rw [hk, ← add_sub_right_comm] at h h0
    exact ⟨k, sub_nonneg.mp h0, (sub_le_sub_iff_right lo).mp h⟩
  · rintro ⟨k, h1, h2⟩
    have := mod360_le_self (sub_nonneg.mpr h1)
    rw [add_sub_right_comm, mod360_add_int, ← add_sub_right_comm] at this
    exact this.trans (sub_le_sub_right h2 lo)

/-- two representatives of a longitude inside one window of 360° coincide -/
theorem turns_eq_zero {w x : ℚ} {k : ℤ} (hx : w ≤ x ∧ x < w + 360) (h1 : w ≤ x + 360 * k) (h2 : x + 360 * k < w + 360) :
    k = 0 := by
  -- both representatives, taken relative to `w`, are their own residue, and the two residues agree
  have e := mod360_of_range (sub_nonneg.mpr h1) (sub_lt_iff_lt_add'.mpr h2)
  rw [add_sub_right_comm, mod360_add_int, mod360_of_range (sub_nonneg.mpr hx.1) (sub_lt_iff_lt_add'.mpr hx.2)] at e
  exact Int.cast_eq_zero.mp ((mul_eq_zero.mp (left_eq_add.mp e)).resolve_left pos360.ne')

/-! ### `nearer`, `collect` -/

theorem pyTake_eq_take {α} (xs : List α) (ms : Option Int) : ∃ n, pyTake xs ms = xs.take n := by
  cases ms with
  | none => exact ⟨xs.length, by simp [pyTake]⟩
  | some m =>
    by_cases hm : m ≥ 0
    · exact ⟨m.toNat, by simp [pyTake, hm]⟩
    · exact ⟨xs.length - (-m).toNat, by simp only [pyTake, hm, if_false]⟩

theorem pyTake_natCast {α} (xs : List α) (m : Nat) : pyTake xs (some (m : Int)) = xs.take m := by
  simp [pyTake]

/-- the sorted in-range list from which `nearer` takes its first `max_sites` entries -/
def inRangeSorted (d : Vec) (tol : ℚ) : List (ℚ × Nat) :=
  (d.zipIdx.mergeSort fun a b => decide (a.1 ≤ b.1)).filter fun p => decide (p.1 ≤ tol)

theorem nearer_eq (d : Vec) (tol : ℚ) (ms : Option Int) : nearer d tol ms = pyTake (inRangeSorted d tol) ms := rfl

theorem inRangeSorted_mem {d : Vec} {tol : ℚ} {p : ℚ × Nat} :
    p ∈ inRangeSorted d tol ↔ d[p.2]? = some p.1 ∧ p.1 ≤ tol := by
  unfold inRangeSorted
  rw [List.mem_filter, List.mem_mergeSort, List.mem_zipIdx_iff_getElem?]
  simp

theorem inRangeSorted_sorted (d : Vec) (tol : ℚ) : (inRangeSorted d tol).Pairwise (fun a b => a.1 ≤ b.1) := by
  unfold inRangeSorted
  apply List.Pairwise.filter
  have := List.pairwise_mergeSort (le := fun (a b : ℚ × Nat) => decide (a.1 ≤ b.1))
    (fun a b c h1 h2 => by simp only [decide_eq_true_eq] at *; exact le_trans h1 h2)
    (fun a b => by
      simp only [Bool.or_eq_true, decide_eq_true_eq]
      exact le_total a.1 b.1) d.zipIdx
  exact this.imp (fun h => by simpa using h)

theorem inRangeSorted_length (d : Vec) (tol : ℚ) :
    (inRangeSorted d tol).length = (d.filter fun x => decide (x ≤ tol)).length := by
  unfold inRangeSorted
  rw [((List.mergeSort_perm d.zipIdx _).filter _).length_eq]
  conv_rhs => rw [← List.zipIdx_map_fst 0 d, List.filter_map, List.length_map]
  rfl

/-- two stations: the stable sort is one comparison.  For evaluating small instances: `List.mergeSort` does not
    reduce in the kernel. -/
theorem nearer_pair (a b tol : ℚ) (ms : Option Int) : nearer [a, b] tol ms =
    pyTake ((if a ≤ b then [(a, 0), (b, 1)] else [(b, 1), (a, 0)]).filter fun p => decide (p.1 ≤ tol)) ms := by
  simp [nearer, List.zipIdx, List.mergeSort, List.MergeSort.Internal.splitInTwo, List.merge, apply_ite]

theorem nearer_sublist (d : Vec) (tol : ℚ) (ms : Option Int) : (nearer d tol ms).Sublist (inRangeSorted d tol) := by
  obtain ⟨n, hn⟩ := pyTake_eq_take (inRangeSorted d tol) ms
  rw [nearer_eq, hn]
  exact List.take_sublist _ _

theorem nearer_subset {d : Vec} {tol : ℚ} {ms : Option Int} {p : ℚ × Nat} (h : p ∈ nearer d tol ms) :
    p ∈ inRangeSorted d tol := (nearer_sublist d tol ms).subset h

theorem inRangeSorted_getD {d : Vec} {tol : ℚ} {p : ℚ × Nat} (h : p ∈ inRangeSorted d tol) :
    p.2 < d.length ∧ d.getD p.2 0 = p.1 := getD_of_getElem? (inRangeSorted_mem.mp h).1

theorem inRangeSorted_nonneg {d : Vec} (hd : ∀ x ∈ d, 0 ≤ x) (tol : ℚ) : ∀ p ∈ inRangeSorted d tol, 0 ≤ p.1 := by
  intro p hp
  obtain ⟨hi, hx⟩ := inRangeSorted_getD hp
  exact hx ▸ hd _ (getD_mem_of_lt d p.2 hi)

theorem nearer_mem {d : Vec} {tol : ℚ} {ms : Option Int} {p : ℚ × Nat} (h : p ∈ nearer d tol ms) :
    d[p.2]? = some p.1 ∧ p.1 ≤ tol := inRangeSorted_mem.mp (nearer_subset h)

theorem nearer_sorted (d : Vec) (tol : ℚ) (ms : Option Int) : (nearer d tol ms).Pairwise (fun a b => a.1 ≤ b.1) :=
  (inRangeSorted_sorted d tol).sublist (nearer_sublist d tol ms)

theorem nearer_length_le (d : Vec) (tol : ℚ) (m : Nat) : (nearer d tol (some (m : Int))).length ≤ m := by
  rw [nearer_eq, pyTake_natCast]
  exact List.length_take_le _ _

theorem nearer_length_le_inrange (d : Vec) (tol : ℚ) (ms : Option Int) :
    (nearer d tol ms).length ≤ (d.filter fun x => decide (x ≤ tol)).length :=
  inRangeSorted_length d tol ▸ (nearer_sublist d tol ms).length_le

theorem collect_pos : ∀ (l : List (ℚ × Nat)), (∀ p ∈ l, p.1 ≠ 0) →
    collect l = l.map fun p => (p.2, 1 / p.1, p.1)
  | [], _ => rfl
  | (d, i) :: rest, h => by
    have hd : d ≠ 0 := h (d, i) List.mem_cons_self
    simp only [collect, hd, if_false, List.map_cons]
    rw [collect_pos rest fun p hp => h p (List.mem_cons_of_mem _ hp)]

theorem sorted_nonneg_cases (l : List (ℚ × Nat)) (hs : l.Pairwise (fun a b => a.1 ≤ b.1)) (h0 : ∀ p ∈ l, 0 ≤ p.1) :
    (∃ i rest, l = (0, i) :: rest) ∨ (∀ p ∈ l, 0 < p.1) := by
  cases l with
  | nil => right; simp
  | cons p rest =>
    by_cases hp : p.1 = 0
    · left; exact ⟨p.2, rest, by rw [← hp]⟩
    · right
      have hpos : 0 < p.1 := lt_of_le_of_ne (h0 p List.mem_cons_self) (Ne.symm hp)
      intro q hq
      rcases List.mem_cons.mp hq with rfl | hq'
      · exact hpos
      · exact lt_of_lt_of_le hpos ((List.pairwise_cons.mp hs).1 q hq')

end WS.Select
