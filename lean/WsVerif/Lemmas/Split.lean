import WsVerif.Model.Split
import WsVerif.Lemmas.Moments
import WsVerif.Lemmas.Perm
import Mathlib.Tactic.Ring
import Mathlib.Algebra.Order.Field.Rat
import Mathlib.Algebra.BigOperators.Group.List.Basic
/-! Helper lemmas for the rule-based splits (C09): entries of masked / column-picked matrices, the index
    sort, the search of `_interp_freq`, what `split` and `bbox` return when they succeed, rectangles, and the
    list facts behind "the parts add up". -/
namespace WS.Split
open WS

/-! ### entries -/

theorem getR_nil (j : Nat) : getR [] j = 0 := rfl

theorem get2_of_le (e : Mat) (i j : Nat) (h : e.length ≤ i) : get2 e i j = 0 := by
  rw [get2, List.getD_eq_getElem?_getD, List.getElem?_eq_none h]
  rfl

theorem getR_maskRow (p : Rat → Bool) (ck row : Vec) (j : Nat) (hj : j < ck.length) :
    getR (maskRow p ck row) j = if p (getR ck j) then getR row j else 0 := by
  simp only [getR, maskRow, List.getD_eq_getElem?_getD, List.getElem?_zipWith, List.getElem?_eq_getElem hj]
  cases row[j]? <;> simp

theorem getD_whereM (p : Rat → Rat → Bool) (rk ck : Vec) (e : Mat) (i : Nat) (hi : i < rk.length) :
    (whereM p rk ck e).getD i [] = maskRow (p (getR rk i)) ck (e.getD i []) := by
  simp only [getR, whereM, List.getD_eq_getElem?_getD, List.getElem?_zipWith, List.getElem?_eq_getElem hi]
  cases e[i]? <;> simp [maskRow]

/-- entry of `where(mask).fillna(0)` -/
theorem get2_whereM (p : Rat → Rat → Bool) (rk ck : Vec) (e : Mat) (i j : Nat)
    (hi : i < rk.length) (hj : j < ck.length) :
    get2 (whereM p rk ck e) i j = if p (getR rk i) (getR ck j) then get2 e i j else 0 := by
  rw [get2, getD_whereM p rk ck e i hi, getR_maskRow _ _ _ j hj, get2]

theorem mask_compl (m : Bool) (x : Rat) :
    (if m then x else 0) + (if !m then x else 0) = x ∧
    ((if m then x else 0) = 0 ∨ (if !m then x else 0) = 0) := by
  cases m <;> simp

theorem whereM_compl (p : Rat → Rat → Bool) (rk ck : Vec) (e : Mat) (i j : Nat)
    (hi : i < rk.length) (hj : j < ck.length) :
    get2 (whereM p rk ck e) i j + get2 (whereM (fun a t => !p a t) rk ck e) i j = get2 e i j ∧
    (get2 (whereM p rk ck e) i j = 0 ∨ get2 (whereM (fun a t => !p a t) rk ck e) i j = 0) := by
  rw [get2_whereM _ _ _ _ i j hi hj, get2_whereM _ _ _ _ i j hi hj]
  exact mask_compl _ _

theorem getR_pickV (σ : List Nat) (v : Vec) (j : Nat) (hj : j < σ.length) :
    getR (pickV σ v) j = getR v (σ.getD j 0) :=
  getR_reorder σ v j hj

theorem pickV_length (σ : List Nat) (v : Vec) : (pickV σ v).length = σ.length := List.length_map _

theorem get2_pickCols (σ : List Nat) (e : Mat) (i j : Nat) (hj : j < σ.length) :
    get2 (pickCols σ e) i j = get2 e i (σ.getD j 0) := by
  simp only [get2, pickCols, List.getD_eq_getElem?_getD, List.getElem?_map]
  cases e[i]? with
  | none => rfl
  | some r => exact getR_pickV σ r j hj

theorem getR_scaleV' (k : Rat) (a : Vec) (i : Nat) : getR (scaleV k a) i = k * getR a i :=
  getR_scaleV k a i

theorem get2_scaleM (k : Rat) (e : Mat) (i j : Nat) : get2 (scaleM k e) i j = k * get2 e i j := by
  simp only [get2, scaleM, List.getD_eq_getElem?_getD, List.getElem?_map]
  cases e[i]? with
  | none => exact (mul_zero k).symm
  | some r => exact getR_scaleV k r j

/-! ### the index sort -/

theorem insIdx_perm (d : Vec) (a : Nat) (l : List Nat) : (insIdx d a l).Perm (a :: l) := by
  induction l with
  | nil => simp [insIdx]
  | cons b t ih =>
    unfold insIdx
    by_cases h : getR d a ≤ getR d b
    · simp [h]
    · simp only [h, if_false]
      exact (List.Perm.cons b ih).trans (List.Perm.swap a b t)

theorem foldr_insIdx_perm (d : Vec) (l : List Nat) : (l.foldr (insIdx d) []).Perm l := by
  induction l with
  | nil => simp
  | cons a t ih =>
    simp only [List.foldr_cons]
    exact (insIdx_perm d a _).trans (List.Perm.cons a ih)

theorem sortIdx_perm (d : Vec) : (sortIdx d).Perm (List.range d.length) :=
  foldr_insIdx_perm d _

theorem sortIdx_length (d : Vec) : (sortIdx d).length = d.length := by
  rw [(sortIdx_perm d).length_eq]; simp

theorem mem_sortIdx (d : Vec) (j : Nat) : j ∈ sortIdx d ↔ j < d.length := by
  rw [(sortIdx_perm d).mem_iff]; simp

theorem sortIdx_nodup (d : Vec) : (sortIdx d).Nodup :=
  (sortIdx_perm d).nodup_iff.mpr List.nodup_range

theorem insIdx_sorted (d : Vec) (a : Nat) (l : List Nat)
    (h : l.Pairwise (fun x y => getR d x ≤ getR d y)) :
    (insIdx d a l).Pairwise (fun x y => getR d x ≤ getR d y) := by
  induction l with
  | nil => simp [insIdx]
  | cons b t ih =>
    unfold insIdx
    rw [List.pairwise_cons] at h
    by_cases hab : getR d a ≤ getR d b
    · simp only [hab, if_true]
      refine List.pairwise_cons.mpr ⟨?_, List.pairwise_cons.mpr h⟩
      intro x hx
      rcases List.mem_cons.mp hx with rfl | hx
      · exact hab
      · exact le_trans hab (h.1 x hx)
    · simp only [hab, if_false]
      refine List.pairwise_cons.mpr ⟨?_, ih h.2⟩
      intro x hx
      rcases List.mem_cons.mp ((insIdx_perm d a t).mem_iff.mp hx) with rfl | hx
      · exact le_of_lt (not_le.mp hab)
      · exact h.1 x hx

theorem foldr_insIdx_sorted (d : Vec) (l : List Nat) :
    (l.foldr (insIdx d) []).Pairwise (fun x y => getR d x ≤ getR d y) := by
  induction l with
  | nil => simp
  | cons a t ih => simp only [List.foldr_cons]; exact insIdx_sorted d a _ ih

theorem sortIdx_sorted (d : Vec) : (pickV (sortIdx d) d).Pairwise (· ≤ ·) := by
  unfold pickV
  rw [List.pairwise_map]
  exact foldr_insIdx_sorted d _

theorem pickV_sortIdx_perm (d : Vec) : (pickV (sortIdx d) d).Perm d :=
  reorder_perm (sortIdx_perm d) d rfl

/-! ### `searchsorted` -/

theorem searchsorted_eq_findIdx (f : Vec) (x : Rat) :
    searchsorted f x = f.findIdx fun y => !decide (y < x) := by
  rw [searchsorted, List.takeWhile_eq_take_findIdx_not, List.length_take,
    Nat.min_eq_left List.findIdx_le_length]

theorem searchsorted_le (f : Vec) (x : Rat) : searchsorted f x ≤ f.length :=
  (List.takeWhile_sublist _).length_le

theorem lt_of_lt_searchsorted (f : Vec) (x : Rat) (i : Nat) (h : i < searchsorted f x) : getR f i < x := by
  rw [searchsorted_eq_findIdx] at h
  rw [getR_eq_getElem f i (lt_of_lt_of_le h List.findIdx_le_length)]
  simpa using List.not_of_lt_findIdx h

theorem ge_at_searchsorted (f : Vec) (x : Rat) (h : searchsorted f x < f.length) :
    x ≤ getR f (searchsorted f x) := by
  rw [getR_eq_getElem f _ h]
  simp only [searchsorted_eq_findIdx] at h ⊢
  simpa using List.findIdx_getElem (w := h)

theorem getR_lerpRow (f0 f1 x : Rat) (r0 r1 : Vec) (j : Nat) (h0 : j < r0.length) (h1 : j < r1.length) :
    getR (lerpRow f0 f1 x r0 r1) j = (getR r0 j * (f1 - x) + getR r1 j * (x - f0)) / (f1 - f0) := by
  simp only [lerpRow, getR, List.getD_eq_getElem?_getD, List.getElem?_zipWith, List.getElem?_eq_getElem h0,
    List.getElem?_eq_getElem h1, Option.getD_some]

/-- the interpolation formula of `_interp_freq` is the convex combination with weight
    `lam = (f1 - x)/(f1 - f0)` on the lower row -/
theorem lerp_convex (f0 f1 x a b : Rat) (h : f0 < f1) :
    (a * (f1 - x) + b * (x - f0)) / (f1 - f0) =
      ((f1 - x) / (f1 - f0)) * a + (1 - (f1 - x) / (f1 - f0)) * b := by
  rw [one_sub_div (sub_pos.mpr h).ne', sub_sub_sub_cancel_left, add_div, mul_div_assoc, mul_div_assoc,
    mul_comm a, mul_comm b]

/-! ### extremes -/

theorem vmax_mem (f : Vec) (h : f ≠ []) : vmax f ∈ f := by
  cases f with
  | nil => exact absurd rfl h
  | cons a t =>
    show maxD t a ∈ a :: t
    rcases maxD_mem t a with h | h
    · rw [h]; exact List.mem_cons_self
    · exact List.mem_cons_of_mem _ h

/-! ### what the model's functions return -/

theorem map_eq_ok {ε α β : Type} {g : α → β} {x : Except ε α} {y : β} (h : x.map g = .ok y) :
    ∃ r, x = .ok r ∧ g r = y := by
  cases x with
  | error er => cases h
  | ok r => exact ⟨r, rfl, by injection h⟩

theorem map_eq_error {ε α β : Type} {g : α → β} {x : Except ε α} {er : ε} (h : x.map g = .error er) :
    x = .error er := by
  cases x with
  | error er' => injection h with h; rw [h]
  | ok r => cases h

theorem addLow_cases (tol : Rat) (f : Vec) (e : Mat) (fmin : Option Rat) (interp : Bool) (rows : List (Rat × Vec)) :
    addLow tol f e fmin interp rows = .ok rows ∨
    ∃ a, interp = true ∧ fmin = some a ∧
      addLow tol f e fmin interp rows = (interpFreq f e a).map fun r => (a, r) :: rows := by
  unfold addLow
  split
  · rename_i a
    split
    · exact Or.inr ⟨a, rfl, rfl, rfl⟩
    · split
      · exact Or.inr ⟨a, rfl, rfl, rfl⟩
      · exact Or.inl rfl
  · exact Or.inl rfl

theorem addHigh_cases (tol : Rat) (f : Vec) (e : Mat) (fmax : Option Rat) (interp : Bool) (rows : List (Rat × Vec)) :
    addHigh tol f e fmax interp rows = .ok rows ∨
    (rows = [] ∧ addHigh tol f e fmax interp rows = .error .indexError) ∨
    ∃ b, interp = true ∧ fmax = some b ∧
      addHigh tol f e fmax interp rows = (interpFreq f e b).map fun r => rows ++ [(b, r)] := by
  unfold addHigh
  split
  · rename_i b
    split
    · rename_i hl
      exact Or.inr (Or.inl ⟨List.getLast?_eq_none_iff.mp hl, rfl⟩)
    · split
      · exact Or.inr (Or.inr ⟨b, rfl, rfl, rfl⟩)
      · exact Or.inl rfl
  · exact Or.inl rfl

theorem split_ok {tol : Rat} {f : Vec} {dirs : Option Vec} {e : Mat} {fmin fmax dmin dmax : Option Rat}
    {interp : Bool} {o : SplitOut} (h : split tol f dirs e fmin fmax dmin dmax interp = .ok o) :
    badOrder fmin fmax = false ∧ badOrder dmin dmax = false ∧
    ∃ rows1 rows2, addLow tol f e fmin interp (bandRows f e fmin fmax) = .ok rows1 ∧
      addHigh tol f e fmax interp rows1 = .ok rows2 ∧ o.freq = rows2.map (·.1) ∧
      match dirs with
      | none => o.dirs = none ∧ o.e = rows2.map (·.2)
      | some d => o.cols = dirCols d dmin dmax ∧ o.dirs = some (pickV o.cols d) ∧
          o.e = pickCols o.cols (rows2.map (·.2)) := by
  unfold split at h
  split at h
  · cases h
  split at h
  · cases h
  rename_i hb1 hb2
  split at h
  · cases h
  rename_i rows1 h1
  split at h
  · cases h
  rename_i rows2 h2
  refine ⟨Bool.eq_false_iff.mpr hb1, Bool.eq_false_iff.mpr hb2, rows1, rows2, h1, h2, ?_⟩
  cases dirs <;> (injection h with h; subst h; simp only [and_self])

theorem bbox_eq (f dirs : Vec) (e : Mat) (boxes : List Box) :
    bbox f dirs e boxes =
      if ((rectsOf f dirs boxes).any fun r => decide (r.r ≤ r.l)) || anyOverlap (rectsOf f dirs boxes) then
        .error .valueError
      else .ok (pickV (sortIdx dirs) dirs,
        bboxParts (rectsOf f dirs boxes) f (pickV (sortIdx dirs) dirs) (pickCols (sortIdx dirs) e)) := by
  rw [bbox]
  cases (rectsOf f dirs boxes).any fun r => decide (r.r ≤ r.l) <;> cases anyOverlap (rectsOf f dirs boxes) <;> rfl

theorem bbox_ok (f dirs : Vec) (e : Mat) (boxes : List Box) (d : Vec) (parts : List Mat)
    (h : bbox f dirs e boxes = .ok (d, parts)) :
    d = pickV (sortIdx dirs) dirs ∧
    parts = bboxParts (rectsOf f dirs boxes) f d (pickCols (sortIdx dirs) e) ∧
    ((rectsOf f dirs boxes).any fun r => decide (r.r ≤ r.l)) = false ∧
    anyOverlap (rectsOf f dirs boxes) = false := by
  rw [bbox_eq] at h
  split at h
  · cases h
  · rename_i hc
    injection h with h
    injection h with hd hp
    subst hd
    exact ⟨rfl, hp.symm, Bool.or_eq_false_iff.mp (Bool.eq_false_iff.mpr hc)⟩

theorem rectsOf_length (f dirs : Vec) (boxes : List Box) : (rectsOf f dirs boxes).length = boxes.length :=
  List.length_map _

theorem getD_bboxParts_lt (rects : List Rect) (f d : Vec) (e : Mat) (k : Nat) (r : Rect)
    (hk : rects[k]? = some r) : (bboxParts rects f d e).getD k [] = whereM (inRect r) f d e := by
  obtain ⟨hlt, rfl⟩ := List.getElem?_eq_some_iff.mp hk
  rw [bboxParts, List.getD_eq_getElem?_getD, List.getElem?_append_left (by rw [List.length_map]; exact hlt),
    List.getElem?_map, List.getElem?_eq_getElem hlt]
  rfl

theorem getD_bboxParts_last (rects : List Rect) (f d : Vec) (e : Mat) :
    (bboxParts rects f d e).getD rects.length [] = whereM (fun x t => !inAny rects x t) f d e := by
  rw [bboxParts, List.getD_eq_getElem?_getD, List.getElem?_append_right (by rw [List.length_map]),
    List.length_map, Nat.sub_self]
  rfl

/-! ### rectangles -/

theorem inRect_iff (r : Rect) (x t : Rat) :
    inRect r x t = true ↔ r.l ≤ x ∧ x ≤ r.r ∧ r.b ≤ t ∧ t ≤ r.t := by
  simp [inRect, and_assoc]

theorem inAny_iff (rects : List Rect) (x t : Rat) :
    inAny rects x t = true ↔ ∃ r ∈ rects, r.l ≤ x ∧ x ≤ r.r ∧ r.b ≤ t ∧ t ≤ r.t := by
  simp only [inAny, List.any_eq_true, inRect_iff]

theorem overlap_iff (r1 r2 : Rect) :
    overlap r1 r2 = true ↔ r2.l < r1.r ∧ r1.l < r2.r ∧ r2.b < r1.t ∧ r1.b < r2.t := by
  simp [overlap, and_assoc]

theorem exists_common {l1 r1 l2 r2 : Rat} (n1 : l1 < r1) (n2 : l2 < r2) (a : l2 < r1) (b : l1 < r2) :
    ∃ x, l1 < x ∧ x < r1 ∧ l2 < x ∧ x < r2 := by
  obtain ⟨x, h1, h2⟩ := exists_between (max_lt (lt_min n1 b) (lt_min a n2))
  exact ⟨x, (max_lt_iff.mp h1).1, (lt_min_iff.mp h2).1, (max_lt_iff.mp h1).2, (lt_min_iff.mp h2).2⟩

theorem anyOverlap_eq_false_iff (rects : List Rect) :
    anyOverlap rects = false ↔ rects.Pairwise fun a b => overlap a b = false := by
  induction rects with
  | nil => exact iff_of_true rfl List.Pairwise.nil
  | cons r t ih =>
    rw [anyOverlap, Bool.or_eq_false_iff, ih, List.pairwise_cons, List.any_eq_false]
    simp only [Bool.not_eq_true]

theorem anyOverlap_of_pair (rects : List Rect) (a b : Nat) (ra rb : Rect) (hab : a < b)
    (ha : rects[a]? = some ra) (hb : rects[b]? = some rb) (ho : overlap ra rb = true) :
    anyOverlap rects = true := by
  obtain ⟨ha', rfl⟩ := List.getElem?_eq_some_iff.mp ha
  obtain ⟨hb', rfl⟩ := List.getElem?_eq_some_iff.mp hb
  by_contra hc
  have := List.pairwise_iff_getElem.mp ((anyOverlap_eq_false_iff rects).mp (by simpa using hc)) a b ha' hb' hab
  rw [ho] at this
  cases this

/-- `bbox.get(key, dflt) or alt` is the documented limit unless the limit is given as the number 0, provided
    the default of an absent key is itself the axis bound `alt` (or is falsy) -/
theorem limGet_eq_doc (l : Lim) (dflt alt : Rat) (h0 : l ≠ .val 0) (hd : l ≠ .omitted ∨ dflt = alt ∨ dflt = 0) :
    l.get dflt alt = l.doc alt := by
  cases l with
  | omitted =>
    rcases hd with hd | rfl | rfl
    · exact absurd rfl hd
    · exact ite_self _
    · exact if_pos (rfl : (0 : Rat) = 0) (e := 0)
  | none => rfl
  | val v => exact if_neg fun hv : v = 0 => h0 (hv ▸ rfl)

/-! ### shares of a value among the members of a list -/

theorem sum_map_ite_const {α : Type} (l : List α) (p : α → Bool) (v : Rat) :
    (l.map fun r => if p r then v else 0).sum = ((l.filter p).length : Rat) * v := by
  induction l with
  | nil => simp
  | cons a t ih =>
    by_cases h : p a = true
    · simp [h, ih]; ring
    · simp [h, ih]

/-- a value handed to every member of `l` that satisfies `p`, and to the complement when none does: if at most
    one member satisfies `p`, the shares add up to the value -/
theorem sum_shares {α : Type} (l : List α) (p : α → Bool) (v : Rat) (h : (l.filter p).length ≤ 1) :
    ((l.map fun r => if p r then v else 0) ++ [if l.any p then 0 else v]).sum = v := by
  have hany : l.any p = true ↔ 0 < (l.filter p).length := by
    rw [List.any_eq_true, List.length_filter_pos_iff]
  rw [List.sum_append, sum_map_ite_const, List.sum_singleton]
  obtain h0 | h1 : (l.filter p).length = 0 ∨ (l.filter p).length = 1 := by omega
  · rw [h0, if_neg (by rw [hany, h0]; exact lt_irrefl 0)]; simp
  · rw [h1, if_pos (hany.mpr (by omega))]; simp

theorem two_le_filter {α : Type} (p : α → Bool) (l : List α) (k1 k2 : Nat) (r1 r2 : α) (hlt : k1 < k2)
    (h1 : l[k1]? = some r1) (h2 : l[k2]? = some r2) (p1 : p r1 = true) (p2 : p r2 = true) :
    2 ≤ (l.filter p).length := by
  have a : r1 ∈ (l.take k2).filter p :=
    List.mem_filter.mpr ⟨List.mem_of_getElem? ((List.getElem?_take_of_lt hlt).trans h1), p1⟩
  have b : r2 ∈ (l.drop k2).filter p :=
    List.mem_filter.mpr ⟨List.mem_of_getElem? ((List.getElem?_drop (j := 0)).trans h2), p2⟩
  rw [← List.take_append_drop k2 l, List.filter_append, List.length_append]
  have := List.length_pos_of_mem a
  have := List.length_pos_of_mem b
  omega

/-! ### the rows of `split` -/

theorem addLow_ok (tol : Rat) (f : Vec) (e : Mat) (fmin : Option Rat) (interp : Bool)
    (rows rows1 : List (Rat × Vec)) (h : addLow tol f e fmin interp rows = .ok rows1) :
    ∃ lo, rows1 = lo ++ rows ∧
      (lo = [] ∨ ∃ a r, interp = true ∧ fmin = some a ∧ interpFreq f e a = .ok r ∧ lo = [(a, r)]) := by
  rcases addLow_cases tol f e fmin interp rows with h0 | ⟨a, hi, hf, h1⟩
  · rw [h0] at h
    injection h with h
    exact ⟨[], h.symm, Or.inl rfl⟩
  · rw [h1] at h
    obtain ⟨r, hr, rfl⟩ := map_eq_ok h
    exact ⟨[(a, r)], rfl, Or.inr ⟨a, r, hi, hf, hr, rfl⟩⟩

theorem addHigh_ok (tol : Rat) (f : Vec) (e : Mat) (fmax : Option Rat) (interp : Bool)
    (rows rows1 : List (Rat × Vec)) (h : addHigh tol f e fmax interp rows = .ok rows1) :
    ∃ hi, rows1 = rows ++ hi ∧
      (hi = [] ∨ ∃ b r, interp = true ∧ fmax = some b ∧ interpFreq f e b = .ok r ∧ hi = [(b, r)]) := by
  rcases addHigh_cases tol f e fmax interp rows with h0 | ⟨_, h0⟩ | ⟨b, hi, hf, h1⟩
  · rw [h0] at h
    injection h with h
    exact ⟨[], by rw [← h, List.append_nil], Or.inl rfl⟩
  · rw [h0] at h; cases h
  · rw [h1] at h
    obtain ⟨r, hr, rfl⟩ := map_eq_ok h
    exact ⟨[(b, r)], rfl, Or.inr ⟨b, r, hi, hf, hr, rfl⟩⟩

theorem addLow_adds (tol : Rat) (f : Vec) (e : Mat) (a : Rat) (rows rows1 : List (Rat × Vec))
    (h : addLow tol f e (some a) true rows = .ok rows1) (hoff : ∀ p ∈ rows, tol < absR (p.1 - a)) :
    ∃ r, interpFreq f e a = .ok r ∧ rows1 = (a, r) :: rows := by
  have hadd : addLow tol f e (some a) true rows = (interpFreq f e a).map fun r => (a, r) :: rows := by
    cases rows with
    | nil => rfl
    | cons p t => exact if_pos (hoff p List.mem_cons_self)
  obtain ⟨r, hr, rfl⟩ := map_eq_ok (hadd ▸ h)
  exact ⟨r, hr, rfl⟩

theorem addHigh_adds (tol : Rat) (f : Vec) (e : Mat) (b : Rat) (rows rows1 : List (Rat × Vec))
    (h : addHigh tol f e (some b) true rows = .ok rows1)
    (hoff : ∀ p, rows.getLast? = some p → tol < absR (p.1 - b)) :
    ∃ r, interpFreq f e b = .ok r ∧ rows1 = rows ++ [(b, r)] := by
  unfold addHigh at h
  simp only at h
  cases hl : rows.getLast? with
  | none => rw [hl] at h; cases h
  | some p =>
    rw [hl] at h
    simp only [if_pos (hoff p hl)] at h
    obtain ⟨r, hr, rfl⟩ := map_eq_ok h
    exact ⟨r, hr, rfl⟩

theorem interpFreq_ne_indexError (f : Vec) (e : Mat) (x : Rat) : interpFreq f e x ≠ .error .indexError := by
  unfold interpFreq
  split
  · intro hc; cases hc
  · simp only
    split <;> (intro hc; cases hc)

theorem inBand_iff (lo hi : Option Rat) (x : Rat) :
    inBand lo hi x = true ↔ (∀ a, lo = some a → a ≤ x) ∧ (∀ b, hi = some b → x ≤ b) := by
  unfold inBand
  rw [Bool.and_eq_true]
  refine and_congr ?_ ?_
  · cases lo <;> simp
  · cases hi <;> simp

theorem mem_dirCols (d : Vec) (dmin dmax : Option Rat) (c : Nat) :
    c ∈ dirCols d dmin dmax ↔
      c < d.length ∧ ((truthy dmin || truthy dmax) = true → inBand dmin dmax (getR d c) = true) := by
  unfold dirCols
  by_cases ht : (truthy dmin || truthy dmax) = true
  · rw [if_pos ht, List.mem_filter, mem_sortIdx]; simp [ht]
  · rw [if_neg ht]; simp [ht]

theorem mem_bandRows (f : Vec) (e : Mat) (fmin fmax : Option Rat) (p : Rat × Vec) :
    p ∈ bandRows f e fmin fmax ↔
      ∃ i, i < f.length ∧ i < e.length ∧ p = (getR f i, e.getD i []) ∧ inBand fmin fmax (getR f i) = true := by
  have hz : ∀ i (h1 : i < f.length) (h2 : i < e.length),
      (List.zip f e)[i]'(List.length_zip ▸ Nat.lt_min.mpr ⟨h1, h2⟩) = (getR f i, e.getD i []) := by
    intro i h1 h2
    rw [List.getElem_zip, getR_eq_getElem f i h1, List.getElem_eq_getD (h := h2) []]
  rw [bandRows, List.mem_filter, List.mem_iff_getElem]
  constructor
  · rintro ⟨⟨i, hlt, rfl⟩, hin⟩
    obtain ⟨h1, h2⟩ := Nat.lt_min.mp (List.length_zip ▸ hlt)
    rw [hz i h1 h2] at hin ⊢
    exact ⟨i, h1, h2, rfl, hin⟩
  · rintro ⟨i, h1, h2, rfl, hin⟩
    exact ⟨⟨i, _, hz i h1 h2⟩, hin⟩

theorem bandRows_label_mem (f : Vec) (e : Mat) (fmin fmax : Option Rat) (p : Rat × Vec)
    (hp : p ∈ bandRows f e fmin fmax) : p.1 ∈ f :=
  (List.of_mem_zip (List.mem_filter.mp hp).1).1

theorem get2_map_snd (σ : List Nat) (rows : List (Rat × Vec)) (i j : Nat) (hj : j < σ.length) :
    get2 (pickCols σ (rows.map (·.2))) i j = getR (rows.getD i (0, [])).2 (σ.getD j 0) := by
  rw [get2_pickCols _ _ _ _ hj, get2]
  simp only [List.getD_eq_getElem?_getD, List.getElem?_map]
  cases rows[i]? <;> rfl

/-! ### the cell of a cut-off -/

theorem searchsorted_lt_length (f : Vec) (x : Rat) (hne : f ≠ []) (h : x < vmax f) :
    searchsorted f x < f.length := by
  -- otherwise every element, the maximum among them, is `< x`
  by_contra hc
  obtain ⟨i, hi, heq⟩ := List.mem_iff_getElem.mp (vmax_mem f hne)
  have := lt_of_lt_searchsorted f x i (lt_of_lt_of_le hi (not_lt.mp hc))
  rw [getR_eq_getElem f i hi, heq] at this
  exact lt_asymm h this

theorem searchsorted_cell (f : Vec) (x : Rat) (hk0 : 0 < searchsorted f x) (hk1 : searchsorted f x < f.length) :
    getR f (searchsorted f x - 1) < x ∧ x ≤ getR f (searchsorted f x) :=
  ⟨lt_of_lt_searchsorted f x _ (Nat.sub_lt hk0 Nat.one_pos), ge_at_searchsorted f x hk1⟩

theorem lerpRow_convex (f0 f1 x : Rat) (r0 r1 : Vec) (h0 : f0 < x) (h1 : x ≤ f1) :
    0 ≤ (f1 - x) / (f1 - f0) ∧ (f1 - x) / (f1 - f0) < 1 ∧
    ∀ j, j < r0.length → j < r1.length →
      getR (lerpRow f0 f1 x r0 r1) j = (f1 - x) / (f1 - f0) * getR r0 j + (1 - (f1 - x) / (f1 - f0)) * getR r1 j :=
  have hlt := lt_of_lt_of_le h0 h1
  ⟨div_nonneg (sub_nonneg.mpr h1) (sub_pos.mpr hlt).le, (div_lt_one (sub_pos.mpr hlt)).mpr (sub_lt_sub_left h0 _),
    fun j hj0 hj1 => by rw [getR_lerpRow _ _ _ _ _ j hj0 hj1, lerp_convex _ _ _ _ _ hlt]⟩

/-! ### the variance (`hs²/16`) is linear in the spectrum -/

theorem oned_scaleM (ddv k : Rat) (e : Mat) : Stats.oned ddv (scaleM k e) = scaleV k (Stats.oned ddv e) := by
  unfold Stats.oned scaleM scaleV
  simp only [List.map_map]
  congr 1; funext r
  simp only [Function.comp, sum_map_const_mul]; ring

theorem hsE_scaleV (thr q : Rat) (tail : Bool) (k : Rat) (f S : Vec) :
    Stats.hsE thr q tail f (scaleV k S) = k * Stats.hsE thr q tail f S := by
  unfold Stats.hsE Stats.m0E
  rw [dot_scaleV_left, lastD_scaleV]
  split <;> ring

theorem hsOf_scaleM (thr q k : Rat) (f dirs : Vec) (e : Mat) :
    hsOf thr q f dirs (scaleM k e) = k * hsOf thr q f dirs e := by
  unfold hsOf
  rw [oned_scaleM, hsE_scaleV]

end WS.Split
