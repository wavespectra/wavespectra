import WsVerif.Model.Smooth
import WsVerif.Lemmas.Moments
import Mathlib.Tactic.Linarith
import Mathlib.Algebra.Order.Field.Rat
import Mathlib.Algebra.BigOperators.Group.List.Basic
import Mathlib.Algebra.Order.BigOperators.Group.List
import Mathlib.Data.List.Perm.Basic
import Mathlib.Data.List.Nodup
/-!
Helper lemmas for the smoothing model (C16).

Every intermediate array of `smoothWith` is read through its cells (`cellAt`, `ocell`).  The selection step is
`selOf_ok`: output column `k` is the rolling-mean column at the position where the label `dirs32[k]` sits among
the labels put on the sorted data.  `smoothWith_closed` turns this into a closed form (`sortedCell` of the sorted
array at that position) for both label variants; sorted storage and the repaired labelling are its two instances.
-/
namespace WS.Smooth
open WS

/-! ### tabulated lists -/

theorem getD_tab {α : Type} (n : Nat) (f : Nat → α) (i : Nat) (d : α) :
    ((List.range n).map f).getD i d = if i < n then f i else d := by
  by_cases h : i < n <;> simp [List.getD_eq_getElem?_getD, h]

theorem getR_tab (n : Nat) (f : Nat → Rat) (i : Nat) :
    getR ((List.range n).map f) i = if i < n then f i else 0 := getD_tab n f i 0

/-- entry `(i, j)` of a tabulated matrix; `cellAt` and `ocell` are the instances `d = 0` and `d = none` -/
theorem getD_getD_tab {α : Type} (n m : Nat) (g : Nat → Nat → α) (i j : Nat) (d : α) :
    (((List.range n).map fun i => (List.range m).map (g i)).getD i []).getD j d = if i < n ∧ j < m then g i j else d := by
  rw [getD_tab]
  by_cases hi : i < n
  · simp only [hi, if_true, true_and]; exact getD_tab m (g i) j d
  · simp [hi]

theorem cellAt_tab (n m : Nat) (g : Nat → Nat → Rat) (i j : Nat) :
    cellAt ((List.range n).map fun i => (List.range m).map (g i)) i j = if i < n ∧ j < m then g i j else 0 :=
  getD_getD_tab n m g i j 0

theorem tab_congr {α : Type} {n m : Nat} {g g' : Nat → Nat → α} (h : ∀ i < n, ∀ k < m, g i k = g' i k) :
    ((List.range n).map fun i => (List.range m).map (g i)) = (List.range n).map fun i => (List.range m).map (g' i) :=
  List.map_congr_left fun i hi => List.map_congr_left fun k hk => h i (List.mem_range.mp hi) k (List.mem_range.mp hk)

/-! ### cells of a matrix -/

theorem cellAt_eq_getR {e : Mat} {i : Nat} (j : Nat) (hi : i < e.length) : cellAt e i j = getR e[i] j := by
  simp [cellAt, List.getD_eq_getElem?_getD, hi]

theorem cellAt_map {F : Vec → Vec} {e : Mat} {i : Nat} (j : Nat) (hi : i < e.length) :
    cellAt (e.map F) i j = getR (F e[i]) j := by
  simp [cellAt, List.getD_eq_getElem?_getD, hi]

/-- all rows have `nd` entries -/
def Rect (e : Mat) (nd : Nat) : Prop := ∀ r ∈ e, r.length = nd

instance (e : Mat) (nd : Nat) : Decidable (Rect e nd) := by unfold Rect; infer_instance

theorem rect_map {α : Type} {F : α → Vec} {e : List α} {nd : Nat} (h : ∀ r ∈ e, (F r).length = nd) : Rect (e.map F) nd := by
  intro r hr
  obtain ⟨r0, hr0, rfl⟩ := List.mem_map.mp hr
  exact h r0 hr0

theorem tab_cellAt {e : Mat} {nd : Nat} (h : Rect e nd) :
    ((List.range e.length).map fun i => (List.range nd).map fun k => cellAt e i k) = e := by
  apply List.ext_getElem
  · simp
  · intro i h1 h2
    simp only [List.getElem_map, List.getElem_range, cellAt_eq_getR _ h2]
    rw [← h _ (List.getElem_mem h2)]; exact map_getR_range _

theorem ext_cellAt {a b : Mat} {nd : Nat} (ha : Rect a nd) (hb : Rect b nd) (hl : a.length = b.length)
    (h : ∀ i < b.length, ∀ j < nd, cellAt a i j = cellAt b i j) : a = b := by
  rw [← tab_cellAt ha, ← tab_cellAt hb, hl]; exact tab_congr h

theorem takeCols_length (p : List Nat) (e : Mat) : (takeCols p e).length = e.length := by simp [takeCols]

theorem rect_takeCols (p : List Nat) (e : Mat) : Rect (takeCols p e) p.length :=
  rect_map fun _ _ => by simp

theorem cellAt_takeCols {p : List Nat} {e : Mat} {i j : Nat} (hi : i < e.length) (hj : j < p.length) :
    cellAt (takeCols p e) i j = cellAt e i (p.getD j 0) := by
  rw [takeCols, cellAt_map j hi, cellAt_eq_getR _ hi]
  simp [getR, List.getD_eq_getElem?_getD, hj]

theorem takeCols_range {e : Mat} {nd : Nat} (h : Rect e nd) : takeCols (List.range nd) e = e := by
  unfold takeCols
  conv_rhs => rw [← List.map_id e]
  apply List.map_congr_left
  intro r hr
  rw [← h r hr]; exact map_getR_range r

theorem takeCols_tab {p : List Nat} {nd : Nat} (nf : Nat) (g : Nat → Nat → Rat) (hp : ∀ x ∈ p, x < nd) :
    takeCols p ((List.range nf).map fun i => (List.range nd).map (g i)) =
      (List.range nf).map fun i => p.map fun x => g i x := by
  rw [takeCols, List.map_map]
  exact List.map_congr_left fun i _ => List.map_congr_left fun x hx => by rw [getR_tab, if_pos (hp x hx)]

/-! ### the stable index sort -/

theorem insertIdx_perm (d : Vec) (i : Nat) (l : List Nat) : (insertIdx d i l).Perm (i :: l) := by
  induction l with
  | nil => simp [insertIdx]
  | cons j js ih =>
    unfold insertIdx
    split
    · exact List.Perm.refl _
    · exact (List.Perm.cons j ih).trans (List.Perm.swap i j js)

theorem sortPermAux_perm (d : Vec) (n : Nat) : (sortPermAux d n).Perm (List.range n) := by
  induction n with
  | zero => simp [sortPermAux]
  | succ n ih =>
    rw [List.range_succ]
    exact (insertIdx_perm d n _).trans ((List.Perm.cons n ih).trans (List.perm_append_singleton n _).symm)

theorem sortPerm_perm (d : Vec) : (sortPerm d).Perm (List.range d.length) := sortPermAux_perm d _

theorem sortPerm_length (d : Vec) : (sortPerm d).length = d.length := by
  simpa using (sortPerm_perm d).length_eq

theorem sortPerm_nodup (d : Vec) : (sortPerm d).Nodup :=
  (sortPerm_perm d).nodup_iff.mpr List.nodup_range

theorem mem_sortPerm {d : Vec} {k : Nat} : k ∈ sortPerm d ↔ k < d.length := by
  simpa using (sortPerm_perm d).mem_iff (a := k)

theorem insertIdx_append (d : Vec) (i : Nat) (l : List Nat) (h : ∀ j ∈ l, ¬ getR d i < getR d j) :
    insertIdx d i l = l ++ [i] := by
  induction l with
  | nil => simp [insertIdx]
  | cons j js ih =>
    unfold insertIdx
    rw [if_neg (h j (by simp)), ih (fun x hx => h x (by simp [hx]))]; simp

/-- sorted storage: `sortby` changes nothing -/
theorem sortPerm_of_sorted (d : Vec) (h : d.Pairwise (· < ·)) : sortPerm d = List.range d.length := by
  have key : ∀ n ≤ d.length, sortPermAux d n = List.range n := by
    intro n hn
    induction n with
    | zero => simp [sortPermAux]
    | succ n ih =>
      unfold sortPermAux
      rw [ih (by omega), List.range_succ]
      apply insertIdx_append
      intro j hj
      have hj' : j < n := by simpa using hj
      rw [getR_eq_getElem d j (by omega), getR_eq_getElem d n (by omega)]
      exact not_lt.mpr (le_of_lt (List.pairwise_iff_getElem.mp h j n _ _ hj'))
  exact key _ le_rfl

theorem insertIdx_pairwise (d : Vec) (i : Nat) (l : List Nat)
    (h : l.Pairwise fun a b => getR d a ≤ getR d b) :
    (insertIdx d i l).Pairwise fun a b => getR d a ≤ getR d b := by
  induction l with
  | nil => simp [insertIdx]
  | cons j js ih =>
    unfold insertIdx
    have hj := List.pairwise_cons.mp h
    split
    · rename_i hlt
      exact List.pairwise_cons.mpr ⟨fun x hx => by
        rcases List.mem_cons.mp hx with rfl | hx
        · exact le_of_lt hlt
        · exact le_trans (le_of_lt hlt) (hj.1 x hx), h⟩
    · rename_i hnlt
      exact List.pairwise_cons.mpr ⟨fun x hx => by
        rcases List.mem_cons.mp ((insertIdx_perm d i js).mem_iff.mp hx) with rfl | hx
        · exact not_lt.mp hnlt
        · exact hj.1 x hx, ih hj.2⟩

theorem sortPerm_pairwise (d : Vec) : (sortPerm d).Pairwise fun a b => getR d a ≤ getR d b := by
  unfold sortPerm
  induction d.length with
  | zero => simp [sortPermAux]
  | succ n ih => exact insertIdx_pairwise d n _ ih

/-! #### the sort permutation `r ↦ (sortPerm d).getD r 0` and its inverse `k ↦ (sortPerm d).idxOf k` -/

theorem idxOf_sortPerm_lt {d : Vec} {k : Nat} (hk : k < d.length) : (sortPerm d).idxOf k < d.length := by
  have := List.idxOf_lt_length_iff.mpr (mem_sortPerm.mpr hk)
  rwa [sortPerm_length] at this

theorem getD_sortPerm_lt {d : Vec} {r : Nat} (hr : r < d.length) : (sortPerm d).getD r 0 < d.length := by
  have hr' : r < (sortPerm d).length := by rwa [sortPerm_length]
  rw [List.getD_eq_getElem?_getD, List.getElem?_eq_getElem hr']
  exact mem_sortPerm.mp (List.getElem_mem hr')

theorem getD_idxOf_sortPerm {d : Vec} {k : Nat} (hk : k < d.length) :
    (sortPerm d).getD ((sortPerm d).idxOf k) 0 = k := by
  have h := List.idxOf_lt_length_iff.mpr (mem_sortPerm.mpr hk)
  simp [List.getD_eq_getElem?_getD, h]

theorem idxOf_getD_sortPerm {d : Vec} {r : Nat} (hr : r < d.length) :
    (sortPerm d).idxOf ((sortPerm d).getD r 0) = r := by
  have hr' : r < (sortPerm d).length := by rwa [sortPerm_length]
  rw [List.getD_eq_getElem?_getD, List.getElem?_eq_getElem hr']
  exact (sortPerm_nodup d).idxOf_getElem r hr'

theorem cellAt_sorted_idxOf {d : Vec} {e : Mat} {i k : Nat} (hi : i < e.length) (hk : k < d.length) :
    cellAt (takeCols (sortPerm d) e) i ((sortPerm d).idxOf k) = cellAt e i k := by
  rw [cellAt_takeCols hi (by rw [sortPerm_length]; exact idxOf_sortPerm_lt hk), getD_idxOf_sortPerm hk]

theorem rect_sorted (d : Vec) (e : Mat) : Rect (takeCols (sortPerm d) e) d.length := by
  have := rect_takeCols (sortPerm d) e
  rwa [sortPerm_length] at this

/-! ### circular padding -/

theorem padRow_length {α : Type} (w : Nat) (r : List α) (hw : w ≤ r.length) : (padRow w r).length = r.length + 2 * w := by
  rw [padRow, List.length_append, List.length_append, List.length_drop, List.length_take, Nat.sub_sub_self hw,
    Nat.min_eq_left hw, Nat.two_mul, Nat.add_right_comm, Nat.add_comm]

theorem padLabels_length {w : Nat} {l : Vec} (hw : w ≤ l.length) : (padLabels w l).length = l.length + 2 * w := by
  rw [padLabels, List.length_append, List.length_append, List.length_map, List.length_map, List.length_drop, List.length_take,
    Nat.sub_sub_self hw, Nat.min_eq_left hw, Nat.two_mul, Nat.add_right_comm, Nat.add_comm]

/-- a position inside a row of `nd` entries padded by `w` on both sides -/
theorem lt_padded {nd w x y : Nat} (hx : x < nd) (hy : y ≤ w) : w + x + y < nd + 2 * w :=
  calc w + x + y < w + nd + w := Nat.add_lt_add_of_lt_of_le (Nat.add_lt_add_left hx w) hy
    _ = nd + 2 * w := by rw [Nat.two_mul, Nat.add_comm w nd, Nat.add_assoc]

theorem lt_third {n w c : Nat} (hc : c < n + 2 * w) (h : ¬ c < w + n) : c - (w + n) < w :=
  Nat.sub_lt_left_of_lt_add (Nat.le_of_not_lt h) (by rw [Nat.add_right_comm, ← Nat.two_mul, Nat.add_comm]; exact hc)

/-- the three blocks of a padded row in one formula: position `c` reads the original position `(c + n − w) mod n` -/
theorem wrap_index {n w c : Nat} (hw : w ≤ n) (hc : c < n + 2 * w) :
    (c + n - w) % n = if c < w then c + n - w else if c < w + n then c - w else c - w - n := by
  split_ifs with h1 h2
  · exact Nat.mod_eq_of_lt (Nat.sub_lt_right_of_lt_add (Nat.le_add_left_of_le hw)
      (by rw [Nat.add_comm n w]; exact Nat.add_lt_add_right h1 n))
  · rw [Nat.sub_add_comm (Nat.le_of_not_lt h1), Nat.add_mod_right,
      Nat.mod_eq_of_lt (Nat.sub_lt_left_of_lt_add (Nat.le_of_not_lt h1) h2)]
  · have h3 : n ≤ c - w := Nat.le_sub_of_add_le' (Nat.le_of_not_lt h2)
    rw [Nat.sub_add_comm (Nat.le_of_not_lt h1), ← Nat.sub_add_cancel h3, Nat.add_mod_right, Nat.add_mod_right,
      Nat.mod_eq_of_lt (Nat.lt_of_lt_of_le (Nat.sub_add_eq c w n ▸ lt_third hc h2) hw), Nat.add_sub_cancel]

theorem getD_padRow {α : Type} {w : Nat} {r : List α} {c : Nat} (d : α) (hw : w ≤ r.length)
    (hc : c < r.length + 2 * w) : (padRow w r).getD c d = r.getD ((c + r.length - w) % r.length) d := by
  simp only [padRow, List.getD_eq_getElem?_getD, List.getElem?_append, List.length_append, List.length_drop,
    Nat.sub_sub_self hw, List.getElem?_drop, List.getElem?_take, wrap_index hw hc]
  by_cases h1 : c < w
  · rw [if_pos (Nat.lt_add_right _ h1), if_pos h1, if_pos h1, Nat.add_comm, Nat.add_sub_assoc hw]
  · by_cases h2 : c < w + r.length
    · rw [if_pos h2, if_neg h1, if_neg h1, if_pos h2]
    · rw [if_neg h2, if_neg h1, if_neg h2, if_pos (lt_third hc h2), Nat.sub_add_eq]

theorem cellAt_padRow {s : Mat} {n w i c : Nat} (hs : Rect s n) (hw : w ≤ n) (hi : i < s.length)
    (hc : c < n + 2 * w) : cellAt (s.map (padRow w)) i c = cellAt s i ((c + n - w) % n) := by
  have hr : (s[i]).length = n := hs _ (List.getElem_mem hi)
  rw [cellAt_map c hi, cellAt_eq_getR _ hi, getR, getD_padRow 0 (hr.symm ▸ hw) (hr.symm ▸ hc), hr]; rfl

/-! ### the circularity test -/

theorem le_maxL {l : Vec} {x : Rat} (h : x ∈ l) : x ≤ maxL l := by
  unfold maxL
  generalize l.headD 0 = init
  induction l with
  | nil => cases h
  | cons a t ih =>
    rw [List.foldr_cons, maxR_eq_max]
    rcases List.mem_cons.mp h with rfl | h
    · exact le_max_left _ _
    · exact le_max_of_le_right (ih h)

theorem minL_le {l : Vec} {x : Rat} (h : x ∈ l) : minL l ≤ x := by
  unfold minL
  generalize l.headD 0 = init
  induction l with
  | nil => cases h
  | cons a t ih =>
    rw [List.foldr_cons, minR_eq_min]
    rcases List.mem_cons.mp h with rfl | h
    · exact min_le_left _ _
    · exact min_le_of_right_le (ih h)

theorem le_absR (x : Rat) : x ≤ absR x ∧ -x ≤ absR x := absR_eq_abs x ▸ ⟨le_abs_self x, neg_le_abs x⟩

/-- what the code's test guarantees: the labels span less than a whole turn -/
theorem isCircular_span {lab : Vec} (h : isCircular lab = true) : maxL lab - minL lab < 360 := by
  unfold isCircular at h
  split at h
  · cases h
  · rename_i d ds hd
    simp only [Bool.and_eq_true, decide_eq_true_eq] at h
    -- `0 ≤ |…| < 0.1·d` makes `d` positive, hence `0.1·d < d`
    have hd0 : 0 < d :=
      (mul_pos_iff_of_pos_left (by unfold tenth; norm_num)).mp (lt_of_le_of_lt (absR_nonneg _) h.2)
    linarith [(le_absR (maxL lab - minL lab + d - 360)).1, mul_lt_of_lt_one_left hd0 (show tenth < 1 by unfold tenth; norm_num), h.2]

theorem isCircular_two {lab : Vec} (h : isCircular lab = true) : 2 ≤ lab.length := by
  match lab, h with
  | [], h => cases h
  | [_], h => cases h
  | _ :: _ :: _, _ => exact Nat.le_add_left _ _

theorem isCircular_pos {lab : Vec} (h : isCircular lab = true) : 0 < lab.length :=
  Nat.lt_of_lt_of_le Nat.zero_lt_two (isCircular_two h)

/-- a ghost label never coincides with an original one -/
theorem circ_no_collision {lab : Vec} (h : isCircular lab = true) {x y : Rat} (hx : x ∈ lab) (hy : y ∈ lab) :
    x - 360 ≠ y := by
  have hs := isCircular_span h
  intro he
  linarith [le_maxL hx, minL_le hy]

/-! ### window means -/

/-- sum of the block of rows `i0 .. i0+fw-1` and columns `col 0 .. col (dw-1)` -/
def blockSum (e : Mat) (i0 fw dw : Nat) (col : Nat → Nat) : Rat :=
  ((List.range fw).map fun a => ((List.range dw).map fun b => cellAt e (i0 + a) (col b)).sum).sum

/-- mean of that block -/
def blockMean (e : Mat) (i0 fw dw : Nat) (col : Nat → Nat) : Rat :=
  blockSum e i0 fw dw col / (((fw * dw : Nat) : Int) : Rat)

/-- column of the `b`-th window entry around direction bin `k`, wrapping across the ends -/
def circCol (nd dw k b : Nat) : Nat := (k + nd - dw / 2 + b) % nd
/-- column of the `b`-th window entry around direction bin `k`, no wrapping -/
def flatCol (dw k b : Nat) : Nat := k - dw / 2 + b

theorem circCol_lt {nd : Nat} (dw k b : Nat) (hn : 0 < nd) : circCol nd dw k b < nd := Nat.mod_lt _ hn

theorem pos_of_odd {n : Nat} (h : n % 2 = 1) : 0 < n := Nat.pos_of_ne_zero fun h0 => by rw [h0] at h; cases h

/-- entry `a` of a window of size `w` centred on `c` lies inside `0 .. n-1` when the window does … -/
theorem win_row {w c n a : Nat} (h : w / 2 ≤ c ∧ c + w / 2 < n) (ha : a < w) : c - w / 2 + a < n := by omega

/-- … and is within `w / 2` of `c` -/
theorem win_near {w c a : Nat} (hc : w / 2 ≤ c) (ha : a < w) : c ≤ c - w / 2 + a + w / 2 ∧ c - w / 2 + a ≤ c + w / 2 := by
  omega

theorem rollCell_eq_blockMean (e : Mat) (nf nc fw dw i j : Nat) :
    rollCell e nf nc fw dw i j = if fw / 2 ≤ i ∧ i + fw / 2 < nf ∧ dw / 2 ≤ j ∧ j + dw / 2 < nc then
      some (blockMean e (i - fw / 2) fw dw (flatCol dw j)) else none := rfl

theorem blockSum_congr {e1 e2 : Mat} {i0 fw dw : Nat} {c1 c2 : Nat → Nat}
    (h : ∀ a < fw, ∀ b < dw, cellAt e1 (i0 + a) (c1 b) = cellAt e2 (i0 + a) (c2 b)) :
    blockSum e1 i0 fw dw c1 = blockSum e2 i0 fw dw c2 := by
  unfold blockSum
  congr 1
  apply List.map_congr_left
  intro a ha
  congr 1
  apply List.map_congr_left
  intro b hb
  exact h a (List.mem_range.mp ha) b (List.mem_range.mp hb)

theorem tab_sum_bounds {n : Nat} {g : Nat → Rat} {lo hi : Rat} (h : ∀ a < n, lo ≤ g a ∧ g a ≤ hi) :
    (n : Rat) * lo ≤ ((List.range n).map g).sum ∧ ((List.range n).map g).sum ≤ n * hi := by
  have hmem : ∀ x ∈ (List.range n).map g, lo ≤ x ∧ x ≤ hi := by
    intro x hx
    obtain ⟨a, ha, rfl⟩ := List.mem_map.mp hx
    exact h a (List.mem_range.mp ha)
  have h1 := List.card_nsmul_le_sum _ lo fun x hx => (hmem x hx).1
  have h2 := List.sum_le_card_nsmul _ hi fun x hx => (hmem x hx).2
  rw [List.length_map, List.length_range, nsmul_eq_mul] at h1 h2
  exact ⟨h1, h2⟩

theorem blockMean_bounds {e : Mat} {i0 fw dw : Nat} {col : Nat → Nat} {lo hi : Rat} (hfw : 0 < fw) (hdw : 0 < dw)
    (h : ∀ a < fw, ∀ b < dw, lo ≤ cellAt e (i0 + a) (col b) ∧ cellAt e (i0 + a) (col b) ≤ hi) :
    lo ≤ blockMean e i0 fw dw col ∧ blockMean e i0 fw dw col ≤ hi := by
  have hp : (0 : Rat) < ((fw * dw : Nat) : Rat) := by exact_mod_cast Nat.mul_pos hfw hdw
  -- the block sum lies between `fw · (dw · lo)` and `fw · (dw · hi)`
  have := tab_sum_bounds (lo := dw * lo) (hi := dw * hi) fun a ha => tab_sum_bounds (h a ha)
  rw [← mul_assoc, ← mul_assoc, ← Nat.cast_mul] at this
  rw [blockMean, Int.cast_natCast, le_div_iff₀ hp, div_le_iff₀ hp, mul_comm lo, mul_comm hi]
  exact this

theorem blockMean_one (e : Mat) (i0 : Nat) (col : Nat → Nat) : blockMean e i0 1 1 col = cellAt e i0 (col 0) := by
  simp [blockMean, blockSum]

/-! ### label lookup -/

theorem all_contains {labels want : Vec} : (want.all fun d => labels.contains d) = true ↔ ∀ d ∈ want, d ∈ labels := by
  simp [List.all_eq_true]

theorem selCols_ok {labels want : Vec} (r : OMat) (h : ∀ d ∈ want, d ∈ labels) :
    selCols labels want r = .ok (r.map fun row => want.map fun d => row.getD (labels.idxOf d) none) :=
  if_pos (all_contains.mpr h)

theorem selCols_err {labels want : Vec} (r : OMat) (h : ¬ ∀ d ∈ want, d ∈ labels) :
    selCols labels want r = .error .keyError :=
  if_neg (mt all_contains.mp h)

theorem ocell_sel {want : Vec} {k : Nat} (labels : Vec) (r : OMat) (i : Nat) (hk : k < want.length) :
    ocell (r.map fun row => want.map fun d => row.getD (labels.idxOf d) none) i k
      = ocell r i (labels.idxOf (getR want k)) := by
  unfold ocell
  rw [getR_eq_getElem want k hk]
  by_cases hi : i < r.length
  · simp only [List.getD_eq_getElem?_getD, List.getElem?_map, List.getElem?_eq_getElem hi, Option.map_some, Option.getD_some,
      List.getElem?_eq_getElem hk]
  · simp [List.getD_eq_getElem?_getD, hi]

theorem ocell_rolling (fw dw nc : Nat) (e : Mat) (i j : Nat) :
    ocell (rolling fw dw nc e) i j = if i < e.length ∧ j < nc then rollCell e e.length nc fw dw i j else none :=
  getD_getD_tab _ _ _ i j none

theorem cellAt_fill (r : OMat) (e : Mat) (nd i k : Nat) :
    cellAt (fill r e nd) i k = if i < e.length ∧ k < nd then
      (match ocell r i k with | some v => v | none => cellAt e i k) else 0 :=
  cellAt_tab _ _ _ i k

theorem fill_length (r : OMat) (e : Mat) (nd : Nat) : (fill r e nd).length = e.length := by simp [fill]

theorem rect_fill (r : OMat) (e : Mat) (nd : Nat) : Rect (fill r e nd) nd :=
  rect_map (e := List.range e.length) fun _ _ => by simp

theorem idxOf_getR {l : Vec} {k : Nat} (hn : l.Nodup) (hk : k < l.length) : l.idxOf (getR l k) = k := by
  rw [getR_eq_getElem l k hk]; exact hn.idxOf_getElem k hk

theorem idxOf_padLabels {w : Nat} {l : Vec} {x : Rat} (hw : w ≤ l.length) (hc : isCircular l = true) (hx : x ∈ l) : (padLabels w l).idxOf x = w + l.idxOf x := by
  unfold padLabels
  have hnot : x ∉ (l.drop (l.length - w)).map (· - 360) := by
    intro hm
    obtain ⟨y, hy, hyx⟩ := List.mem_map.mp hm
    exact circ_no_collision hc (List.mem_of_mem_drop hy) hx hyx
  rw [List.append_assoc, List.idxOf_append, if_neg hnot, List.idxOf_append, if_pos hx, List.length_map, List.length_drop,
    Nat.sub_sub_self hw, Nat.add_comm]

theorem mem_padLabels {l : Vec} {x : Rat} (w : Nat) (hx : x ∈ l) : x ∈ padLabels w l := by
  unfold padLabels; simp [hx]

/-! ### the pipeline in named pieces -/

/-- labels and sorted data after the optional circular padding (5), the rolling mean (6), the selection (7) -/
def lab2Of (b : Bool) (dirs dirs32 : Vec) (dw : Nat) : Vec :=
  if isCircular (labelsOf b dirs dirs32) then padLabels (min dw dirs.length) (labelsOf b dirs dirs32)
  else labelsOf b dirs dirs32

def s2Of (b : Bool) (dirs dirs32 : Vec) (e : Mat) (dw : Nat) : Mat :=
  if isCircular (labelsOf b dirs dirs32) then (takeCols (sortPerm dirs) e).map (padRow (min dw dirs.length))
  else takeCols (sortPerm dirs) e

def rolledOf (b : Bool) (dirs dirs32 : Vec) (e : Mat) (fw dw : Nat) : OMat :=
  rolling fw dw (lab2Of b dirs dirs32 dw).length (s2Of b dirs dirs32 e dw)

def selOf (b : Bool) (dirs dirs32 : Vec) (e : Mat) (fw dw : Nat) : Except Err OMat :=
  if lab2Of b dirs dirs32 dw = dirs then .ok (rolledOf b dirs dirs32 e fw dw)
  else selCols (lab2Of b dirs dirs32 dw) dirs32 (rolledOf b dirs dirs32 e fw dw)

theorem smoothWith_eq (b : Bool) (dirs dirs32 : Vec) (e : Mat) (fw dw : Nat) :
    smoothWith b dirs dirs32 e fw dw =
      if fw % 2 = 0 ∨ dw % 2 = 0 then .error .valueError else
        match selOf b dirs dirs32 e fw dw with
        | .ok r' => .ok (dirs, fill r' e dirs.length)
        | .error err => .error err := rfl

theorem smoothWith_even (b : Bool) (dirs dirs32 : Vec) (e : Mat) {fw dw : Nat} (h : fw % 2 = 0 ∨ dw % 2 = 0) :
    smoothWith b dirs dirs32 e fw dw = .error .valueError := by
  rw [smoothWith_eq, if_pos h]

theorem smoothWith_ok {b : Bool} {dirs dirs32 : Vec} {e : Mat} {fw dw : Nat} {res : Vec × Mat}
    (h : smoothWith b dirs dirs32 e fw dw = .ok res) :
    fw % 2 = 1 ∧ dw % 2 = 1 ∧ ∃ r', selOf b dirs dirs32 e fw dw = .ok r' ∧ res = (dirs, fill r' e dirs.length) := by
  rw [smoothWith_eq] at h
  split at h
  · cases h
  · rename_i hodd
    split at h
    · exact ⟨Nat.mod_two_ne_zero.mp (hodd ∘ Or.inl), Nat.mod_two_ne_zero.mp (hodd ∘ Or.inr), _, ‹_›, (Except.ok.inj h).symm⟩
    · cases h

theorem labelsOf_length (b : Bool) {dirs dirs32 : Vec} (hlen : dirs32.length = dirs.length) :
    (labelsOf b dirs dirs32).length = dirs.length := by
  unfold labelsOf
  cases b <;> simp [hlen, sortPerm_length]

theorem s2_length {b : Bool} {dirs dirs32 : Vec} {e : Mat} {dw : Nat} : (s2Of b dirs dirs32 e dw).length = e.length := by
  unfold s2Of; split <;> simp [takeCols_length]

/-- **the selection step**: output column `k` is the rolling-mean column found under the label `dirs32[k]`
    (column `k` itself when the labels already equal the stored ones and nothing is looked up) -/
theorem selOf_ok {b : Bool} {dirs dirs32 : Vec} {e : Mat} {fw dw : Nat} {r' : OMat}
    (h : selOf b dirs dirs32 e fw dw = .ok r') (i : Nat) {k : Nat} (hk : k < dirs32.length) :
    ocell r' i k = ocell (rolledOf b dirs dirs32 e fw dw) i
      (if lab2Of b dirs dirs32 dw = dirs then k else (lab2Of b dirs dirs32 dw).idxOf (getR dirs32 k)) := by
  unfold selOf at h
  by_cases hq : lab2Of b dirs dirs32 dw = dirs
  · rw [if_pos hq] at h ⊢
    rw [← Except.ok.inj h]
  · rw [if_neg hq] at h ⊢
    by_cases hall : ∀ d ∈ dirs32, d ∈ lab2Of b dirs dirs32 dw
    · rw [selCols_ok _ hall] at h
      rw [← Except.ok.inj h, ocell_sel _ _ i hk]
    · rw [selCols_err _ hall] at h
      simp at h

/-! ### bounds that hold for every storage order and both label variants -/

theorem rollCell_bounds_inrange {e : Mat} {nf nc fw dw i j : Nat} {v lo hi : Rat} (hfw : 0 < fw) (hdw : 0 < dw)
    (hv : rollCell e nf nc fw dw i j = some v)
    (h : ∀ i' < nf, ∀ j' < nc, lo ≤ cellAt e i' j' ∧ cellAt e i' j' ≤ hi) : lo ≤ v ∧ v ≤ hi := by
  rw [rollCell_eq_blockMean] at hv
  split at hv
  · rw [← Option.some.inj hv]
    rename_i hfit
    exact blockMean_bounds hfw hdw fun a ha b' hb => h _ (win_row ⟨hfit.1, hfit.2.1⟩ ha) _ (win_row hfit.2.2 hb)
  · simp at hv

theorem s2_inrange (b : Bool) {dirs dirs32 : Vec} {e : Mat} (dw : Nat) {lo hi : Rat} (hlen : dirs32.length = dirs.length)
    (h : ∀ i < e.length, ∀ j < dirs.length, lo ≤ cellAt e i j ∧ cellAt e i j ≤ hi) :
    ∀ i < e.length, ∀ c < (lab2Of b dirs dirs32 dw).length,
      lo ≤ cellAt (s2Of b dirs dirs32 e dw) i c ∧ cellAt (s2Of b dirs dirs32 e dw) i c ≤ hi := by
  have hsorted : ∀ i < e.length, ∀ j < dirs.length,
      lo ≤ cellAt (takeCols (sortPerm dirs) e) i j ∧ cellAt (takeCols (sortPerm dirs) e) i j ≤ hi := by
    intro i hi' j hj
    rw [cellAt_takeCols hi' (by rw [sortPerm_length]; exact hj)]
    exact h i hi' _ (getD_sortPerm_lt hj)
  intro i hi' c hc
  have hl := labelsOf_length b hlen
  unfold lab2Of at hc
  unfold s2Of
  split at hc
  · rename_i hcirc
    have hw : min dw dirs.length ≤ dirs.length := Nat.min_le_right _ _
    rw [padLabels_length (by rw [hl]; exact hw), hl] at hc
    rw [if_pos hcirc, cellAt_padRow (rect_sorted dirs e) hw (by rw [takeCols_length]; exact hi') hc]
    exact hsorted i hi' _ (Nat.mod_lt _ (hl ▸ isCircular_pos hcirc))
  · rename_i hcirc
    rw [if_neg hcirc]
    exact hsorted i hi' c (by rwa [hl] at hc)

theorem smoothWith_hull {b : Bool} {dirs dirs32 : Vec} {e : Mat} {fw dw : Nat} {res : Vec × Mat} {lo hi : Rat}
    (hlen : dirs32.length = dirs.length) (hres : smoothWith b dirs dirs32 e fw dw = .ok res)
    (h : ∀ i < e.length, ∀ j < dirs.length, lo ≤ cellAt e i j ∧ cellAt e i j ≤ hi) :
    ∀ i < e.length, ∀ k < dirs.length, lo ≤ cellAt res.2 i k ∧ cellAt res.2 i k ≤ hi := by
  obtain ⟨hf, hd, r', hsel, rfl⟩ := smoothWith_ok hres
  intro i hi' k hk
  simp only
  rw [cellAt_fill, if_pos ⟨hi', hk⟩]
  -- the cell is an input value, or a rolling mean over cells of the sorted (and padded) array
  rcases hcell : ocell r' i k with _ | v
  · exact h i hi' k hk
  · have key : ∀ j, ocell (rolledOf b dirs dirs32 e fw dw) i j = some v → lo ≤ v ∧ v ≤ hi := by
      intro j hj
      rw [rolledOf, ocell_rolling, s2_length] at hj
      split at hj
      · exact rollCell_bounds_inrange (pos_of_odd hf) (pos_of_odd hd) hj (s2_inrange b dw hlen h)
      · simp at hj
    exact key _ ((selOf_ok hsel i (by omega)).symm.trans hcell)

/-! ### closed form of the result -/

/-- cell of the closed form for sorted storage -/
def sortedCell (circ : Bool) (e : Mat) (nd fw dw i k : Nat) : Rat :=
  if circ then
    match rollCell (e.map (padRow (min dw nd))) e.length (nd + 2 * min dw nd) fw dw i (min dw nd + k) with
    | some v => v
    | none => cellAt e i k
  else
    match rollCell e e.length nd fw dw i k with
    | some v => v
    | none => cellAt e i k

/-- **closed form, both label variants**: if every requested label is among the labels `L` put on the sorted data,
    output column `k` is the sorted-storage closed form of the sorted array `S`, read at the position `p k` of the
    label `dirs32[k]` in `L` — provided `S` holds the stored column `k` there (which is what the unrepaired labelling
    breaks for unsorted storage) -/
theorem smoothWith_closed {b : Bool} {dirs dirs32 : Vec} {e : Mat} {fw dw : Nat} (hf : fw % 2 = 1) (hd : dw % 2 = 1)
    (hlen : dirs32.length = dirs.length) (hmem : ∀ d ∈ dirs32, d ∈ labelsOf b dirs dirs32)
    (hid : labelsOf b dirs dirs32 = dirs → ∀ k < dirs.length, (labelsOf b dirs dirs32).idxOf (getR dirs32 k) = k)
    (hfill : ∀ i < e.length, ∀ k < dirs.length,
      cellAt (takeCols (sortPerm dirs) e) i ((labelsOf b dirs dirs32).idxOf (getR dirs32 k)) = cellAt e i k) :
    smoothWith b dirs dirs32 e fw dw = .ok (dirs, (List.range e.length).map fun i => (List.range dirs.length).map fun k =>
      sortedCell (isCircular (labelsOf b dirs dirs32)) (takeCols (sortPerm dirs) e) dirs.length fw dw i
        ((labelsOf b dirs dirs32).idxOf (getR dirs32 k))) := by
  have hl := labelsOf_length b hlen
  have hw : min dw dirs.length ≤ (labelsOf b dirs dirs32).length := by rw [hl]; exact Nat.min_le_right _ _
  have hmem2 : ∀ d ∈ dirs32, d ∈ lab2Of b dirs dirs32 dw := by
    intro d hd'
    unfold lab2Of
    split
    · exact mem_padLabels _ (hmem d hd')
    · exact hmem d hd'
  obtain ⟨r', hsel⟩ : ∃ r', selOf b dirs dirs32 e fw dw = .ok r' := by
    unfold selOf
    split
    · exact ⟨_, rfl⟩
    · exact ⟨_, selCols_ok _ hmem2⟩
  rw [smoothWith_eq, if_neg (by rw [hf, hd]; decide), hsel]
  refine congrArg (fun m => Except.ok (dirs, m)) (tab_congr fun i hi k hk => ?_)
  have hk32 : k < dirs32.length := hlen.symm ▸ hk
  have hkm := hmem _ (getR_mem dirs32 k hk32)
  have hp : (labelsOf b dirs dirs32).idxOf (getR dirs32 k) < dirs.length := by
    rw [← hl]; exact List.idxOf_lt_length_iff.mpr hkm
  rw [selOf_ok hsel i hk32, rolledOf, ocell_rolling, s2_length, ← hfill i hi k hk]
  unfold lab2Of s2Of sortedCell
  by_cases hc : isCircular (labelsOf b dirs dirs32) = true
  · -- the padded labels are more than the stored ones, so the lookup takes place
    have hne : padLabels (min dw dirs.length) (labelsOf b dirs dirs32) ≠ dirs := by
      refine ne_of_apply_ne List.length ?_
      rw [padLabels_length hw, hl]
      exact Nat.ne_of_gt (Nat.lt_add_of_pos_right (Nat.mul_pos Nat.zero_lt_two
        (Nat.lt_min.mpr ⟨pos_of_odd hd, hl ▸ isCircular_pos hc⟩)))
    simp only [hc, if_true, if_neg hne, padLabels_length hw, hl, idxOf_padLabels hw hc hkm, takeCols_length]
    rw [if_pos ⟨hi, lt_padded hp (Nat.zero_le _)⟩]
    rfl
  · simp only [hc, Bool.false_eq_true, if_false, hl, takeCols_length]
    rw [ite_eq_right_iff.mpr fun he => (hid he k hk).symm, if_pos ⟨hi, hp⟩]
    rfl

theorem labelsOf_sorted (b : Bool) {dirs dirs32 : Vec} (hs : dirs.Pairwise (· < ·)) (hlen : dirs32.length = dirs.length) :
    labelsOf b dirs dirs32 = dirs32 := by
  unfold labelsOf
  cases b
  · simp
  · simp only [if_true]
    rw [sortPerm_of_sorted dirs hs, ← hlen]; exact map_getR_range dirs32

/-- **sorted storage**: the result in closed form (both label variants coincide) -/
theorem smoothWith_sorted (b : Bool) {dirs dirs32 : Vec} {e : Mat} {fw dw : Nat} (hf : fw % 2 = 1) (hd : dw % 2 = 1)
    (hs : dirs.Pairwise (· < ·)) (hs32 : dirs32.Pairwise (· < ·)) (hlen : dirs32.length = dirs.length)
    (hrect : Rect e dirs.length) :
    smoothWith b dirs dirs32 e fw dw = .ok (dirs, (List.range e.length).map fun i => (List.range dirs.length).map fun k =>
      sortedCell (isCircular dirs32) e dirs.length fw dw i k) := by
  have hidx : ∀ k < dirs.length, dirs32.idxOf (getR dirs32 k) = k := fun k hk => idxOf_getR hs32.nodup (hlen.symm ▸ hk)
  have h := smoothWith_closed (b := b) (e := e) hf hd hlen
  rw [labelsOf_sorted b hs hlen, sortPerm_of_sorted dirs hs, takeCols_range hrect] at h
  rw [h (fun d hd' => hd') (fun _ => hidx) fun i _ k hk => by rw [hidx k hk]]
  exact congrArg (fun m => Except.ok (dirs, m)) (tab_congr fun i _ k hk => by rw [hidx k hk])

/-! ### the closed form in terms of block means -/

/-- sorted storage, no wrap: value where the whole window fits -/
theorem sortedCell_flat_fits {e : Mat} {nd fw dw i k : Nat}
    (h : fw / 2 ≤ i ∧ i + fw / 2 < e.length ∧ dw / 2 ≤ k ∧ k + dw / 2 < nd) :
    sortedCell false e nd fw dw i k = blockMean e (i - fw / 2) fw dw (flatCol dw k) := by
  simp only [sortedCell, rollCell_eq_blockMean, Bool.false_eq_true, if_false, if_pos h]

theorem sortedCell_flat_edge {e : Mat} {nd fw dw i k : Nat}
    (h : ¬ (fw / 2 ≤ i ∧ i + fw / 2 < e.length ∧ dw / 2 ≤ k ∧ k + dw / 2 < nd)) :
    sortedCell false e nd fw dw i k = cellAt e i k := by
  simp only [sortedCell, rollCell_eq_blockMean, Bool.false_eq_true, if_false, if_neg h]

/-- entry `b` of the window around padded position `w + k` reads the original column `k + nd − h + b` (mod `nd`) -/
theorem pad_col {nd w h : Nat} (k b : Nat) (hh : h ≤ w) (hle : w ≤ nd) : w + k - h + b + nd - w = k + nd - h + b := by
  have h1 : h ≤ w + k := Nat.le_add_right_of_le hh
  have h2 : h ≤ k + nd := Nat.le_add_left_of_le (Nat.le_trans hh hle)
  apply Nat.sub_eq_of_eq_add
  rw [← Nat.sub_add_comm h1, ← Nat.sub_add_comm (Nat.le_add_right_of_le h1), ← Nat.sub_add_comm h2,
    ← Nat.sub_add_comm (Nat.le_add_right_of_le h2)]
  congr 1
  ac_rfl

/-- sorted storage, full circle, window not larger than the grid: value where the frequency window fits -/
theorem sortedCell_circ_fits {e : Mat} {nd fw dw i k : Nat} (hrect : Rect e nd) (hle : dw ≤ nd) (hk : k < nd)
    (h : fw / 2 ≤ i ∧ i + fw / 2 < e.length) :
    sortedCell true e nd fw dw i k = blockMean e (i - fw / 2) fw dw (circCol nd dw k) := by
  have hq : dw / 2 ≤ dw := Nat.div_le_self _ _
  simp only [sortedCell, rollCell_eq_blockMean, if_true, Nat.min_eq_left hle,
    if_pos (show fw / 2 ≤ i ∧ i + fw / 2 < e.length ∧ dw / 2 ≤ dw + k ∧ dw + k + dw / 2 < nd + 2 * dw from
      ⟨h.1, h.2, Nat.le_add_right_of_le hq, lt_padded hk hq⟩)]
  refine congrArg (· / _) (blockSum_congr fun a ha b hb => ?_)
  rw [flatCol, cellAt_padRow hrect hle (win_row h ha)
    (Nat.lt_of_le_of_lt (Nat.add_le_add_right (Nat.sub_le _ _) _) (lt_padded hk hb.le)), pad_col k b hq hle, circCol]

theorem sortedCell_circ_edge {e : Mat} {fw i : Nat} (nd dw k : Nat) (h : ¬ (fw / 2 ≤ i ∧ i + fw / 2 < e.length)) :
    sortedCell true e nd fw dw i k = cellAt e i k := by
  simp only [sortedCell, rollCell_eq_blockMean, if_true]
  rw [if_neg fun hh => h ⟨hh.1, hh.2.1⟩]

theorem sortedCell_one {circ : Bool} {e : Mat} {nd i k : Nat} (hrect : Rect e nd) (hi : i < e.length) (hk : k < nd)
    (h2 : circ = true → 2 ≤ nd) : sortedCell circ e nd 1 1 i k = cellAt e i k := by
  cases circ
  · rw [sortedCell_flat_fits ⟨Nat.zero_le _, hi, Nat.zero_le _, hk⟩, blockMean_one]; rfl
  · rw [sortedCell_circ_fits hrect (Nat.le_of_succ_le (h2 rfl)) hk ⟨Nat.zero_le _, hi⟩, blockMean_one]
    exact congrArg _ ((Nat.add_mod_right k nd).trans (Nat.mod_eq_of_lt hk))

/-! ### circular shift of the direction axis -/

/-- `np.roll(e, -s, axis=dir)`: column `j` of the result is column `(j + s) mod n` of the input -/
def rollCols (s : Nat) (e : Mat) : Mat := e.map fun r => (List.range r.length).map fun j => getR r ((j + s) % r.length)

theorem rollCols_length (s : Nat) (e : Mat) : (rollCols s e).length = e.length := by simp [rollCols]

theorem rect_rollCols (s : Nat) {e : Mat} {nd : Nat} (h : Rect e nd) : Rect (rollCols s e) nd :=
  rect_map fun r hr => by simp [h r hr]

theorem cellAt_rollCols (s : Nat) {e : Mat} {nd i j : Nat} (h : Rect e nd) (hi : i < e.length) (hj : j < nd) :
    cellAt (rollCols s e) i j = cellAt e i ((j + s) % nd) := by
  have hr : (e[i]).length = nd := h _ (List.getElem_mem hi)
  rw [rollCols, cellAt_map j hi, cellAt_eq_getR _ hi, getR_tab, hr, if_pos hj]

theorem rollCols_tab (s nf nd : Nat) (g : Nat → Nat → Rat) :
    rollCols s ((List.range nf).map fun i => (List.range nd).map (g i)) =
      (List.range nf).map fun i => (List.range nd).map fun k => g i ((k + s) % nd) := by
  rw [rollCols, List.map_map]
  refine List.map_congr_left fun i _ => ?_
  simp only [Function.comp, List.length_map, List.length_range]
  exact List.map_congr_left fun k hk => by
    rw [getR_tab, if_pos (Nat.mod_lt _ (Nat.zero_lt_of_lt (List.mem_range.mp hk)))]

theorem circCol_shift {nd dw : Nat} (k s b : Nat) (hle : dw ≤ nd) :
    (circCol nd dw k b + s) % nd = circCol nd dw ((k + s) % nd) b := by
  have hq : dw / 2 ≤ nd := Nat.le_trans (Nat.div_le_self _ _) hle
  rw [circCol, circCol, Nat.add_sub_assoc hq, Nat.add_sub_assoc hq, Nat.mod_add_mod, Nat.add_assoc ((k + s) % nd),
    Nat.mod_add_mod]
  congr 1
  ac_rfl

theorem sortedCell_circ_shift {e : Mat} {nd dw i k : Nat} (fw s : Nat) (hrect : Rect e nd) (hle : dw ≤ nd)
    (hi : i < e.length) (hk : k < nd) :
    sortedCell true (rollCols s e) nd fw dw i k = sortedCell true e nd fw dw i ((k + s) % nd) := by
  have hn : 0 < nd := by omega
  by_cases hfit : fw / 2 ≤ i ∧ i + fw / 2 < e.length
  · rw [sortedCell_circ_fits (rect_rollCols s hrect) hle hk (by rw [rollCols_length]; exact hfit),
      sortedCell_circ_fits hrect hle (Nat.mod_lt _ hn) hfit]
    unfold blockMean
    congr 1
    apply blockSum_congr
    intro a ha b hb
    rw [cellAt_rollCols s hrect (win_row hfit ha) (circCol_lt dw k b hn), circCol_shift k s b hle]
  · rw [sortedCell_circ_edge nd dw k (by rw [rollCols_length]; exact hfit), sortedCell_circ_edge nd dw _ hfit,
      cellAt_rollCols s hrect hi hk]

/-! ### the repaired labelling (`sortedLabels = true`): any storage order reduces to sorted storage -/

/-- the labels in sorted order -/
def sortedDirs (dirs : Vec) : Vec := (sortPerm dirs).map (getR dirs)

theorem sortedDirs_perm (dirs : Vec) : (sortedDirs dirs).Perm dirs := by
  have := (sortPerm_perm dirs).map (getR dirs)
  rwa [map_getR_range] at this

theorem sortedDirs_length (dirs : Vec) : (sortedDirs dirs).length = dirs.length := (sortedDirs_perm dirs).length_eq

theorem sortedDirs_nodup {dirs : Vec} (hn : dirs.Nodup) : (sortedDirs dirs).Nodup :=
  (sortedDirs_perm dirs).nodup_iff.mpr hn

theorem sortedDirs_pairwise {dirs : Vec} (hn : dirs.Nodup) : (sortedDirs dirs).Pairwise (· < ·) := by
  have h1 : (sortedDirs dirs).Pairwise (· ≤ ·) := by
    unfold sortedDirs; rw [List.pairwise_map]; exact sortPerm_pairwise dirs
  have h2 : (sortedDirs dirs).Pairwise (· ≠ ·) := sortedDirs_nodup hn
  exact (h1.and h2).imp fun ⟨hle, hne⟩ => lt_of_le_of_ne hle hne

theorem idxOf_sortedDirs {dirs : Vec} {k : Nat} (hn : dirs.Nodup) (hk : k < dirs.length) :
    (sortedDirs dirs).idxOf (getR dirs k) = (sortPerm dirs).idxOf k := by
  have hj : (sortPerm dirs).idxOf k < (sortedDirs dirs).length := by rw [sortedDirs_length]; exact idxOf_sortPerm_lt hk
  have : (sortedDirs dirs)[(sortPerm dirs).idxOf k] = getR dirs k := by simp [sortedDirs]
  rw [← this]; exact (sortedDirs_nodup hn).idxOf_getElem _ hj

/-- **repaired code, any storage order**: the result is the sorted-storage result read back in stored order -/
theorem smoothWith_repaired {dirs : Vec} (e : Mat) {fw dw : Nat} (hf : fw % 2 = 1) (hd : dw % 2 = 1) (hn : dirs.Nodup) :
    smoothWith true dirs dirs e fw dw = .ok (dirs, (List.range e.length).map fun i => (List.range dirs.length).map fun k =>
      sortedCell (isCircular (sortedDirs dirs)) (takeCols (sortPerm dirs) e) dirs.length fw dw i ((sortPerm dirs).idxOf k)) := by
  have h := smoothWith_closed (b := true) (dirs32 := dirs) (e := e) hf hd rfl
  rw [show labelsOf true dirs dirs = sortedDirs dirs from rfl] at h
  rw [h (fun d hd' => (sortedDirs_perm dirs).mem_iff.mpr hd') (fun he k hk => by rw [he]; exact idxOf_getR hn hk)
    fun i hi k hk => by rw [idxOf_sortedDirs hn hk]; exact cellAt_sorted_idxOf hi hk]
  exact congrArg (fun m => Except.ok (dirs, m)) (tab_congr fun i _ k hk => by rw [idxOf_sortedDirs hn hk])

/-! ### circular shift in label space, for any storage order -/

/-- the spectrum moved by `s` bins round the direction circle (labels unchanged), for any storage order:
    the bin labelled with the `r`-th smallest direction receives the value of the `(r+s)`-th -/
def rollSorted (s : Nat) (dirs : Vec) (e : Mat) : Mat :=
  e.map fun r => (List.range dirs.length).map fun k =>
    getR r ((sortPerm dirs).getD (((sortPerm dirs).idxOf k + s) % dirs.length) 0)

theorem rollSorted_length (s : Nat) (dirs : Vec) (e : Mat) : (rollSorted s dirs e).length = e.length := by
  simp [rollSorted]

theorem cellAt_rollSorted (s : Nat) {dirs : Vec} {e : Mat} {i k : Nat} (hi : i < e.length) (hk : k < dirs.length) :
    cellAt (rollSorted s dirs e) i k =
      cellAt e i ((sortPerm dirs).getD (((sortPerm dirs).idxOf k + s) % dirs.length) 0) := by
  rw [rollSorted, cellAt_map k hi, cellAt_eq_getR _ hi, getR_tab, if_pos hk]

theorem rollSorted_tab (s : Nat) {dirs : Vec} (nf : Nat) (g : Nat → Nat → Rat) (hn : 0 < dirs.length) :
    rollSorted s dirs ((List.range nf).map fun i => (List.range dirs.length).map (g i)) =
      (List.range nf).map fun i => (List.range dirs.length).map fun k =>
        g i ((sortPerm dirs).getD (((sortPerm dirs).idxOf k + s) % dirs.length) 0) := by
  rw [rollSorted, List.map_map]
  exact List.map_congr_left fun i _ => List.map_congr_left fun k _ => by
    rw [getR_tab, if_pos (getD_sortPerm_lt (Nat.mod_lt _ hn))]

theorem takeCols_rollSorted (s : Nat) {dirs : Vec} (e : Mat) (hn : 0 < dirs.length) :
    takeCols (sortPerm dirs) (rollSorted s dirs e) = rollCols s (takeCols (sortPerm dirs) e) := by
  refine ext_cellAt (rect_sorted dirs _) (rect_rollCols s (rect_sorted dirs e))
    (by rw [takeCols_length, rollSorted_length, rollCols_length, takeCols_length]) fun i hi j hj => ?_
  rw [rollCols_length, takeCols_length] at hi
  have hj' : j < (sortPerm dirs).length := by rw [sortPerm_length]; exact hj
  rw [cellAt_takeCols (by rw [rollSorted_length]; exact hi) hj', cellAt_rollSorted s hi (getD_sortPerm_lt hj),
    idxOf_getD_sortPerm hj, cellAt_rollCols s (rect_sorted dirs e) (by rw [takeCols_length]; exact hi) hj,
    cellAt_takeCols hi (by rw [sortPerm_length]; exact Nat.mod_lt _ hn)]

/-! ### every matrix is bounded -/

/-- an entry of a list (or the default, of weight 0) weighs no more than the whole list -/
theorem getD_le_sum_map {α : Type} (g : α → Rat) (hg : ∀ x, 0 ≤ g x) (d : α) (hd : g d = 0) (l : List α) (i : Nat) :
    g (l.getD i d) ≤ (l.map g).sum := by
  induction l generalizing i with
  | nil => simp [hd]
  | cons a t ih =>
    have ht : 0 ≤ (t.map g).sum := List.sum_nonneg fun x hx => by obtain ⟨y, _, rfl⟩ := List.mem_map.mp hx; exact hg y
    cases i with
    | zero => simp only [List.getD_cons_zero, List.map_cons, List.sum_cons]; linarith
    | succ i => simp only [List.getD_cons_succ, List.map_cons, List.sum_cons]; linarith [ih i, hg a]

/-- all cells of a matrix (also the out-of-range ones, which read as 0) are bounded in absolute value -/
theorem exists_bound (e : Mat) : ∃ B, ∀ i j, absR (cellAt e i j) ≤ B := by
  refine ⟨(e.map fun r => (r.map absR).sum).sum, fun i j => ?_⟩
  have hrow : ∀ r : Vec, 0 ≤ (r.map absR).sum := fun r =>
    List.sum_nonneg fun x hx => by obtain ⟨y, _, rfl⟩ := List.mem_map.mp hx; exact absR_nonneg y
  unfold cellAt getR
  exact le_trans (getD_le_sum_map absR absR_nonneg 0 rfl (e.getD i []) j)
    (getD_le_sum_map (fun r : Vec => (r.map absR).sum) hrow [] rfl e i)

theorem exists_upper (e : Mat) : ∃ hi, ∀ i j, cellAt e i j ≤ hi := by
  obtain ⟨B, h⟩ := exists_bound e
  exact ⟨B, fun i j => le_trans (le_absR _).1 (h i j)⟩

theorem exists_lower (e : Mat) : ∃ lo, ∀ i j, lo ≤ cellAt e i j := by
  obtain ⟨B, h⟩ := exists_bound e
  exact ⟨-B, fun i j => by linarith [h i j, (le_absR (cellAt e i j)).2]⟩

end WS.Smooth
