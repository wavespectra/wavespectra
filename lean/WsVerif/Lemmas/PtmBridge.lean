import WsVerif.Lemmas.Assembly
import WsVerif.Model.NpArr
/-!
Helper lemmas for `Props/C03ptm.lean`: the list-level forms that `harness/translate_ptm.py` generates from the statements of
`np_ptm1/2/3` (folds over `List.range`, `+=` on list slots, `argsort` + fancy indexing, append loops) are the recursive /
`map` forms of `Model/Assembly.lean`, projected to the returned arrays (`Part.vals`).

Nothing here depends on generated code.
-/
namespace WS.PtmBridge
open WS WS.Assembly

/-! ## the three per-bin arrays of the source, read off the model's list of bins -/

/-- `spectrum` (flattened) -/
def bE (bins : List Bin) : List Rat := bins.map fun b => b.e
/-- `watershed_map` (flattened) -/
def bL (bins : List Bin) : List Nat := bins.map fun b => b.lab
/-- `windseamask` (flattened) -/
def bW (bins : List Bin) : List Bool := bins.map fun b => b.ws
/-- the returned arrays of a list of model partitions (the masks are the model's bookkeeping, the source has none) -/
def vals (ps : List Part) : List (List Rat) := ps.map fun p => p.vals

/-- any three arrays of one shape are the arrays of a list of bins -/
def mkBins (E : List Rat) (labs : List Nat) (ws : List Bool) : List Bin :=
  List.zipWith (fun (x : Rat) (lw : Nat × Bool) => (⟨x, lw.1, lw.2⟩ : Bin)) E (List.zip labs ws)

theorem bE_mkBins (E : List Rat) (labs : List Nat) (ws : List Bool) (h1 : labs.length = E.length)
    (h2 : ws.length = E.length) : bE (mkBins E labs ws) = E :=
  List.ext_getElem (by simp [mkBins, bE, h1, h2]) fun i _ _ => by simp [mkBins, bE]

theorem bL_mkBins (E : List Rat) (labs : List Nat) (ws : List Bool) (h1 : labs.length = E.length)
    (h2 : ws.length = E.length) : bL (mkBins E labs ws) = labs :=
  List.ext_getElem (by simp [mkBins, bL, h1, h2]) fun i _ _ => by simp [mkBins, bL]

theorem bW_mkBins (E : List Rat) (labs : List Nat) (ws : List Bool) (h1 : labs.length = E.length)
    (h2 : ws.length = E.length) : bW (mkBins E labs ws) = ws :=
  List.ext_getElem (by simp [mkBins, bW, h1, h2]) fun i _ _ => by simp [mkBins, bW]

/-! ## array primitives -/

theorem maxNat_bL (bins : List Bin) : Np.maxNat (bL bins) = nparts bins := by
  induction bins with
  | nil => rfl
  | cons b t ih =>
    simp only [bL, Np.maxNat, List.map_cons, List.foldr_cons, nparts] at ih ⊢
    rw [ih]

theorem zeros_vals (bins : List Bin) : (zeros bins).vals = Np.zerosLike (bE bins) := by
  simp only [zeros, select, Np.zerosLike, bE]
  induction bins with
  | nil => rfl
  | cons b t ih => simp only [List.map_cons, ih]; simp

theorem basin_vals (bins : List Bin) (k : Nat) :
    (basin bins k).vals = Np.whereAS (Np.eqS (bL bins) k) (bE bins) 0 := by
  simp only [basin, select, Np.whereAS, Np.eqS, bL, bE, List.zipWith_map_left, List.zipWith_map_right]
  induction bins with
  | nil => rfl
  | cons b t ih => simp

theorem add_vals (a b : Part) : (a.add b).vals = Np.add a.vals b.vals := rfl

theorem whereWs_vals (bins : List Bin) (p : Part) : (whereWs bins p).vals = Np.whereAS (bW bins) p.vals 0 := by
  simp [whereWs, Np.whereAS, bW, List.zipWith_map_left]

theorem whereNotWs_vals (bins : List Bin) (p : Part) : (whereNotWs bins p).vals = Np.whereSA (bW bins) 0 p.vals := by
  simp [whereNotWs, Np.whereSA, bW, List.zipWith_map_left]

/-- `part[windseamask].sum()` (select, then sum) is the model's sum of `where(ws ∧ lab = k, e, 0)` -/
theorem maskSel_sum (bins : List Bin) (k : Nat) :
    Np.sum (Np.maskSel (basin bins k).vals (bW bins)) = wsNum bins k := by
  induction bins with
  | nil => rfl
  | cons b t ih =>
    simp only [Np.sum, Np.maskSel, basin, select, bW, wsNum] at ih ⊢
    simp only [List.map_cons, List.zip_cons_cons, List.sum_cons, List.filter_cons]
    cases hw : b.ws
    · rw [if_neg Bool.false_ne_true, ih, Bool.false_and, if_neg Bool.false_ne_true, zero_add]
    · rw [if_pos rfl, List.map_cons, List.sum_cons, ih, Bool.true_and]

theorem sum_basin (bins : List Bin) (k : Nat) : Np.sum (basin bins k).vals = wsDen bins k := rfl

theorem fdiv_gt (num den wscut : Rat) :
    Np.FDiv.gt (Np.fdiv num den) wscut = (if den = 0 then decide (0 < num) else decide (wscut < num / den)) := by
  unfold Np.fdiv
  by_cases hd : den = 0
  · simp only [hd, if_true]
    by_cases hp : 0 < num
    · simp [hp, Np.FDiv.gt]
    · by_cases hn : num < 0 <;> simp [hp, hn, Np.FDiv.gt]
  · simp [hd, Np.FDiv.gt]

/-- the guarded comparison of the generated code is the model's `isWindSea` -/
theorem windsea_test (wscut : Rat) (bins : List Bin) (k : Nat) :
    Np.FDiv.gt (Np.fdiv (Np.sum (Np.maskSel (basin bins k).vals (bW bins))) (Np.sum (basin bins k).vals)) wscut
      = isWindSea wscut bins k := by
  rw [maskSel_sum, sum_basin, fdiv_gt]; rfl

/-! ## loops -/

/-- `for i in …: l.append(g(i))` -/
theorem foldl_append_map {α β} (g : β → α) (xs : List β) (init : List α) :
    List.foldl (fun acc i => acc ++ [g i]) init xs = init ++ xs.map g := by
  induction xs generalizing init with
  | nil => simp
  | cons x xs ih => simp [ih]

/-- `for i in range(n): l.append(z)` -/
theorem foldl_append_const {α} (z : α) (n : Nat) (init : List α) :
    List.foldl (fun acc (_ : Nat) => acc ++ [z]) init (List.range n) = init ++ List.replicate n z := by
  rw [foldl_append_map (fun _ => z)]
  congr 1
  induction n with
  | zero => rfl
  | succ n ih => rw [List.range_succ, List.map_append, ih, List.replicate_succ']; rfl

theorem range2_one (n : Nat) : Np.range2 1 (n + 1) = List.range' 1 n := by simp [Np.range2]

theorem labels_eq_map (bins : List Bin) : labels bins = (List.range (nparts bins)).map (· + 1) := by
  simp [labels, List.range'_eq_map_range, Nat.add_comm]

theorem modify_append_length {α} (f : α → α) (A : List α) (x : α) (r : List α) :
    (A ++ x :: r).modify A.length f = A ++ f x :: r := by
  induction A with
  | nil => simp
  | cons a A ih => simp [ih]


/-! ## the assignment loop of PTM1 / PTM2

The generated loop threads a tuple (accumulated wind-sea array(s), list of swell slots) through `List.range nparts` and
updates slot `ipart` in place; the model maps over the labels `1..nparts` and folds the accumulators separately. -/

/-- the swell slots of the generated loop: round `i` touches slot `i` only, so after `m` rounds the first `m` slots
    are final and the others still hold the initial `z` -/
theorem slots_loop {β} (c : Nat → Bool) (slotE : β → Nat → β) (z : β) (m r : Nat) :
    List.foldl (fun l i => if c i then l else l.modify i fun x => slotE x i) (List.replicate (m + r) z) (List.range m) =
      (List.range m).map (fun i => if c i then z else slotE z i) ++ List.replicate r z := by
  induction m generalizing r with
  | zero => rw [Nat.zero_add]; rfl
  | succ m ih =>
    rw [List.range_succ, List.foldl_append, Nat.add_right_comm, Nat.add_assoc, ih, List.foldl_cons, List.foldl_nil,
      List.map_append, List.append_assoc, List.replicate_succ, List.map_cons, List.map_nil, List.singleton_append]
    cases c m
    · have := modify_append_length (fun x => slotE x m) ((List.range m).map fun i => if c i then z else slotE z i) z
        (List.replicate r z)
      rw [List.length_map, List.length_range] at this
      rw [if_neg Bool.false_ne_true, this]
      rfl
    · rfl

theorem wseaAcc_vals (wscut : Rat) (bins : List Bin) (ks : List Nat) (acc : Part) :
    (wseaAcc wscut bins ks acc).vals
      = List.foldl (fun a k => if isWindSea wscut bins k then Np.add a (basin bins k).vals else a) acc.vals ks :=
  (List.foldl_hom Part.vals (fun a k => by cases isWindSea wscut bins k <;> rfl)).symm


theorem wsea2Acc_vals (wscut : Rat) (bins : List Bin) (ks : List Nat) (acc : Part) :
    (wsea2Acc wscut bins ks acc).vals
      = List.foldl (fun a k => if isWindSea wscut bins k then a else Np.add a (whereWs bins (basin bins k)).vals) acc.vals ks :=
  (List.foldl_hom Part.vals (fun a k => by cases isWindSea wscut bins k <;> rfl)).symm

/-- the slots of the generated loop for a slot update `upd k` on basin `k = i + 1` -/
theorem slots_bridge (bins : List Bin) (c : Nat → Bool) (upd : Nat → Part) :
    List.foldl (fun l i => if c (i + 1) then l else Np.modifyAt l i fun x => Np.add x (upd (i + 1)).vals)
        (List.replicate (nparts bins) (zeros bins).vals) (List.range (nparts bins)) =
      vals ((labels bins).map fun k => if c k then zeros bins else (zeros bins).add (upd k)) := by
  refine (slots_loop (fun i => c (i + 1)) (fun x i => Np.add x (upd (i + 1)).vals) _ _ 0).trans ?_
  rw [List.replicate_zero, List.append_nil, vals, labels_eq_map, List.map_map, List.map_map]
  refine List.map_congr_left fun i _ => ?_
  simp only [Function.comp_apply]
  cases c (i + 1) <;> rfl

/-- PTM1: the generated loop (any `step` that reads as below) ends in (wind-sea array, swell slots) of the model -/
theorem ptm1_loop_bridge (wscut : Rat) (bins : List Bin)
    (step : List Rat × List (List Rat) → Nat → List Rat × List (List Rat))
    (hstep : ∀ st i, step st i =
      if isWindSea wscut bins (i + 1) then (Np.add st.1 (basin bins (i + 1)).vals, st.2)
      else (st.1, Np.modifyAt st.2 i (fun x => Np.add x (basin bins (i + 1)).vals))) :
    List.foldl step ((zeros bins).vals, List.replicate (nparts bins) (zeros bins).vals) (List.range (nparts bins))
      = ((ptm1Wsea wscut bins).vals, vals (ptm1Slots wscut bins)) := by
  refine Prod.ext ?_ ?_
  · rw [ptm1Wsea, wseaAcc_vals, labels_eq_map, List.foldl_map]
    exact (List.foldl_hom Prod.fst fun st i => by rw [hstep]; cases isWindSea wscut bins (i + 1) <;> rfl).symm
  · rw [ptm1Slots, ← slots_bridge]
    exact (List.foldl_hom Prod.snd fun st i => by rw [hstep]; cases isWindSea wscut bins (i + 1) <;> rfl).symm

/-- PTM2: (primary wind sea, (secondary wind sea, swell slots)) -/
theorem ptm2_loop_bridge (wscut : Rat) (bins : List Bin)
    (step : List Rat × List Rat × List (List Rat) → Nat → List Rat × List Rat × List (List Rat))
    (hstep : ∀ st i, step st i =
      if isWindSea wscut bins (i + 1) then (Np.add st.1 (basin bins (i + 1)).vals, st.2.1, st.2.2)
      else (st.1, Np.add st.2.1 (whereWs bins (basin bins (i + 1))).vals,
            Np.modifyAt st.2.2 i (fun x => Np.add x (whereNotWs bins (basin bins (i + 1))).vals))) :
    List.foldl step ((zeros bins).vals, (zeros bins).vals, List.replicate (nparts bins) (zeros bins).vals)
        (List.range (nparts bins))
      = ((ptm1Wsea wscut bins).vals, (ptm2Wsea2 wscut bins).vals, vals (ptm2Slots wscut bins)) := by
  -- each of the three components evolves on its own
  refine Prod.ext ?_ (Prod.ext ?_ ?_)
  · rw [ptm1Wsea, wseaAcc_vals, labels_eq_map, List.foldl_map]
    exact (List.foldl_hom Prod.fst fun st i => by rw [hstep]; cases isWindSea wscut bins (i + 1) <;> rfl).symm
  · rw [ptm2Wsea2, wsea2Acc_vals, labels_eq_map, List.foldl_map]
    exact (List.foldl_hom (fun st : List Rat × List Rat × List (List Rat) => st.2.1) fun st i => by
      rw [hstep]; cases isWindSea wscut bins (i + 1) <;> rfl).symm
  · rw [ptm2Slots, ← slots_bridge]
    exact (List.foldl_hom (fun st : List Rat × List Rat × List (List Rat) => st.2.2) fun st i => by
      rw [hstep]; cases isWindSea wscut bins (i + 1) <;> rfl).symm

/-! ## the sort -/

/-- `np.array(l)[np.argsort([-key(s) for s in l])]` with ties in index order = the stable descending merge sort by `key` -/
theorem take_argsort (key : List Rat → Rat) (L : List (List Rat)) :
    Np.take L (Np.argsort (L.map fun s => -(key s))) = L.mergeSort fun a b => decide (key b ≤ key a) := by
  unfold Np.take Np.argsort
  simp only [List.length_map]
  have hl : ∀ i ∈ List.range L.length, ∀ j ∈ List.range L.length,
      decide ((L.map fun s => -(key s)).getD i 0 ≤ (L.map fun s => -(key s)).getD j 0)
        = decide (key (L.getD j []) ≤ key (L.getD i [])) := by
    intro i hi j hj
    have hi' : i < L.length := List.mem_range.mp hi
    have hj' : j < L.length := List.mem_range.mp hj
    simp [List.getD_eq_getElem?_getD, hi', hj']
  rw [List.map_mergeSort (s := fun a b => decide (key b ≤ key a)) hl]
  congr 1
  apply List.ext_getElem
  · simp
  · intro i h1 h2
    simp [List.getD_eq_getElem?_getD, h2]

theorem sort_bridge (key : Vec → Rat) (slots : List Part) :
    Np.take (vals slots) (Np.argsort ((vals slots).map fun s => -(key s))) = vals (sortSlots key slots) := by
  rw [take_argsort]
  exact map_mergeSort_key (fun p : Part => p.vals) key slots

theorem vals_length (ps : List Part) : (vals ps).length = ps.length := by simp [vals]

/-! ## the requested count -/

/-- truncate / pad, as the generated `if nparts > s … elif nparts < s …` reads after the append loop is summed up -/
theorem fit_bridge (bins : List Bin) (n s : Nat) (sorted : List Part) :
    (if n > s then List.take s (vals sorted)
      else if n < s then vals sorted ++ List.replicate (s - (vals sorted).length) (zeros bins).vals
      else vals sorted) = vals (fitCount bins n s sorted) := by
  unfold fitCount
  by_cases h1 : s < n
  · simp [h1, vals, List.map_take]
  · by_cases h2 : n < s
    · simp [h1, h2, vals]
    · simp [h1, h2]

theorem dropNull_bridge (sorted : List Part) :
    List.filter (fun s => decide (Np.sum s > 0)) (vals sorted) = vals (dropNull sorted) := by
  simp only [vals, dropNull, List.filter_map, Np.sum]
  rfl

/-! ## PTM3 -/

theorem ptm3_slots_bridge (bins : List Bin) :
    (List.range' 1 (nparts bins)).map (fun k => Np.whereAS (Np.eqS (bL bins) k) (bE bins) 0) = vals (ptm3Slots bins) := by
  simp [vals, ptm3Slots, labels, basin_vals]

end WS.PtmBridge
