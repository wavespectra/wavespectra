import WsVerif.Model.TrackNp
import WsVerif.Model.TrkRt
import WsVerif.Lemmas.Track
/-!
# Helper lemmas for `Props/C19trk.lean`: the regenerated tracking kernels = the hand-written model

The generated definitions (`Gen/TrackKernels.lean`) are folds over explicit lists with tuple state, written in the
vocabulary of `Model/TrkRt.lean`; the model (`Model/Track.lean`) is structural recursion over `Match` / `Option Nat`.
This file states the loop bodies once more, verbatim (`gStep`, `pdGen`, `tStep1`, `tCell`, `tCol`; the property file
shows by `rfl` that the generated text *is* a fold of these) and proves the equalities by induction on the loops.
-/
namespace WS.TrkBridge
open WS WS.Track WS.Trk

/-! ## the stored distance: `some 999` for "outside the thresholds" -/

/-- the number the code stores for a model entry: the value, or the sentinel 999 -/
def enc : Option Rat → Option Rat
  | some x => some x
  | none => some 999

/-- candidate tuple of the code for a candidate of the model -/
def emb (x : Nat × Rat) : Nat × Option Rat := (x.1, some x.2)

/-- entry of `partition_distance` as the generated view computes it, from the three threshold entries and the four
    statistics -/
def entryO (ddmax dfmax dfmin fc dc fpv dp : Option Rat) : Option Rat :=
  if (olt (oabs (osub (omod (oadd (osub dc dp) (some (180 : Rat))) (some (360 : Rat))) (some (180 : Rat)))) ddmax &&
      (olt (osub fc fpv) dfmax && ogt (osub fc fpv) dfmin)) then
    oadd (odiv (oabs (osub fc fpv)) (omax dfmax (oabs dfmin)))
      (odiv (oabs (osub (omod (oadd (osub dc dp) (some (180 : Rat))) (some (360 : Rat))) (some (180 : Rat)))) ddmax)
  else some (999 : Rat)

theorem entryO_eq (thr : Thr) (p : Nat) (fc dc fpv dp : Option Rat) :
    entryO (some (ddpmMax thr p)) (some (dfpMax thr p)) (dfpMin thr p) fc dc fpv dp =
      enc (distEntry thr p fc dc fpv dp) := by
  unfold entryO
  simp only [Bool.and_eq_true]
  -- a NaN operand makes one of the three comparisons `false`, and the model's entry `none`
  cases fc; · exact if_neg fun h => nomatch h.2.1
  cases dc; · exact if_neg fun h => nomatch h.1
  cases fpv; · exact if_neg fun h => nomatch h.2.1
  cases dp; · exact if_neg fun h => nomatch h.1
  unfold distEntry
  cases dfpMin thr p; · exact if_neg fun h => nomatch h.2.2
  rename_i fc dc fpv dp lo
  -- on numbers the comparisons are those of `within` and the value is `distVal`
  dsimp only
  by_cases hw : within thr p lo (ddpmOf dc dp) (fc - fpv)
  · rw [if_pos hw, if_pos ⟨decide_eq_true hw.1, decide_eq_true hw.2.1, decide_eq_true hw.2.2⟩]
    rfl
  · rw [if_neg hw, if_neg fun h => hw ⟨of_decide_eq_true h.1, of_decide_eq_true h.2.1, of_decide_eq_true h.2.2⟩]
    rfl

theorem oat_replicate (b : Option Rat) (n p : Nat) (hp : p < n) : oat (List.replicate n b) p = b := by
  rw [oat, List.getD_eq_getElem?_getD, List.getElem?_replicate, if_pos hp]
  rfl

theorem oat_cons_replicate (x b : Option Rat) (n p : Nat) (hp : p < n) :
    oat ([x] ++ List.replicate (n - 1) b) p = if p = 0 then x else b := by
  cases p with
  | zero => rfl
  | succ q => exact oat_replicate b (n - 1) q (Nat.lt_sub_of_add_lt hp)

theorem oat_zipWith_lift2 (f : Rat → Rat → Rat) (A B : List (Option Rat)) (p : Nat) :
    oat (List.zipWith (fun a b => lift2 f a b) A B) p = lift2 f (oat A p) (oat B p) := by
  simp only [oat, List.getD_eq_getElem?_getD, List.getElem?_zipWith]
  rcases A[p]? with _ | _ | a <;> rcases B[p]? with _ | _ | b <;> rfl

theorem oat_map_lift1 (f : Rat → Rat) (A : List (Option Rat)) (p : Nat) :
    oat (List.map (fun a => lift1 f a) A) p = lift1 f (oat A p) := by
  simp only [oat, List.getD_eq_getElem?_getD, List.getElem?_map]
  cases A[p]? <;> rfl

/-! ## the generated view `partition_distance` -/

/-- the view `partition_distance` of the generated `trkMatch`, verbatim (the property file checks this by `rfl`) -/
def pdGen (fp dpm : List (List (Option Rat))) (dfp_sea_max : Option Rat)
    (dfp_swell_max ddpm_sea_max ddpm_swell_max : Rat) : Nat → Nat → Option Rat :=
  let ddpm : Nat → Nat → Option Rat := fun i j => (Trk.oabs (Trk.osub (Trk.omod (Trk.oadd (Trk.osub (Trk.oat (Trk.col dpm 1) i) (Trk.oat (Trk.col dpm 0) j)) (some (180 : Rat))) (some (360 : Rat))) (some (180 : Rat))))
  let dfp : Nat → Nat → Option Rat := fun i j => (Trk.osub (Trk.oat (Trk.col fp 1) i) (Trk.oat (Trk.col fp 0) j))
  let ddpm_max : List (Option Rat) := ([(some ddpm_sea_max)] ++ (List.replicate ((Trk.nrows dpm) - 1) (some ddpm_swell_max)))
  let dfp_max : List (Option Rat) := (List.replicate (Trk.nrows fp) (some dfp_swell_max))
  let dfp_min : List (Option Rat) := ([dfp_sea_max] ++ (List.replicate ((Trk.nrows fp) - 1) (some (-dfp_swell_max))))
  fun i j => (if ((Trk.olt (ddpm i j) (Trk.oat ddpm_max j)) && ((Trk.olt (dfp i j) (Trk.oat dfp_max j)) && (Trk.ogt (dfp i j) (Trk.oat dfp_min j)))) then (Trk.oadd (Trk.odiv (Trk.oabs (dfp i j)) (Trk.oat (List.zipWith (fun a b => (Trk.omax a b)) dfp_max (List.map (fun a => (Trk.oabs a)) dfp_min)) j)) (Trk.odiv (ddpm i j) (Trk.oat ddpm_max j))) else (some (999 : Rat)))

theorem pdGen_entry (fp dpm : List (List (Option Rat))) (sea : Option Rat) (swell ddSea ddSwell : Rat) (i j : Nat) :
    pdGen fp dpm sea swell ddSea ddSwell i j =
      entryO (oat ([some ddSea] ++ List.replicate (nrows dpm - 1) (some ddSwell)) j)
        (oat (List.replicate (nrows fp) (some swell)) j)
        (oat ([sea] ++ List.replicate (nrows fp - 1) (some (-swell))) j)
        (oat (col fp 1) i) (oat (col dpm 1) i) (oat (col fp 0) j) (oat (col dpm 0) j) := by
  unfold pdGen entryO
  simp only [omax, oabs, oat_zipWith_lift2, oat_map_lift1]
  rfl

theorem pdGen_eq (fp dpm : List (List (Option Rat))) (sea : Option Rat) (swell ddSea ddSwell : Rat)
    (hshape : nrows dpm = nrows fp) (c p : Nat) (hp : p < nrows dpm) :
    pdGen fp dpm sea swell ddSea ddSwell c p =
      enc (distOf ⟨sea, swell, ddSea, ddSwell⟩ ⟨fp.getD 0 [], dpm.getD 0 []⟩ ⟨fp.getD 1 [], dpm.getD 1 []⟩ c p) := by
  rw [pdGen_entry, oat_cons_replicate _ _ _ _ hp, oat_replicate _ _ _ (hshape ▸ hp),
    oat_cons_replicate _ _ _ _ (hshape ▸ hp), distOf, ← entryO_eq]
  cases p <;> rfl

theorem enumFrom_map_range' {α : Type} (f : Nat → α) : ∀ (k i : Nat),
    enumFrom i (List.map f (List.range' i k)) = (List.range' i k).map fun p => (p, f p)
  | 0, _ => rfl
  | k + 1, i => congrArg ((i, f i) :: ·) (enumFrom_map_range' f k (i + 1))

theorem enum_map_range {α : Type} (f : Nat → α) (n : Nat) :
    enum (List.map f (List.range n)) = (List.range n).map fun p => (p, f p) := by
  unfold enum
  rw [List.range_eq_range']
  exact enumFrom_map_range' f n 0

theorem enumFrom_succ {α : Type} : ∀ (l : List α) (i : Nat),
    enumFrom (i + 1) l = (enumFrom i l).map fun x => (x.1 + 1, x.2)
  | [], _ => rfl
  | x :: xs, i => congrArg ((i + 1, x) :: ·) (enumFrom_succ xs (i + 1))

theorem mem_pyRange {a b it : Nat} : it ∈ pyRange a b ↔ a ≤ it ∧ it < b := by
  rw [pyRange, List.mem_range'_1]
  refine and_congr_right fun h => ?_
  rw [← Nat.sub_lt_iff_lt_add' h, Nat.lt_sub_iff_add_lt, Nat.sub_add_cancel h]

/-! ## `sorted(…, key=distance)[0]` = `argminFirst` -/

theorem insertBy_head {α : Type} (key : α → Option Rat) (x : α) (l : List α) :
    (insertBy key x l).head? =
      match l.head? with
      | none => some x
      | some y => if olt (key y) (key x) then some y else some x := by
  cases l with
  | nil => rfl
  | cons y ys =>
    unfold insertBy
    simp only [List.head?_cons]
    split <;> rfl

theorem sortedBy_head_emb : ∀ l : List (Nat × Rat),
    (sortedBy (fun x : Nat × Option Rat => x.2) (l.map emb)).head? = (argminFirst l).map emb
  | [] => rfl
  | x :: xs => by
    simp only [List.map_cons, sortedBy, insertBy_head, sortedBy_head_emb xs, argminFirst]
    cases argminFirst xs with
    | none => rfl
    | some y =>
      exact (if_congr decide_eq_true_iff rfl rfl).trans (apply_ite (Option.map emb) (y.2 < x.2) (some y) (some x)).symm

theorem cands_gen (pd : Nat → Nat → Option Rat) (dist : Dist) (n : Nat) (avail : List Nat) (c : Nat)
    (hpd : ∀ p, p < n → pd c p = enc (dist c p)) (hne : ∀ p x, dist c p = some x → x ≠ 999) :
    List.filterMap (fun el3 : Nat × Option Rat =>
        if (one el3.2 (some (999 : Rat)) && decide (el3.1 ∈ avail)) then some (el3.1, el3.2) else none)
      (enum (List.map (fun j => pd c j) (List.range n))) = (cands dist avail n c).map emb := by
  rw [enum_map_range, List.filterMap_map, cands, List.map_filterMap]
  refine List.filterMap_congr fun p hp => ?_
  simp only [Function.comp, hpd p (List.mem_range.1 hp)]
  cases hd : dist c p with
  | none => exact if_neg Bool.false_ne_true  -- the stored sentinel fails `d != 999`
  | some d =>
    -- a genuine distance passes `d != 999`; what is left is the same test on `available` with the same branches
    have h1 : one (some d) (some 999) = true := by simp [one, oeq, hne p d hd]
    exact (if_congr (by rw [enc, h1, Bool.true_and, decide_eq_true_iff]) rfl rfl).trans
      (apply_ite (Option.map emb) (p ∈ avail) (some (p, d)) none).symm

/-- body of `for ip_curr, fp_curr in enumerate(fp[:, 1])` as generated: state = (`matches`, `available`) -/
def gStep (pd : Nat → Nat → Option Rat) (n : Nat) (st : List Int × List Nat) (el : Nat × Option Rat) :
    List Int × List Nat :=
  if (!(isnan el.2)) then
    if decide ((sortedBy (fun x : Nat × Option Rat => x.2)
        (List.filterMap (fun el3 : Nat × Option Rat =>
          if (one el3.2 (some (999 : Rat)) && decide (el3.1 ∈ st.2)) then some (el3.1, el3.2) else none)
          (enum (List.map (fun j => pd el.1 j) (List.range n))))).length = 0) then
      (List.set st.1 el.1 (-888 : Int), st.2)
    else
      (List.set st.1 el.1
          (((List.getD (sortedBy (fun x : Nat × Option Rat => x.2)
            (List.filterMap (fun el3 : Nat × Option Rat =>
              if (one el3.2 (some (999 : Rat)) && decide (el3.1 ∈ st.2)) then some (el3.1, el3.2) else none)
              (enum (List.map (fun j => pd el.1 j) (List.range n))))) 0 default).1 : Nat) : Int),
        List.erase st.2 (List.getD (sortedBy (fun x : Nat × Option Rat => x.2)
            (List.filterMap (fun el3 : Nat × Option Rat =>
              if (one el3.2 (some (999 : Rat)) && decide (el3.1 ∈ st.2)) then some (el3.1, el3.2) else none)
              (enum (List.map (fun j => pd el.1 j) (List.range n))))) 0 default).1)
  else (st.1, st.2)

theorem getD_append_add {α : Type} (A B : List α) (i : Nat) (d : α) : (A ++ B).getD (A.length + i) d = B.getD i d := by
  rw [List.getD_eq_getElem?_getD, List.getElem?_append_right (Nat.le_add_right ..), Nat.add_sub_cancel_left]
  rfl

theorem set_append_add {α : Type} (A B : List α) (i : Nat) (v : α) :
    (A ++ B).set (A.length + i) v = A ++ B.set i v := by
  rw [List.set_append_right _ _ (Nat.le_add_right ..), Nat.add_sub_cancel_left]

theorem getD_append_length {α : Type} (A B : List α) (b d : α) : (A ++ b :: B).getD A.length d = b :=
  getD_append_add A (b :: B) 0 d

theorem set_append_length {α : Type} (A B : List α) (b v : α) :
    List.set (A ++ b :: B) A.length v = A ++ v :: B := set_append_add A (b :: B) 0 v

theorem gStep_spec (pd : Nat → Nat → Option Rat) (dist : Dist) (n : Nat)
    (hpd : ∀ c p, p < n → pd c p = enc (dist c p)) (hne : ∀ c p x, dist c p = some x → x ≠ 999)
    (A B : List Int) (avail : List Nat) (c : Nat) (hA : A.length = c) (x : Option Rat) :
    gStep pd n (A ++ emptyMarker :: B, avail) (c, x) =
      if x.isSome then
        match argminFirst (cands dist avail n c) with
        | none => (A ++ matchCode Match.fresh :: B, avail)
        | some (p, _) => (A ++ matchCode (Match.prev p) :: B, avail.erase p)
      else (A ++ matchCode Match.empty :: B, avail) := by
  subst hA
  unfold gStep
  cases x with
  | none => rfl
  | some v =>
    simp only [isnan, Option.isNone_some, Bool.not_false, if_true, Option.isSome_some]
    rw [cands_gen pd dist n avail A.length (hpd _) (hne _)]
    -- only the head of the sorted candidate list is read: it is the model's `argminFirst`
    have hh := sortedBy_head_emb (cands dist avail n A.length)
    generalize sortedBy _ ((cands dist avail n A.length).map emb) = S at hh ⊢
    cases S with
    | nil =>
      rw [Option.map_eq_none_iff.1 hh.symm]
      exact congrArg (·, avail) (set_append_length A B _ _)
    | cons s S =>
      obtain ⟨y, hy, rfl⟩ := Option.map_eq_some_iff.1 hh.symm
      rw [hy]
      exact congrArg (·, avail.erase y.1) (set_append_length A B _ _)

/-- the whole loop: positions `c, c+1, …` of `matches` (still `-999`) are overwritten by the model's matches -/
theorem gLoop_spec (pd : Nat → Nat → Option Rat) (dist : Dist) (n : Nat)
    (hpd : ∀ c p, p < n → pd c p = enc (dist c p)) (hne : ∀ c p x, dist c p = some x → x ≠ 999) :
    ∀ (cur : List (Option Rat)) (c : Nat) (A : List Int) (avail : List Nat), A.length = c →
      (List.foldl (gStep pd n) (A ++ List.replicate cur.length emptyMarker, avail) (enumFrom c cur)).1 =
        A ++ (matchLoop dist n (cur.map Option.isSome) c avail).map matchCode
  | [], c, A, avail, _ => rfl
  | x :: rest, c, A, avail, hA => by
    -- one step by `gStep_spec`; the rest of the loop continues behind the cell just written
    have ih := fun (m : Int) avail' => gLoop_spec pd dist n hpd hne rest (c + 1) (A ++ [m]) avail'
      (List.length_append.trans (congrArg (· + 1) hA))
    simp only [List.append_assoc, List.singleton_append] at ih
    rw [List.length_cons, List.replicate_succ, enumFrom, List.foldl_cons, gStep_spec pd dist n hpd hne A _ avail c hA x,
      List.map_cons, matchLoop]
    cases x with
    | none => exact ih _ _
    | some v =>
      cases argminFirst (cands dist avail n c) with
      | none => exact ih _ _
      | some y => exact ih _ _

/-- `available`, read off a vector of flags, is the model's `availOf` -/
theorem avail_enum : ∀ l : List Bool,
    List.filterMap (fun el : Nat × Bool => if el.2 then some el.1 else none) (enum l) = availOf l
  | [] => rfl
  | b :: l => by
    -- the tail is enumerated from 1: its result is that of `enum l`, shifted
    have e : List.filterMap (fun el : Nat × Bool => if el.2 then some el.1 else none) (enumFrom 1 l) =
        (availOf l).map (· + 1) := by
      rw [enumFrom_succ, List.filterMap_map, ← avail_enum l, List.map_filterMap]
      exact List.filterMap_congr fun x _ => by rcases x with ⟨i, _ | _⟩ <;> rfl
    rw [enum, enumFrom, List.filterMap_cons, e, availOf, availOf, List.length_cons, List.range_succ_eq_map,
      List.filter_cons, List.filter_map]
    cases b <;> rfl

theorem avail_gen (col0 : List (Option Rat)) :
    List.filterMap (fun el : Nat × Bool => if el.2 then some el.1 else none)
      (enum (List.map (fun b => !b) (List.map isnan col0))) = availOf (col0.map Option.isSome) := by
  rw [List.map_map, ← avail_enum]
  exact congrArg (fun f => List.filterMap _ (enum (List.map f col0))) (funext fun x => by cases x <;> rfl)

/-! ## `np_track_partitions`: numbering of the first step -/

/-- body of `for ip, vfp in enumerate(fp[:, 0])` as generated: state = (`part_ids`, `part_id`) -/
def tStep1 (st : List (List Int) × Int) (el : Nat × Option Rat) : List (List Int) × Int :=
  if (!(isnan el.2)) then (set2 st.1 el.1 0 st.2, st.2 + (1 : Int)) else (st.1, st.2)

theorem set2_zero (A B : List Int) (rest : List (List Int)) (v w : Int) :
    set2 ((A ++ v :: B) :: rest) A.length 0 w = (A ++ w :: B) :: rest :=
  congrArg (· :: rest) (set_append_length A B v w)

/-- the numbering loop over a column whose cells `A.length, …` still hold `-999` (the cells `A` already written are
    arbitrary integers here) -/
theorem tStep1_fold (rest : List (List Int)) (l : List (Option Rat)) (A : List Int) (next : Nat) :
    List.foldl tStep1 ((A ++ List.replicate l.length emptyMarker) :: rest, (next : Int)) (enumFrom A.length l) =
      ((A ++ (firstStep (l.map Option.isSome) next).1.map idCode) :: rest,
        ((firstStep (l.map Option.isSome) next).2 : Int)) := by
  induction l generalizing A next with
  | nil => rfl
  | cons x l ih =>
    have ih := fun (v : Int) next' => ih (A ++ [v]) next'
    simp only [List.append_assoc, List.singleton_append, List.length_append, List.length_singleton] at ih
    rw [List.length_cons, List.replicate_succ, enumFrom, List.foldl_cons, tStep1, set2_zero]
    cases x with
    | none => exact ih _ _
    | some v => exact ih _ _

theorem tLoop1_spec (rest : List (List Int)) : ∀ (l : List (Option Rat)) (i : Nat) (D : List (Option Nat)) (next : Nat),
    D.length = i →
    List.foldl tStep1 ((D.map idCode ++ List.replicate l.length emptyMarker) :: rest, (next : Int)) (enumFrom i l) =
      ((D ++ (firstStep (l.map Option.isSome) next).1).map idCode :: rest,
        ((firstStep (l.map Option.isSome) next).2 : Int)) := by
  intro l i D next hD
  rw [List.map_append, ← hD, ← List.length_map (f := idCode)]
  exact tStep1_fold rest l _ next

/-! ## `np_track_partitions`: propagation through time -/

/-- body of `for ip in range(fp.shape[0])` (inside `for it in …`) as generated -/
def tCell (it : Nat) (st : List (List Int) × Int) (ip : Nat) : List (List Int) × Int :=
  if decide (get2 st.1 ip it = (-888 : Int)) then (set2 st.1 ip it st.2, st.2 + (1 : Int))
  else
    if decide (get2 st.1 ip it ≠ (-999 : Int)) then
      (set2 st.1 ip it (get2i st.1 (get2 st.1 ip it) (it - 1)), st.2)
    else (st.1, st.2)

/-- body of `for it in range(1, times.size)` as generated -/
def tCol (P : Nat) (st : List (List Int) × Int) (it : Nat) : List (List Int) × Int :=
  ((List.foldl (tCell it) (st.1, st.2) (List.range P)).1, (List.foldl (tCell it) (st.1, st.2) (List.range P)).2)

theorem get2_mid (pre post : List (List Int)) (C A B : List Int) (v : Int) :
    get2 (pre ++ C :: (A ++ v :: B) :: post) A.length (pre.length + 1) = v := by
  rw [get2, getD_append_add pre _ 1]
  exact getD_append_length A B v 0

theorem set2_mid (pre post : List (List Int)) (C A B : List Int) (v w : Int) :
    set2 (pre ++ C :: (A ++ v :: B) :: post) A.length (pre.length + 1) w = pre ++ C :: (A ++ w :: B) :: post := by
  rw [set2, getD_append_add pre _ 1, set_append_add pre _ 1]
  exact congrArg (fun X => pre ++ C :: X :: post) (set_append_length A B v w)

/-- an identifier of the column before, read through a row index stored as an integer -/
theorem get2i_prev (pre rest : List (List Int)) (prevIds : List (Option Nat)) (p : Nat) (hp : p < prevIds.length) :
    get2i (pre ++ prevIds.map idCode :: rest) (p : Int) (pre.length + 1 - 1) = idCode (prevIds.getD p none) := by
  rw [get2i, get2, Nat.add_sub_cancel, getD_append_length, pyIdx, if_neg (Int.not_lt.2 (Int.natCast_nonneg p)), Int.toNat_natCast,
    List.getD_eq_getElem?_getD, List.getD_eq_getElem?_getD, List.getElem?_map, List.getElem?_eq_getElem hp]
  rfl

/-- the inner loop over a column whose cells `A.length, …` still hold the local match codes of `R`: each is replaced
    by the identifier `propagate` computes (the cells `A` already written are arbitrary integers here) -/
theorem tCell_fold (pre post : List (List Int)) (prevIds : List (Option Nat)) (R : List Match) (A : List Int) (next : Nat)
    (hR : ∀ p, Match.prev p ∈ R → p < prevIds.length) :
    List.foldl (tCell (pre.length + 1)) (pre ++ prevIds.map idCode :: (A ++ R.map matchCode) :: post, (next : Int))
        (List.range' A.length R.length) =
      (pre ++ prevIds.map idCode :: (A ++ (propagate prevIds R next).1.map idCode) :: post,
        ((propagate prevIds R next).2 : Int)) := by
  induction R generalizing A next with
  | nil => rfl
  | cons m R ih =>
    have ih := fun (v : Int) next' => ih (A ++ [v]) next' fun p hp => hR p (List.mem_cons_of_mem _ hp)
    simp only [List.append_assoc, List.singleton_append, List.length_append, List.length_singleton] at ih
    rw [List.length_cons, List.range'_succ, List.foldl_cons, tCell, List.map_cons, get2_mid, set2_mid, set2_mid]
    cases m with
    | empty => exact ih _ _
    | fresh => exact ih _ _
    | prev p =>
      -- an index is not one of the negative markers
      have hneg : ∀ z : Int, z < 0 → (p : Int) ≠ z := fun z hz => (Int.lt_of_lt_of_le hz (Int.natCast_nonneg p)).ne'
      rw [matchCode, if_neg fun h => hneg _ (by decide) (of_decide_eq_true h), if_pos (decide_eq_true (hneg _ (by decide))),
        get2i_prev _ _ _ _ (hR p List.mem_cons_self)]
      exact ih _ _

/-- the inner loop on column `it = pre.length + 1`: slots `i, i+1, …` still hold the local match codes `R`; they are
    replaced one by one by what `propagate` computes -/
theorem tCell_loop (pre post : List (List Int)) (prevIds : List (Option Nat)) :
    ∀ (R : List Match) (i : Nat) (D : List (Option Nat)) (next : Nat), D.length = i →
      (∀ p, Match.prev p ∈ R → p < prevIds.length) →
      List.foldl (tCell (pre.length + 1))
          (pre ++ prevIds.map idCode :: (D.map idCode ++ R.map matchCode) :: post, (next : Int))
          (List.range' i R.length) =
        (pre ++ prevIds.map idCode :: ((D ++ (propagate prevIds R next).1).map idCode) :: post,
          ((propagate prevIds R next).2 : Int)) := by
  intro R i D next hD hR
  rw [List.map_append, ← hD, ← List.length_map (f := idCode)]
  exact tCell_fold pre post prevIds R _ next hR

/-- all local match vectors propagated in turn (model side) -/
def propAll (prevIds : List (Option Nat)) (next : Nat) : List (List Match) → List (List (Option Nat)) × Nat
  | [] => ([], next)
  | ms :: rest =>
    ((propagate prevIds ms next).1 :: (propAll (propagate prevIds ms next).1 (propagate prevIds ms next).2 rest).1,
      (propAll (propagate prevIds ms next).1 (propagate prevIds ms next).2 rest).2)

theorem propagate_length (prevIds : List (Option Nat)) (ms : List Match) (next : Nat) :
    (propagate prevIds ms next).1.length = ms.length := by
  fun_induction propagate prevIds ms next with
  | case1 => rfl
  | case2 _ _ _ ih | case3 _ _ _ ih | case4 _ _ _ _ ih => exact congrArg (· + 1) ih

/-- the outer loop: columns `pre.length + 1, …` still hold local match codes; each is globalised from the column
    before it -/
theorem tCol_loop (P : Nat) : ∀ (mss : List (List Match)) (pre : List (List Int)) (prevIds : List (Option Nat))
    (next : Nat), prevIds.length = P → (∀ ms ∈ mss, ms.length = P ∧ ∀ p, Match.prev p ∈ ms → p < P) →
      List.foldl (tCol P) (pre ++ prevIds.map idCode :: mss.map (·.map matchCode), (next : Int))
          (List.range' (pre.length + 1) mss.length) =
        (pre ++ prevIds.map idCode :: (propAll prevIds next mss).1.map (·.map idCode),
          ((propAll prevIds next mss).2 : Int))
  | [], pre, prevIds, next, _, _ => rfl
  | ms :: mss, pre, prevIds, next, hP, hms => by
    obtain ⟨hlen, hprev⟩ := hms ms List.mem_cons_self
    -- column `pre.length + 1` by `tCell_fold`, then the remaining columns behind it
    have hcell := tCell_fold pre (mss.map (·.map matchCode)) prevIds ms [] next fun p hp => hP ▸ hprev p hp
    simp only [List.nil_append, List.length_nil, hlen, ← List.range_eq_range'] at hcell
    have ih := tCol_loop P mss (pre ++ [prevIds.map idCode]) (propagate prevIds ms next).1
      (propagate prevIds ms next).2 ((propagate_length ..).trans hlen) fun ms' h => hms ms' (List.mem_cons_of_mem _ h)
    simp only [List.length_append, List.length_singleton, List.append_assoc, List.singleton_append] at ih
    simp only [List.length_cons, List.range'_succ, List.foldl_cons, List.map_cons, tCol, hcell]
    exact ih

/-! ## the model's time loop = first step, then `propAll` over the local matches -/

/-- the local match vectors of all steps -/
def localMatches : List Slot → List (Dist × List Slot) → List (List Match)
  | _, [] => []
  | prev, (d, s) :: rest => matchConsecutive d prev s :: localMatches s rest

theorem allStates_propAll : ∀ (steps : List (Dist × List Slot)) (st : St),
    (allStates st steps).map (·.ids) = st.ids :: (propAll st.ids st.next (localMatches st.slots steps)).1 ∧
    finalNext st steps = (propAll st.ids st.next (localMatches st.slots steps)).2
  | [], st => ⟨rfl, rfl⟩
  | (d, s) :: rest, st => by
    obtain ⟨h1, h2⟩ := allStates_propAll rest (step d st s)
    exact ⟨congrArg (st.ids :: ·) h1, h2⟩

/-- local match vectors of a data history -/
def localMatchesData : Step → List (Thr × Step) → List (List Match)
  | _, [] => []
  | prev, (thr, cur) :: rest => matchData thr prev cur :: localMatchesData cur rest

theorem localMatches_mkSteps : ∀ (rest : List (Thr × Step)) (s0 : Step),
    localMatches (slotsOf s0) (mkSteps s0 rest) = localMatchesData s0 rest
  | [], _ => rfl
  | (thr, cur) :: rest, s0 => congrArg (matchData thr s0 cur :: ·) (localMatches_mkSteps rest cur)

theorem localMatchesData_range' (thr : Nat → Thr) (stp : Nat → Step) : ∀ (k a : Nat),
    localMatchesData (stp a) ((List.range' a k).map fun i => (thr i, stp (i + 1))) =
      (List.range' a k).map fun i => matchData (thr i) (stp i) (stp (i + 1))
  | 0, _ => rfl
  | k + 1, a =>
    congrArg (matchData (thr a) (stp a) (stp (a + 1)) :: ·) (localMatchesData_range' thr stp k (a + 1))

theorem matchData_shape (thr : Thr) (prev cur : Step) :
    (matchData thr prev cur).length = cur.fp.length ∧
    ∀ p, Match.prev p ∈ matchData thr prev cur → p < prev.fp.length := by
  refine ⟨?_, fun p hp => ?_⟩
  · have h := congrArg List.length (matchLoop_nonempty (distOf thr prev cur) (slotsOf prev).length (slotsOf cur) 0
      (availOf (slotsOf prev)))
    exact (List.length_map _).symm.trans (h.trans (List.length_map _))
  · -- a matched predecessor was available, so it is a slot of the previous step
    have h := mem_availOf.1 ((matchLoop_prevs _ _ _ 0 _ (availOf_nodup (slotsOf prev))).2 p (mem_prevs.2 hp))
    exact List.length_map (as := prev.fp) Option.isSome ▸ (List.getElem?_eq_some_iff.1 h).1

theorem lift2_eq_seaThr (pow : Rat → Rat → Rat) (g dt scaling : Rat) (a b : Option Rat) :
    lift2 (fun w f => dfpWsea pow g w f dt scaling) a b = seaThr pow g dt scaling a b := by
  cases a <;> cases b <;> rfl

theorem oat_row (m : List (List (Option Rat))) (i t : Nat) : oat (row m i) t = (m.getD t []).getD i none := by
  simp only [oat, row, List.getD_eq_getElem?_getD, List.getElem?_map]
  cases m[t]? <;> rfl

theorem firstStep_length (ss : List Slot) (next : Nat) : (firstStep ss next).1.length = ss.length := by
  fun_induction firstStep ss next with
  | case1 => rfl
  | case2 _ _ _ ih | case3 _ _ _ ih => exact congrArg (· + 1) ih

theorem map_range'_pred {α : Type} (g : Nat → α) : ∀ (k a : Nat),
    (List.range' (a + 1) k).map (fun it => g (it - 1)) = (List.range' a k).map g
  | 0, _ => rfl
  | k + 1, a => congrArg (g a :: ·) (map_range'_pred g k (a + 1))

theorem trackData_propAll (s0 : Step) (rest : List (Thr × Step)) :
    trackData s0 rest =
      ((firstStep (slotsOf s0) 0).1 ::
          (propAll (firstStep (slotsOf s0) 0).1 (firstStep (slotsOf s0) 0).2 (localMatchesData s0 rest)).1,
        (propAll (firstStep (slotsOf s0) 0).1 (firstStep (slotsOf s0) 0).2 (localMatchesData s0 rest)).2) := by
  unfold trackData track
  obtain ⟨h1, h2⟩ := allStates_propAll (mkSteps s0 rest) (init (slotsOf s0))
  rw [h1, h2]
  simp only [init, localMatches_mkSteps]

theorem matchCode_filter_nonneg (ms : List Match) :
    (ms.map matchCode).filter (fun z => decide (0 ≤ z)) = (prevs ms).map Int.ofNat := by
  induction ms with
  | nil => rfl
  | cons m ms ih =>
    cases m with
    | prev p => exact (List.filter_cons_of_pos (by simp [matchCode])).trans (congrArg _ ih)
    | _ => exact (List.filter_cons_of_neg (by decide)).trans ih

theorem cols_pair {α : Type} (m : List (List α)) (it : Nat) (hit : 1 ≤ it) :
    col (cols m (it - 1) (it + 1)) 0 = m.getD (it - 1) [] ∧ col (cols m (it - 1) (it + 1)) 1 = m.getD it [] := by
  obtain ⟨a, rfl⟩ := Nat.exists_eq_add_of_le' hit
  have e : a + 1 + 1 - a = 2 := by rw [Nat.add_assoc, Nat.add_sub_cancel_left]
  simp only [col, cols, Nat.add_sub_cancel, e, List.getD_eq_getElem?_getD, List.getElem?_take, List.getElem?_drop]
  exact ⟨rfl, rfl⟩

theorem idCode_filter_nonneg (row : List (Option Nat)) :
    (row.map idCode).filter (fun z => decide (0 ≤ z)) = (present row).map Int.ofNat := by
  induction row with
  | nil => rfl
  | cons x row ih =>
    cases x with
    | some k => exact (List.filter_cons_of_pos (by simp [idCode])).trans (congrArg _ ih)
    | none => exact (List.filter_cons_of_neg (by decide)).trans ih

end WS.TrkBridge
