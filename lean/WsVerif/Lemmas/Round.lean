import WsVerif.Model.IO.Round
import WsVerif.Lemmas.Basic
import Mathlib.Data.Rat.Floor
import Mathlib.Tactic.NormNum
import Mathlib.Tactic.Ring
import Mathlib.Tactic.Linarith
import Mathlib.Tactic.Positivity
import Mathlib.Algebra.Order.Field.Rat
import Mathlib.Algebra.Order.Field.Power
/-! Decimal rounding (`rhe`, `quant`, `sigAt`, `decExp`): every format's quantisation bound is rounding to a grid
of step `q`, `|rhe (x / q) · q − x| ≤ q / 2`. -/
namespace WS.IO
open WS

theorem absR_eq_abs (x : ℚ) : absR x = |x| := WS.absR_eq_abs x

/-- `rhe x` is the floor or the floor plus one, whichever is within ½ of `x` -/
theorem rhe_cases (x : ℚ) :
    (rhe x = ⌊x⌋ ∧ x - ⌊x⌋ ≤ 1 / 2) ∨ (rhe x = ⌊x⌋ + 1 ∧ 1 / 2 ≤ x - ⌊x⌋) := by
  unfold rhe
  simp only
  split_ifs with a b c
  exacts [Or.inl ⟨rfl, a.le⟩, Or.inr ⟨rfl, b.le⟩, Or.inl ⟨rfl, not_lt.mp b⟩, Or.inr ⟨rfl, not_lt.mp a⟩]

theorem rhe_err (x : ℚ) : |((rhe x : ℤ) : ℚ) - x| ≤ 1 / 2 := by
  rcases rhe_cases x with ⟨h, hr⟩ | ⟨h, hr⟩ <;> rw [h]
  · rwa [abs_sub_comm, abs_of_nonneg (sub_nonneg.mpr (Int.floor_le x))]
  · have := (Int.lt_floor_add_one x).le
    push_cast
    rw [abs_of_nonneg (sub_nonneg.mpr this)]
    linarith

theorem rhe_lt (x : ℚ) (n : ℤ) (h : x + 1 / 2 < n) : rhe x < n :=
  Int.cast_lt.mp ((sub_le_iff_le_add'.mp (abs_le.mp (rhe_err x)).2).trans_lt h)

theorem lt_rhe (x : ℚ) (n : ℤ) (h : (n : ℚ) < x - 1 / 2) : n < rhe x :=
  Int.cast_lt.mp (h.trans_le (sub_le_iff_le_add.mpr (neg_le_sub_iff_le_add.mp (abs_le.mp (rhe_err x)).1)))

theorem rhe_le (x : ℚ) (n : ℤ) (h : x ≤ n) : rhe x ≤ n := by
  refine Int.lt_add_one_iff.mp (rhe_lt x _ ?_)
  rw [Int.cast_add, Int.cast_one]
  exact add_lt_add_of_le_of_lt h one_half_lt_one

theorem le_rhe (x : ℚ) (n : ℤ) (h : (n : ℚ) ≤ x) : n ≤ rhe x := by
  refine Int.sub_one_lt_iff.mp (lt_rhe x _ ?_)
  rw [Int.cast_sub, Int.cast_one]
  exact (sub_lt_sub_left one_half_lt_one _).trans_le (sub_le_sub_right h _)

theorem rhe_int (n : ℤ) : rhe (n : ℚ) = n := le_antisymm (rhe_le _ n le_rfl) (le_rhe _ n le_rfl)

/-- rounding to the grid of step `q` moves a number by at most half a step … -/
theorem rhe_grid_err (q x : ℚ) (hq : 0 < q) : |((rhe (x / q) : ℤ) : ℚ) * q - x| ≤ q / 2 := by
  have e : ((rhe (x / q) : ℤ) : ℚ) * q - x = (((rhe (x / q) : ℤ) : ℚ) - x / q) * q := by
    rw [sub_mul, div_mul_cancel₀ x hq.ne']
  rw [e, abs_mul, abs_of_pos hq]
  exact (mul_le_mul_of_nonneg_right (rhe_err _) hq.le).trans_eq (one_div_mul_eq_div 2 q)

/-- … and the count stays within integer bounds that enclose `x / q` -/
theorem rhe_grid_mem (q x : ℚ) (a b : ℤ) (hq : 0 < q) (ha : a * q ≤ x) (hb : x ≤ b * q) :
    a ≤ rhe (x / q) ∧ rhe (x / q) ≤ b :=
  ⟨le_rhe _ a ((le_div_iff₀ hq).mpr ha), rhe_le _ b ((div_le_iff₀ hq).mpr hb)⟩

theorem pow10_pos (d : Nat) : 0 < pow10 d := pow_pos (by norm_num) d

theorem pow10_succ (d : Nat) : pow10 (d + 1) = pow10 d * 10 := pow_succ 10 d

/-- `'%.{d}f'` moves a number by at most half a unit of the last printed decimal (grid step `10⁻ᵈ`) -/
theorem quant_err (d : Nat) (x : ℚ) : |quant d x - x| ≤ 1 / (2 * pow10 d) := by
  have h := rhe_grid_err (pow10 d)⁻¹ x (inv_pos.mpr (pow10_pos d))
  rwa [div_inv_eq_mul, ← div_eq_mul_inv, inv_eq_one_div, div_div, mul_comm (pow10 d)] at h

theorem quant_zero (d : Nat) : quant d 0 = 0 := by
  unfold quant
  rw [zero_mul, ← Int.cast_zero, rhe_int, Int.cast_zero, zero_div]

theorem pow10i_eq_zpow (e : ℤ) : pow10i e = (10 : ℚ) ^ e := by
  unfold pow10i pow10
  split_ifs with h
  · rw [← zpow_natCast, Int.toNat_of_nonneg h]
  · rw [one_div, ← zpow_natCast, ← zpow_neg, Int.toNat_of_nonneg (by omega), neg_neg]

theorem pow10i_pos (e : ℤ) : 0 < pow10i e := by rw [pow10i_eq_zpow]; positivity

theorem pow10i_succ (e : ℤ) : pow10i (e + 1) = 10 * pow10i e := by
  rw [pow10i_eq_zpow, pow10i_eq_zpow, zpow_add_one₀ (by norm_num : (10 : ℚ) ≠ 0), mul_comm]

/-! ### decimal exponent -/

/-- `e` is the decimal exponent of `x` -/
def IsExp (x : ℚ) (e : ℤ) : Prop := pow10i e ≤ x ∧ x < pow10i (e + 1)

theorem isExp_zero (x : ℚ) (h1 : 1 ≤ x) (h10 : x < 10) : IsExp x 0 :=
  ⟨h1, h10⟩ -- `pow10i 0` and `pow10i 1` evaluate to `1` and `10`

theorem isExp_succ (x : ℚ) (e : ℤ) : IsExp x (e + 1) ↔ IsExp (x / 10) e := by
  have h10 : (0 : ℚ) < 10 := by norm_num
  exact and_congr (by rw [pow10i_succ, le_div_iff₀' h10]) (by rw [pow10i_succ (e + 1), div_lt_iff₀' h10])

theorem isExp_of_mul (x : ℚ) (e : ℤ) (h : IsExp (x * 10) e) : IsExp x (e - 1) := by
  rwa [← sub_add_cancel e 1, isExp_succ, mul_div_cancel_right₀ x (by norm_num)] at h

theorem expUp_spec (fuel : Nat) : ∀ x : ℚ, 1 ≤ x → x ≤ pow10 fuel → IsExp x (expUp fuel x) := by
  induction fuel with
  | zero => exact fun x h1 h2 => isExp_zero x h1 (lt_of_le_of_lt h2 (by norm_num [pow10]))
  | succ n ih =>
    intro x h1 h2
    unfold expUp
    split_ifs with h
    · exact isExp_zero x h1 h
    · rw [pow10_succ] at h2
      exact (isExp_succ x _).mpr (ih _ (by linarith) (by linarith))

theorem expDown_of_one_le (fuel : Nat) (x : ℚ) (h : 1 ≤ x) : expDown fuel x = 0 := by
  cases fuel with
  | zero => rfl
  | succ n => exact if_pos h

theorem expDown_spec (fuel : Nat) :
    ∀ x : ℚ, 0 < x → x < 10 → 1 ≤ x * pow10 fuel → IsExp x (expDown fuel x) := by
  induction fuel with
  | zero =>
    intro x _ h10 h
    rw [show pow10 0 = 1 from rfl, mul_one] at h
    exact isExp_zero x h h10
  | succ n ih =>
    intro x h0 h10 h
    by_cases h1 : 1 ≤ x
    · rw [expDown_of_one_le _ x h1]; exact isExp_zero x h1 h10
    · rw [pow10_succ, mul_comm (pow10 n), ← mul_assoc] at h
      unfold expDown
      rw [if_neg h1]
      exact isExp_of_mul x _ (ih _ (by linarith) (by linarith) h)

theorem nat_le_pow10 (n : Nat) : (n : ℚ) ≤ pow10 n := by
  unfold pow10
  exact_mod_cast (Nat.lt_pow_self (by norm_num : 1 < 10)).le

/-- the search `decExp` finds the decimal exponent of every positive rational: numerator and denominator bound the
    number of steps either way -/
theorem decExp_spec (x : ℚ) (hx : 0 < x) : IsExp x (decExp x) := by
  have hmul : x * (x.den : ℚ) = (x.num : ℚ) := Rat.mul_den_eq_num x
  have hd : (1 : ℚ) ≤ x.den := by exact_mod_cast x.den_pos
  have hnum : 0 < x.num := Rat.num_pos.mpr hx
  unfold decExp
  split_ifs with h1
  · refine expUp_spec _ x h1 (le_trans ?_ (nat_le_pow10 _))
    rw [Nat.cast_natAbs, abs_of_pos hnum, ← hmul]
    exact le_mul_of_one_le_right hx.le hd
  · refine expDown_spec _ x hx (by linarith) ?_
    calc (1 : ℚ) ≤ x.num := by exact_mod_cast hnum
      _ = x * x.den := hmul.symm
      _ ≤ x * pow10 x.den := mul_le_mul_of_nonneg_left (nat_le_pow10 _) hx.le

/-- rounding to `s+1` significant digits moves `x` by at most half a unit of its last kept digit (grid step
    `10^(e−s)`), i.e. by at most `x · 10^(-s) / 2` -/
theorem sigAt_err (s : Nat) (e : ℤ) (x : ℚ) (he : IsExp x e) :
    |sigAt s e x - x| ≤ pow10i (e - s) / 2 ∧ pow10i (e - s) / 2 ≤ x / (2 * pow10 s) := by
  refine ⟨rhe_grid_err _ x (pow10i_pos _), ?_⟩
  have hs : pow10i (e - s) * pow10 s = pow10i e := by
    rw [pow10i_eq_zpow, pow10i_eq_zpow, pow10, ← zpow_natCast, ← zpow_add₀ (by norm_num), sub_add_cancel]
  rw [mul_comm 2, ← div_div, div_le_div_iff_of_pos_right (by norm_num), le_div_iff₀ (pow10_pos s), hs]
  exact he.1

/-- `'%0.8E'`: nine significant digits, relative error at most `5·10⁻⁹` -/
theorem sig9_err (x : ℚ) (hx : 0 < x) : |sig9 x - x| ≤ x * (5 / 1000000000) := by
  have h := sigAt_err 8 (decExp x) x (decExp_spec x hx)
  have : x / (2 * pow10 8) = x * (5 / 1000000000) := by unfold pow10; norm_num; ring
  exact (h.1.trans h.2).trans_eq this
end WS.IO
