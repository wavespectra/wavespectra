import WsVerif.Model.Basic
import WsVerif.Model.Stats
import Mathlib.Algebra.Order.Ring.Abs
import Mathlib.Tactic.NormNum
import WsVerif.Lemmas.Sums
import Mathlib.Tactic.Ring
import Mathlib.Tactic.Linarith
import Mathlib.Tactic.Positivity
import Mathlib.Tactic.FieldSimp
import Mathlib.Algebra.Order.Field.Rat
import Mathlib.Algebra.BigOperators.Group.List.Basic
import Mathlib.Algebra.Order.BigOperators.Group.List
/-!
Homogeneity of list sums under `scaleV`, entries and re-association of `zipWith`, positive-scaling invariance
of `argmaxFirst`/`maxD`, weighted moments with Cauchy–Schwarz, the "disk" (norm) inequality used for the
directional-spread bound, and linearity of entries, sums and dot products of `e.map g` in `g`.
-/
namespace WS

theorem scaleV_length (k : ℚ) (a : Vec) : (scaleV k a).length = a.length := by simp [scaleV]

theorem scaleV_nil (k : ℚ) : scaleV k [] = [] := rfl

theorem scaleV_cons (k x : ℚ) (a : Vec) : scaleV k (x :: a) = (k * x) :: scaleV k a := rfl

theorem getR_scaleV (k : ℚ) (a : Vec) (i : Nat) : getR (scaleV k a) i = k * getR a i := by
  unfold getR scaleV
  simp only [List.getD_eq_getElem?_getD, List.getElem?_map]
  cases a[i]? <;> simp

theorem lastD_scaleV (k : ℚ) (a : Vec) : lastD (scaleV k a) = k * lastD a := by
  unfold lastD scaleV
  simp only [List.getLastD_eq_getLast?, List.getLast?_map]
  cases a.getLast? <;> simp

theorem sum_scaleV (k : ℚ) (a : Vec) : (scaleV k a).sum = k * a.sum := sum_map_const_mul a k

theorem sum_zipWith_map_right {α β : Type} (F : α → β → ℚ) (h : β → β) (k : ℚ)
    (hF : ∀ a b, F a (h b) = k * F a b) (as : List α) (bs : List β) :
    (List.zipWith F as (bs.map h)).sum = k * (List.zipWith F as bs).sum := by
  rw [List.zipWith_map_right, ← sum_map_const_mul, List.map_zipWith]
  simp only [hF]

theorem sum_zipWith_map_left {α β : Type} (F : α → β → ℚ) (h : α → α) (k : ℚ)
    (hF : ∀ a b, F (h a) b = k * F a b) (as : List α) (bs : List β) :
    (List.zipWith F (as.map h) bs).sum = k * (List.zipWith F as bs).sum := by
  rw [List.zipWith_map_left, ← sum_map_const_mul, List.map_zipWith]
  simp only [hF]

theorem zipWith_scaleV_right (g : ℚ → ℚ → ℚ) (k : ℚ) (hg : ∀ x y, g x (k * y) = k * g x y)
    (a b : Vec) : List.zipWith g a (scaleV k b) = scaleV k (List.zipWith g a b) := by
  unfold scaleV
  rw [List.zipWith_map_right, List.map_zipWith]
  simp only [hg]

theorem zipWith_scaleV_left (g : ℚ → ℚ → ℚ) (k : ℚ) (hg : ∀ x y, g (k * x) y = k * g x y)
    (a b : Vec) : List.zipWith g (scaleV k a) b = scaleV k (List.zipWith g a b) := by
  unfold scaleV
  rw [List.zipWith_map_left, List.map_zipWith]
  simp only [hg]

theorem dot_scaleV_left (k : ℚ) (a b : Vec) : dot (scaleV k a) b = k * dot a b := by
  unfold dot mulV scaleV
  exact sum_zipWith_map_left (· * ·) (k * ·) k (fun a b => by ring) a b

theorem dot_scaleV_right (k : ℚ) (a b : Vec) : dot a (scaleV k b) = k * dot a b := by
  unfold dot mulV scaleV
  exact sum_zipWith_map_right (· * ·) (k * ·) k (fun a b => by ring) a b

theorem forall_mem_zipWith {α β γ : Type} {f : α → β → γ} {P : γ → Prop} {as : List α} {bs : List β}
    (h : ∀ a ∈ as, ∀ b ∈ bs, P (f a b)) : ∀ v ∈ List.zipWith f as bs, P v := by
  intro v hv
  rw [← List.map_uncurry_zip_eq_zipWith] at hv
  obtain ⟨⟨a, b⟩, hp, rfl⟩ := List.mem_map.mp hv
  exact h a (List.of_mem_zip hp).1 b (List.of_mem_zip hp).2

/-- a triple `zipWith` depends on its two functions only through their composite -/
theorem zipWith_zipWith_congr {α β γ δ δ' ε : Type} {f : δ → γ → ε} {g : α → β → δ} {f' : δ' → γ → ε}
    {g' : α → β → δ'} (h : ∀ x y z, f (g x y) z = f' (g' x y) z) (as : List α) (bs : List β) (cs : List γ) :
    List.zipWith f (List.zipWith g as bs) cs = List.zipWith f' (List.zipWith g' as bs) cs := by
  simp only [List.zipWith_zipWith_left, h]

/-- re-association of a triple `zipWith`: the second and third list change places -/
theorem zipWith_zipWith_swap {α β γ δ δ' ε : Type} {f : δ → γ → ε} {g : α → β → δ} {f' : δ' → β → ε}
    {g' : α → γ → δ'} (h : ∀ x y z, f (g x y) z = f' (g' x z) y) (as : List α) (bs : List β) (cs : List γ) :
    List.zipWith f (List.zipWith g as bs) cs = List.zipWith f' (List.zipWith g' as cs) bs := by
  induction as generalizing bs cs with
  | nil => rfl
  | cons a as ih =>
    cases bs with
    | nil => cases cs <;> rfl
    | cons b bs =>
      cases cs with
      | nil => rfl
      | cons c cs => simp only [List.zipWith_cons_cons, h, ih]

theorem divOpt_mul_left (k a b : ℚ) (hk : k ≠ 0) : divOpt (k * a) (k * b) = divOpt a b := by
  unfold divOpt
  by_cases hb : b = 0
  · simp [hb]
  · simp [hb, hk, mul_div_mul_left]

theorem argmaxFirst_go_scaleV (k : ℚ) (hk : 0 < k) (best : ℚ) (bi i : Nat) (ys : Vec) :
    argmaxFirst.go (k * best) bi i (scaleV k ys) = argmaxFirst.go best bi i ys := by
  induction ys generalizing best bi i with
  | nil => rfl
  | cons y ys ih =>
    simp only [scaleV_cons, argmaxFirst.go, mul_lt_mul_iff_right₀ hk]
    split
    · exact ih y i (i + 1)
    · exact ih best bi (i + 1)

/-- numpy `argmax` is invariant under multiplication by a positive constant -/
theorem argmaxFirst_scaleV (k : ℚ) (hk : 0 < k) (l : Vec) :
    argmaxFirst (scaleV k l) = argmaxFirst l := by
  cases l with
  | nil => rfl
  | cons x xs => simp only [scaleV_cons, argmaxFirst]; exact argmaxFirst_go_scaleV k hk x 0 1 xs

theorem maxD_scaleV (k : ℚ) (hk : 0 ≤ k) (l : Vec) (d : ℚ) :
    maxD (scaleV k l) (k * d) = k * maxD l d := by
  unfold maxD
  induction l generalizing d with
  | nil => rfl
  | cons x xs ih =>
    -- one step of the fold is `max`, and `max (k * d) (k * x) = k * max d x`
    have step : maxR (k * d) (k * x) = k * maxR d x := by rw [maxR_eq_max, maxR_eq_max, mul_max_of_nonneg d x hk]
    show List.foldl _ (maxR (k * d) (k * x)) (scaleV k xs) = _
    rw [step]
    exact ih _

theorem maxD_scaleV_zero (k : ℚ) (hk : 0 ≤ k) (l : Vec) : maxD (scaleV k l) 0 = k * maxD l 0 := by
  have := maxD_scaleV k hk l 0
  rwa [mul_zero] at this

/-! ### weighted moments `Σ w_i x_i^m`, Cauchy–Schwarz and range bounds -/

/-- weighted moment `Σ_i w_i · x_i^m` -/
def wmom (m : Nat) (w x : Vec) : ℚ := (List.zipWith (fun wi xi => wi * xi ^ m) w x).sum

theorem wmom_nil_left (m : Nat) (x : Vec) : wmom m [] x = 0 := by simp [wmom]
theorem wmom_nil_right (m : Nat) (w : Vec) : wmom m w [] = 0 := by simp [wmom]
theorem wmom_cons (m : Nat) (a b : ℚ) (w x : Vec) :
    wmom m (a :: w) (b :: x) = a * b ^ m + wmom m w x := by simp [wmom]

/-- `Σ w (x^q − t)² = m_{2q} − 2 t m_q + t² m_0` -/
theorem wquad_expand (q : Nat) (t : ℚ) (w x : Vec) :
    (List.zipWith (fun wi xi => wi * (xi ^ q - t) ^ 2) w x).sum =
      wmom (2 * q) w x - 2 * t * wmom q w x + t ^ 2 * wmom 0 w x := by
  induction w generalizing x with
  | nil => simp [wmom]
  | cons a w ih =>
    cases x with
    | nil => simp [wmom]
    | cons b x =>
      simp only [List.zipWith_cons_cons, List.sum_cons, ih, wmom_cons]
      ring

theorem wquad_nonneg (q : Nat) (t : ℚ) (w x : Vec) (hw : ∀ v ∈ w, 0 ≤ v) :
    0 ≤ (List.zipWith (fun wi xi => wi * (xi ^ q - t) ^ 2) w x).sum :=
  List.sum_nonneg (forall_mem_zipWith fun a ha _ _ => mul_nonneg (hw a ha) (sq_nonneg _))

/-- Cauchy–Schwarz for weighted moments: `m_q² ≤ m_0 · m_{2q}` -/
theorem wmom_cauchy (q : Nat) (w x : Vec) (hw : ∀ v ∈ w, 0 ≤ v) (h0 : 0 < wmom 0 w x) :
    wmom q w x ^ 2 ≤ wmom 0 w x * wmom (2 * q) w x := by
  -- `0 ≤ Σ w (x^q − t)²` at `t = m_q / m_0`, multiplied by `m_0`
  have h := mul_nonneg h0.le (wquad_nonneg q (wmom q w x / wmom 0 w x) w x hw)
  have h0' : wmom 0 w x ≠ 0 := h0.ne'
  have key : wmom 0 w x * (wmom (2 * q) w x - 2 * (wmom q w x / wmom 0 w x) * wmom q w x +
      (wmom q w x / wmom 0 w x) ^ 2 * wmom 0 w x) = wmom 0 w x * wmom (2 * q) w x - wmom q w x ^ 2 := by
    field_simp
    ring
  rw [wquad_expand, key] at h
  exact sub_nonneg.mp h

/-- with all abscissae in `[lo, hi]`, `0 ≤ lo`: `lo · m_n ≤ m_{n+1} ≤ hi · m_n` -/
theorem wmom_succ_bounds (n : Nat) (lo hi : ℚ) (hlo : 0 ≤ lo) (w x : Vec) (hw : ∀ v ∈ w, 0 ≤ v)
    (hx : ∀ y ∈ x, lo ≤ y ∧ y ≤ hi) :
    lo * wmom n w x ≤ wmom (n + 1) w x ∧ wmom (n + 1) w x ≤ hi * wmom n w x := by
  induction w generalizing x with
  | nil => simp [wmom]
  | cons a w ih =>
    cases x with
    | nil => simp [wmom]
    | cons b x =>
      simp only [wmom_cons]
      obtain ⟨ha, hw'⟩ := List.forall_mem_cons.mp hw
      obtain ⟨⟨hb1, hb2⟩, hx'⟩ := List.forall_mem_cons.mp hx
      obtain ⟨i1, i2⟩ := ih x hw' hx'
      have hp : 0 ≤ a * b ^ n := mul_nonneg ha (pow_nonneg (hlo.trans hb1) n)
      rw [pow_succ, ← mul_assoc, mul_add, mul_add, mul_comm lo, mul_comm hi]
      exact ⟨add_le_add (mul_le_mul_of_nonneg_left hb1 hp) i1, add_le_add (mul_le_mul_of_nonneg_left hb2 hp) i2⟩

theorem zipWith_mul_nonneg (a b : Vec) (ha : ∀ v ∈ a, 0 ≤ v) (hb : ∀ v ∈ b, 0 ≤ v) :
    ∀ v ∈ List.zipWith (· * ·) a b, 0 ≤ v :=
  forall_mem_zipWith fun x hx y hy => mul_nonneg (ha x hx) (hb y hy)

/-- `momf` is the weighted moment with weights `w_i = Δf_i · S_i` -/
theorem momf_eq_wmom (n : Nat) (f S : Vec) :
    Stats.momf n f S = wmom n (List.zipWith (· * ·) (Stats.df f) S) f := by
  unfold Stats.momf wmom
  rw [zipWith_zipWith_swap (f' := fun wi xi => wi * xi ^ n) (g' := (· * ·)) fun d x s => mul_right_comm d (x ^ n) s]

theorem pairwise_lt_le_getLastD (l : Vec) (h : l.Pairwise (· < ·)) (d : ℚ) :
    ∀ y ∈ l, y ≤ l.getLastD d := by
  induction l generalizing d with
  | nil => simp
  | cons a rest ih =>
    intro y hy
    have hp := List.pairwise_cons.mp h
    rw [List.getLastD_cons]
    rcases List.mem_cons.mp hy with rfl | hy
    · have hm : rest.getLastD y ∈ y :: rest := List.getLastD_mem_cons
      rcases List.mem_cons.mp hm with e | hm
      · rw [e]
      · exact le_of_lt (hp.1 _ hm)
    · exact ih hp.2 a y hy

theorem pairwise_lt_bounds (l : Vec) (h : l.Pairwise (· < ·)) :
    ∀ y ∈ l, l.headD 0 ≤ y ∧ y ≤ lastD l := by
  intro y hy
  refine ⟨?_, pairwise_lt_le_getLastD l h 0 y hy⟩
  cases l with
  | nil => simp at hy
  | cons a rest =>
    simp only [List.headD_cons]
    rcases List.mem_cons.mp hy with rfl | hy
    · exact le_refl _
    · exact le_of_lt ((List.pairwise_cons.mp h).1 _ hy)

/-! ### the disk inequality: `|Σ w_j (s_j, c_j)| ≤ Σ w_j` for unit vectors and `w_j ≥ 0` -/

/-- `(A, B)` lies in the disk of radius `T` -/
def InDisk (A B T : ℚ) : Prop := 0 ≤ T ∧ A ^ 2 + B ^ 2 ≤ T ^ 2

theorem InDisk.zero {T : ℚ} (hT : 0 ≤ T) : InDisk 0 0 T :=
  ⟨hT, by rw [zero_pow two_ne_zero, add_zero]; exact sq_nonneg T⟩

/-- triangle inequality in rational form -/
theorem InDisk.add {A B T A' B' T' : ℚ} (h : InDisk A B T) (h' : InDisk A' B' T') :
    InDisk (A + A') (B + B') (T + T') := by
  obtain ⟨hT, hd⟩ := h
  obtain ⟨hT', hd'⟩ := h'
  refine ⟨add_nonneg hT hT', ?_⟩
  -- Cauchy–Schwarz from Lagrange's identity, then the two radii
  have hcs : (A * A' + B * B') ^ 2 ≤ (T * T') ^ 2 :=
    calc (A * A' + B * B') ^ 2 ≤ (A ^ 2 + B ^ 2) * (A' ^ 2 + B' ^ 2) :=
          sub_nonneg.mp (by
            rw [show (A ^ 2 + B ^ 2) * (A' ^ 2 + B' ^ 2) - (A * A' + B * B') ^ 2 = (A * B' - A' * B) ^ 2 by ring]
            exact sq_nonneg _)
      _ ≤ T ^ 2 * T' ^ 2 := mul_le_mul hd hd' (add_nonneg (sq_nonneg _) (sq_nonneg _)) (sq_nonneg T)
      _ = (T * T') ^ 2 := (mul_pow T T' 2).symm
  have hle : A * A' + B * B' ≤ T * T' := le_of_sq_le_sq hcs (mul_nonneg hT hT')
  calc (A + A') ^ 2 + (B + B') ^ 2 = (A ^ 2 + B ^ 2) + (A' ^ 2 + B' ^ 2) + 2 * (A * A' + B * B') := by ring
    _ ≤ T ^ 2 + T' ^ 2 + 2 * (T * T') :=
        add_le_add (add_le_add hd hd') (mul_le_mul_of_nonneg_left hle zero_le_two)
    _ = (T + T') ^ 2 := by ring

theorem InDisk.smul {A B T : ℚ} (d : ℚ) (hd : 0 ≤ d) (h : InDisk A B T) :
    InDisk (d * A) (d * B) (d * T) := by
  obtain ⟨hT, hdk⟩ := h
  refine ⟨mul_nonneg hd hT, ?_⟩
  rw [mul_pow, mul_pow, mul_pow, ← mul_add]
  exact mul_le_mul_of_nonneg_left hdk (sq_nonneg d)

theorem InDisk.unit {w s c : ℚ} (hw : 0 ≤ w) (h : c ^ 2 + s ^ 2 = 1) : InDisk (w * s) (w * c) w := by
  refine ⟨hw, ?_⟩
  rw [mul_pow, mul_pow, ← mul_add, add_comm, h, mul_one]

/-- one frequency row: `(Σ_j Δθ E_j s_j, Σ_j Δθ E_j c_j)` lies in the disk of radius `Δθ Σ_j E_j` -/
theorem row_inDisk (ddv : ℚ) (hdd : 0 ≤ ddv) (r c s : Vec) (hlen : c.length = s.length)
    (hunit : ∀ p ∈ c.zip s, p.1 ^ 2 + p.2 ^ 2 = 1) (hr : ∀ x ∈ r, 0 ≤ x) :
    InDisk (List.zipWith (fun x y => ddv * x * y) r s).sum (List.zipWith (fun x y => ddv * x * y) r c).sum
      (ddv * r.sum) := by
  induction r generalizing c s with
  | nil => exact InDisk.zero (by rw [List.sum_nil, mul_zero])
  | cons x r ih =>
    obtain ⟨hx, hr'⟩ := List.forall_mem_cons.mp hr
    match c, s, hlen with
    | [], [], _ =>
      -- the tables have run out: the rest of the row only enlarges the radius
      exact InDisk.zero (mul_nonneg hdd (List.sum_nonneg hr))
    | cj :: c, sj :: s, hlen =>
      obtain ⟨hu, hunit'⟩ := List.forall_mem_cons.mp hunit
      have := (InDisk.unit (mul_nonneg hdd hx) hu).add (ih c s (Nat.succ.inj hlen) hunit' hr')
      rwa [← mul_add] at this

/-- weighted over frequencies with non-negative weights: the `(a, b, e)` of `dspr` -/
theorem dot_inDisk (ddv : ℚ) (hdd : 0 ≤ ddv) (c s : Vec) (hlen : c.length = s.length)
    (hunit : ∀ p ∈ c.zip s, p.1 ^ 2 + p.2 ^ 2 = 1) (e : Mat) (he : ∀ r ∈ e, ∀ x ∈ r, 0 ≤ x)
    (w : Vec) (hw : ∀ d ∈ w, 0 ≤ d) :
    InDisk (dot (Stats.momdRow ddv s e) w) (dot (Stats.momdRow ddv c e) w) (dot (Stats.oned ddv e) w) := by
  unfold dot mulV Stats.momdRow Stats.oned
  induction e generalizing w with
  | nil => exact InDisk.zero le_rfl
  | cons r e ih =>
    cases w with
    | nil => exact InDisk.zero le_rfl
    | cons d w =>
      obtain ⟨hr, he'⟩ := List.forall_mem_cons.mp he
      obtain ⟨hd, hw'⟩ := List.forall_mem_cons.mp hw
      have := ((row_inDisk ddv hdd r c s hlen hunit hr).smul d hd).add (ih he' w hw')
      simpa only [List.map_cons, List.zipWith_cons_cons, List.sum_cons, mul_comm d] using this

/-! ### linear combinations of per-row functionals (rotation of the trig tables) -/

/-- an entry of `e.map g` is `g` of one row of `e` (the same row for every `g`), or `0` for every `g` -/
theorem getR_map_mem_or_zero (e : Mat) (g : Vec → ℚ) (i : Nat) :
    (∃ r ∈ e, getR (e.map g) i = g r ∧ ∀ g' : Vec → ℚ, getR (e.map g') i = g' r) ∨
      (∀ g' : Vec → ℚ, getR (e.map g') i = 0) := by
  unfold getR
  simp only [List.getD_eq_getElem?_getD, List.getElem?_map]
  cases h : e[i]? with
  | none => right; intro g'; simp
  | some r => left; exact ⟨r, List.mem_of_getElem? h, by simp, fun g' => by simp⟩

theorem getR_map_lin (e : Mat) (g g1 g2 : Vec → ℚ) (α β : ℚ) (h : ∀ r, g r = α * g1 r + β * g2 r)
    (i : Nat) : getR (e.map g) i = α * getR (e.map g1) i + β * getR (e.map g2) i := by
  rcases getR_map_mem_or_zero e g i with ⟨r, _, _, hr⟩ | h0
  · rw [hr, hr, hr, h]
  · rw [h0, h0, h0, mul_zero, mul_zero, add_zero]

theorem sum_map_linear {ι : Type} (l : List ι) (F F1 F2 : ι → ℚ) (α β : ℚ) (h : ∀ i, F i = α * F1 i + β * F2 i) :
    (l.map F).sum = α * (l.map F1).sum + β * (l.map F2).sum := by
  rw [funext h, List.sum_map_add, ← sum_map_const_mul, ← sum_map_const_mul, List.map_map, List.map_map]
  rfl

theorem sum_map_lin (e : Mat) (g g1 g2 : Vec → ℚ) (α β : ℚ) (h : ∀ r, g r = α * g1 r + β * g2 r) :
    (e.map g).sum = α * (e.map g1).sum + β * (e.map g2).sum :=
  sum_map_linear e g g1 g2 α β h

theorem dot_map_lin (e : Mat) (g g1 g2 : Vec → ℚ) (α β : ℚ) (h : ∀ r, g r = α * g1 r + β * g2 r)
    (w : Vec) : dot (e.map g) w = α * dot (e.map g1) w + β * dot (e.map g2) w := by
  unfold dot mulV
  -- each side is a sum over the pairs of `e.zip w`
  simp only [List.zipWith_map_left]
  simp only [← List.map_uncurry_zip_eq_zipWith]
  exact sum_map_linear _ _ _ _ α β fun p => by rw [Function.uncurry, h, add_mul, mul_assoc, mul_assoc]; rfl

/-- one row against a table that is a pointwise linear combination of two equally long tables -/
theorem row_zipWith_lin (ddv α β : ℚ) (r c s : Vec) (hlen : c.length = s.length) :
    (List.zipWith (fun x y => ddv * x * y) r (List.zipWith (fun cj sj => α * sj + β * cj) c s)).sum =
      α * (List.zipWith (fun x y => ddv * x * y) r s).sum +
        β * (List.zipWith (fun x y => ddv * x * y) r c).sum := by
  induction r generalizing c s with
  | nil => simp
  | cons x r ih =>
    match c, s, hlen with
    | [], [], _ => simp
    | cj :: c, sj :: s, hlen =>
      simp only [List.zipWith_cons_cons, List.sum_cons, ih c s (Nat.succ.inj hlen)]
      ring

theorem pairwise_getR_lt (l : Vec) (h : l.Pairwise (· < ·)) :
    ∀ i, i + 1 < l.length → getR l i < getR l (i + 1) := by
  intro i hi
  rw [getR_eq_getElem l i (by omega), getR_eq_getElem l (i + 1) hi]
  exact List.pairwise_iff_getElem.mp h i (i + 1) (by omega) hi (by omega)

end WS
