import WsVerif.Model.Track
import Mathlib.Data.List.Nodup
import Mathlib.Data.List.Basic
import Mathlib.Data.List.Range
import Mathlib.Tactic.Linarith
/-! Helper lemmas for C19 (partition tracking): the greedy loop, the id propagation, the invariant of the
    tracker state and its preservation by a time step.  The recursive functions of the model are taken apart by
    their own case structure (`fun_induction`), so each lemma only says what happens in each branch. -/
namespace WS.Track

theorem getD_eq_some_iff {α : Type} {l : List (Option α)} {p : Nat} {k : α} :
    l.getD p none = some k ↔ l[p]? = some (some k) := by
  rw [List.getD_eq_getElem?_getD]
  cases l[p]? <;> simp

theorem mem_present {row : List (Option Nat)} {k : Nat} : k ∈ present row ↔ some k ∈ row := by
  simp [present, List.mem_filterMap]

theorem present_nil : present [] = [] := rfl
theorem present_none (l : List (Option Nat)) : present (none :: l) = present l := rfl
theorem present_some (k : Nat) (l : List (Option Nat)) : present (some k :: l) = k :: present l := rfl

theorem present_nodup_inj {l : List (Option Nat)} (h : (present l).Nodup) {p q k : Nat}
    (hp : l[p]? = some (some k)) (hq : l[q]? = some (some k)) : p = q := by
  rw [present, List.Nodup, List.pairwise_filterMap, List.pairwise_iff_getElem] at h
  have key : ∀ {i j : Nat}, l[i]? = some (some k) → l[j]? = some (some k) → ¬ i < j := fun hi hj hij => by
    obtain ⟨hi', ei⟩ := List.getElem?_eq_some_iff.1 hi
    obtain ⟨hj', ej⟩ := List.getElem?_eq_some_iff.1 hj
    exact h _ _ hi' hj' hij k (by simp [ei]) k (by simp [ej]) rfl
  exact Nat.le_antisymm (Nat.not_lt.1 (key hq hp)) (Nat.not_lt.1 (key hp hq))

theorem argminFirst_none {l : List (Nat × Rat)} (h : argminFirst l = none) : l = [] := by
  fun_induction argminFirst l <;> simp_all

theorem argminFirst_spec (l : List (Nat × Rat)) (x : Nat × Rat) (h : argminFirst l = some x) :
    x ∈ l ∧ ∀ y ∈ l, x.2 ≤ y.2 := by
  fun_induction argminFirst l generalizing x with
  | case1 => cases h
  | case2 a as hn ih =>
    cases h; cases argminFirst_none hn; simp
  | case3 a as y hy hlt ih =>
    cases h
    obtain ⟨h1, h2⟩ := ih y hy
    exact ⟨List.mem_cons_of_mem _ h1, fun z hz => by
      rcases List.mem_cons.1 hz with rfl | hz
      exacts [le_of_lt hlt, h2 z hz]⟩
  | case4 a as y hy hlt ih =>
    cases h
    refine ⟨List.mem_cons_self, fun z hz => ?_⟩
    rcases List.mem_cons.1 hz with rfl | hz
    exacts [le_refl _, le_trans (not_lt.1 hlt) ((ih y hy).2 z hz)]

theorem mem_cands {dist : Dist} {avail : List Nat} {n c p : Nat} {d : Rat} :
    (p, d) ∈ cands dist avail n c ↔ p < n ∧ p ∈ avail ∧ dist c p = some d := by
  simp only [cands, List.mem_filterMap, List.mem_range]
  constructor
  · rintro ⟨q, hq, h⟩
    split at h
    · split at h <;> simp_all
    · cases h
  · rintro ⟨hp, ha, hd⟩
    exact ⟨p, hp, by simp [hd, ha]⟩

theorem cands_mem {dist : Dist} {avail : List Nat} {n c p : Nat} {d : Rat}
    (h : (p, d) ∈ cands dist avail n c) : p < n ∧ p ∈ avail ∧ dist c p = some d := mem_cands.1 h

def Match.nonempty : Match → Bool
  | .empty => false
  | _ => true

theorem matchLoop_nonempty (dist : Dist) (n : Nat) (cur : List Slot) (c : Nat) (avail : List Nat) :
    (matchLoop dist n cur c avail).map Match.nonempty = cur := by
  fun_induction matchLoop dist n cur c avail <;> simp_all [Match.nonempty]

theorem matchLoop_get (dist : Dist) (n : Nat) (cur : List Slot) (c : Nat) (avail : List Nat) (i p : Nat)
    (h : (matchLoop dist n cur c avail)[i]? = some (Match.prev p)) : ∃ d, dist (c + i) p = some d := by
  fun_induction matchLoop dist n cur c avail generalizing i with
  | case1 => cases h
  | case3 rest c avail q d hm ih =>
    cases i with
    | zero => cases h; exact ⟨d, (cands_mem (argminFirst_spec _ _ hm).1).2.2⟩
    | succ i => exact Nat.add_right_comm c 1 i ▸ ih i h
  | case2 rest c avail _ ih | case4 s rest c avail _ ih =>
    cases i with
    | zero => cases h
    | succ i => exact Nat.add_right_comm c 1 i ▸ ih i h

/-- moving the greedy rule (see `matchLoop_greedy`) of slot `i` past one more match in front -/
private theorem greedy_cons {dist : Dist} {ms : List Match} {c i q : Nat} {d' : Rat} (m : Match)
    (h : (∃ j, j < i ∧ ms[j]? = some (Match.prev q)) ∨
      ∃ p d, ms[i]? = some (Match.prev p) ∧ dist (c + 1 + i) p = some d ∧ d ≤ d') :
    (∃ j, j < i + 1 ∧ (m :: ms)[j]? = some (Match.prev q)) ∨
      ∃ p d, (m :: ms)[i + 1]? = some (Match.prev p) ∧ dist (c + (i + 1)) p = some d ∧ d ≤ d' := by
  rcases h with ⟨j, hj, h⟩ | ⟨p, d, h⟩
  · exact Or.inl ⟨j + 1, Nat.succ_lt_succ hj, h⟩
  · exact Or.inr ⟨p, d, Nat.add_right_comm c 1 i ▸ h⟩

/-- the greedy rule at every slot: if `q` is an available in-threshold candidate of the non-empty slot `i`, then
    an earlier slot has taken `q`, or slot `i` is matched to some `p` at least as near (the first of the nearest,
    the sort being stable) -/
theorem matchLoop_greedy (dist : Dist) (n : Nat) (cur : List Slot) (c : Nat) (avail : List Nat) (i q : Nat) (d' : Rat)
    (hi : cur[i]? = some true) (hq : q < n) (ha : q ∈ avail) (hd : dist (c + i) q = some d') :
    (∃ j, j < i ∧ (matchLoop dist n cur c avail)[j]? = some (Match.prev q)) ∨
      ∃ p d, (matchLoop dist n cur c avail)[i]? = some (Match.prev p) ∧ dist (c + i) p = some d ∧ d ≤ d' := by
  fun_induction matchLoop dist n cur c avail generalizing i with
  | case1 => cases hi
  | case2 rest c avail hm ih =>
    cases i with
    | zero => cases argminFirst_none hm ▸ mem_cands.2 ⟨hq, ha, hd⟩
    | succ i => exact greedy_cons _ (ih i hi ha (Nat.add_right_comm c 1 i ▸ hd))
  | case3 rest c avail p d hm ih =>
    cases i with
    | zero =>
      have hs := argminFirst_spec _ _ hm
      exact Or.inr ⟨p, d, rfl, (cands_mem hs.1).2.2, hs.2 (q, d') (mem_cands.2 ⟨hq, ha, hd⟩)⟩
    | succ i =>
      by_cases hqp : q = p
      · exact Or.inl ⟨0, Nat.succ_pos i, hqp ▸ rfl⟩
      · exact greedy_cons _ (ih i hi ((List.mem_erase_of_ne hqp).2 ha) (Nat.add_right_comm c 1 i ▸ hd))
  | case4 s rest c avail hs ih =>
    cases i with
    | zero => exact absurd (Option.some.inj hi) hs
    | succ i => exact greedy_cons _ (ih i hi ha (Nat.add_right_comm c 1 i ▸ hd))

theorem mem_prevs {ms : List Match} {p : Nat} : p ∈ prevs ms ↔ Match.prev p ∈ ms := by
  induction ms with
  | nil => simp [prevs]
  | cons m ms ih => cases m <;> simp [prevs, ih]

/-- the greedy loop uses every predecessor at most once, and only available ones -/
theorem matchLoop_prevs (dist : Dist) (n : Nat) (cur : List Slot) (c : Nat) (avail : List Nat) (hnd : avail.Nodup) :
    (prevs (matchLoop dist n cur c avail)).Nodup ∧ ∀ p ∈ prevs (matchLoop dist n cur c avail), p ∈ avail := by
  fun_induction matchLoop dist n cur c avail with
  | case1 => exact ⟨List.nodup_nil, fun _ h => nomatch h⟩
  | case2 rest c avail _ ih | case4 s rest c avail _ ih => exact ih hnd
  | case3 rest c avail q d hm ih =>
    obtain ⟨r1, r2⟩ := ih (hnd.erase q)
    refine ⟨List.nodup_cons.2 ⟨fun hq => (hnd.mem_erase_iff.1 (r2 q hq)).1 rfl, r1⟩, fun p hp => ?_⟩
    rcases List.mem_cons.1 hp with rfl | hp
    exacts [(cands_mem (argminFirst_spec _ _ hm).1).2.1, List.mem_of_mem_erase (r2 p hp)]

theorem availOf_nodup (prev : List Slot) : (availOf prev).Nodup :=
  List.Nodup.filter _ List.nodup_range

theorem mem_availOf {prev : List Slot} {p : Nat} : p ∈ availOf prev ↔ prev[p]? = some true := by
  simp only [availOf, List.mem_filter, List.mem_range, List.getD_eq_getElem?_getD]
  by_cases h : p < prev.length <;> simp [h]

theorem propagate_isSome (prevIds : List (Option Nat)) (ms : List Match) (next : Nat)
    (h : ∀ p, Match.prev p ∈ ms → (prevIds.getD p none).isSome = true) :
    (propagate prevIds ms next).1.map Option.isSome = ms.map Match.nonempty := by
  induction ms generalizing next with
  | nil => rfl
  | cons m ms ih =>
    have ih := fun next => ih next fun p hp => h p (List.mem_cons_of_mem _ hp)
    cases m with
    | prev p => simpa [propagate, Match.nonempty, ih] using h p List.mem_cons_self
    | _ => simp [propagate, Match.nonempty, ih]

/-- where an id of the new row comes from -/
theorem propagate_get (prevIds : List (Option Nat)) (ms : List Match) (next c k : Nat)
    (h : (propagate prevIds ms next).1[c]? = some (some k)) :
    next ≤ k ∨ ∃ p, ms[c]? = some (Match.prev p) ∧ prevIds.getD p none = some k := by
  fun_induction propagate prevIds ms next generalizing c with
  | case1 => cases h
  | case2 ms next r ih =>
    cases c with
    | zero => cases h
    | succ c => exact ih c h
  | case3 ms next r ih =>
    cases c with
    | zero => cases h; exact Or.inl (le_refl _)
    | succ c => exact (ih c h).imp_left Nat.le_of_succ_le
  | case4 p ms next r ih =>
    cases c with
    | zero => exact Or.inr ⟨p, rfl, Option.some.inj h⟩
    | succ c => exact ih c h

theorem propagate_mem {prevIds : List (Option Nat)} {ms : List Match} {next k : Nat}
    (h : k ∈ present (propagate prevIds ms next).1) :
    next ≤ k ∨ ∃ p ∈ prevs ms, prevIds.getD p none = some k := by
  obtain ⟨c, hc⟩ := List.mem_iff_getElem?.1 (mem_present.1 h)
  exact (propagate_get _ _ _ c k hc).imp_right fun ⟨p, hp, hk⟩ => ⟨p, mem_prevs.2 (List.mem_of_getElem? hp), hk⟩

/-- a step issues ids in order and keeps them distinct, given that the previous row's ids are distinct and already
    issued and that no predecessor is continued twice -/
theorem propagate_spec (prevIds : List (Option Nat)) (ms : List Match) (next : Nat)
    (hb : ∀ p k, prevIds.getD p none = some k → k < next)
    (hinj : ∀ p q k, prevIds.getD p none = some k → prevIds.getD q none = some k → p = q)
    (hnd : (prevs ms).Nodup) :
    (present (propagate prevIds ms next).1).Nodup ∧
      InOrder next (present (propagate prevIds ms next).1) (propagate prevIds ms next).2 := by
  fun_induction propagate prevIds ms next with
  | case1 => exact ⟨List.nodup_nil, rfl⟩
  | case2 ms next r ih => exact ih hb hnd
  | case3 ms next r ih =>
    obtain ⟨h1, h2⟩ := ih (fun p k h => Nat.lt_succ_of_lt (hb p k h)) hnd
    refine ⟨List.nodup_cons.2 ⟨fun hin => ?_, h1⟩, Or.inr ⟨rfl, h2⟩⟩
    rcases propagate_mem hin with h | ⟨p, _, h⟩
    exacts [Nat.lt_irrefl _ h, Nat.lt_irrefl _ (hb p _ h)]
  | case4 p ms next r ih =>
    obtain ⟨h1, h2⟩ := ih hb (List.nodup_cons.1 hnd).2
    cases hv : prevIds.getD p none with
    | none => exact ⟨h1, h2⟩
    | some j =>
      refine ⟨List.nodup_cons.2 ⟨fun hin => ?_, h1⟩, Or.inl ⟨hb p j hv, h2⟩⟩
      rcases propagate_mem hin with h | ⟨q, hq, h⟩
      · exact Nat.lt_irrefl _ (Nat.lt_of_lt_of_le (hb p j hv) h)
      · exact (List.nodup_cons.1 hnd).1 (hinj p q j hv h ▸ hq)

theorem InOrder.le {l : List Nat} {n m : Nat} (h : InOrder n l m) : n ≤ m := by
  induction l generalizing n with
  | nil => exact Nat.le_of_eq h
  | cons x xs ih =>
    rcases h with ⟨_, h⟩ | ⟨_, h⟩
    exacts [ih h, Nat.le_of_succ_le (ih h)]

theorem InOrder.append : ∀ {l1 : List Nat} {n m k : Nat} {l2 : List Nat},
    InOrder n l1 m → InOrder m l2 k → InOrder n (l1 ++ l2) k := by
  intro l1 n m k l2 h1 h2
  induction l1 generalizing n with
  | nil => exact h1 ▸ h2
  | cons x xs ih => exact h1.imp (And.imp_right ih) (And.imp_right ih)

theorem InOrder.lt_of_mem {l : List Nat} {n m : Nat} (h : InOrder n l m) {x : Nat} (hx : x ∈ l) : x < m := by
  induction l generalizing n with
  | nil => cases hx
  | cons y ys ih =>
    rcases h with ⟨hy, h⟩ | ⟨hy, h⟩ <;> rcases List.mem_cons.1 hx with rfl | hx
    exacts [Nat.lt_of_lt_of_le hy h.le, ih h hx, hy ▸ h.le, ih h hx]

theorem InOrder.mem_of_lt {l : List Nat} {n m : Nat} (h : InOrder n l m) {x : Nat} (h1 : n ≤ x) (h2 : x < m) : x ∈ l := by
  induction l generalizing n with
  | nil => exact absurd (h ▸ h2) (Nat.not_lt.2 h1)
  | cons y ys ih =>
    rcases h with ⟨_, h⟩ | ⟨hy, h⟩
    · exact List.mem_cons_of_mem _ (ih h h1)
    · rcases Nat.eq_or_lt_of_le h1 with e | e
      exacts [e ▸ hy ▸ List.mem_cons_self, List.mem_cons_of_mem _ (ih h e)]

/-- the ids `≥ n` come out of the scan in increasing order, each at its first occurrence -/
theorem InOrder.firstOcc {l : List Nat} {n m : Nat} (h : InOrder n l m) :
    (firstOcc l).filter (fun a => decide (n ≤ a)) = List.range' n (m - n) := by
  induction l generalizing n with
  | nil => cases h; simp [Track.firstOcc]
  | cons x xs ih =>
    rw [Track.firstOcc, List.filter_cons, List.filter_filter]
    rcases h with ⟨hx, h⟩ | ⟨rfl, h⟩
    · rw [if_neg (by simpa using hx), ← ih h]
      exact List.filter_congr fun a _ => by
        rw [← Bool.decide_and]
        exact decide_eq_decide.2 ⟨And.left, fun h => ⟨h, (Nat.lt_of_lt_of_le hx h).ne'⟩⟩
    · rw [if_pos (by simp), (Nat.succ_pred_eq_of_pos (Nat.sub_pos_of_lt h.le)).symm, List.range'_succ]
      refine congrArg _ (Eq.trans (List.filter_congr fun a _ => ?_) (ih h))
      rw [← Bool.decide_and]
      exact decide_eq_decide.2 ⟨fun h => Nat.lt_of_le_of_ne h.1 h.2.symm, fun h => ⟨Nat.le_of_lt h, Nat.ne_of_gt h⟩⟩

/-- marker pattern, per-step uniqueness, ids below the counter -/
structure Inv (st : St) : Prop where
  marker : st.ids.map Option.isSome = st.slots
  nodup : (present st.ids).Nodup
  bound : ∀ k ∈ present st.ids, k < st.next

/-- what a time step guarantees about the new state relative to the old one -/
structure StepRel (d : Dist) (a b : St) : Prop where
  origin : ∀ c k, b.ids[c]? = some (some k) →
    (a.next ≤ k) ∨ (∃ p, a.ids[p]? = some (some k) ∧ ∃ x, d c p = some x)
  inorder : InOrder a.next (present b.ids) b.next

theorem isSome_of_avail {st : St} (hI : Inv st) {p : Nat} (hp : p ∈ availOf st.slots) :
    (st.ids.getD p none).isSome = true := by
  have h := mem_availOf.1 hp
  rw [← hI.marker, List.getElem?_map] at h
  obtain ⟨v, hv, hs⟩ := Option.map_eq_some_iff.1 h
  rwa [List.getD_eq_getElem?_getD, hv]

theorem step_spec (d : Dist) (st : St) (cur : List Slot) (hI : Inv st) :
    Inv (step d st cur) ∧ StepRel d st (step d st cur) := by
  have hms := matchLoop_prevs d st.slots.length cur 0 (availOf st.slots) (availOf_nodup _)
  obtain ⟨h1, h3⟩ := propagate_spec st.ids (matchConsecutive d st.slots cur) st.next
    (fun p k h => hI.bound k (mem_present.2 (List.mem_of_getElem? (getD_eq_some_iff.1 h))))
    (fun p q k h1 h2 => present_nodup_inj hI.nodup (getD_eq_some_iff.1 h1) (getD_eq_some_iff.1 h2)) hms.1
  refine ⟨⟨?_, h1, fun k => h3.lt_of_mem⟩, ⟨fun c k hck => ?_, h3⟩⟩
  · exact (propagate_isSome _ _ _ fun p hp => isSome_of_avail hI (hms.2 p (mem_prevs.2 hp))).trans
      (matchLoop_nonempty _ _ _ _ _)
  · refine (propagate_get st.ids _ _ c k hck).imp_right fun ⟨p, hp, hpk⟩ => ?_
    exact ⟨p, getD_eq_some_iff.1 hpk, Nat.zero_add c ▸ matchLoop_get d _ cur 0 _ c p hp⟩

/-- numbering the first step is a tracker step from the empty state (no predecessor to continue) -/
theorem firstStep_eq_propagate (d : Dist) (ss : List Slot) (c next : Nat) :
    firstStep ss next = propagate [] (matchLoop d 0 ss c []) next := by
  fun_induction firstStep ss next generalizing c with
  | case1 => rfl
  | case2 ss next r ih => simp [matchLoop, cands, argminFirst, propagate, r, ih (c + 1)]
  | case3 ss next r ih => simp [matchLoop, propagate, r, ih (c + 1)]

theorem inv_init (s0 : List Slot) : Inv (init s0) ∧ InOrder 0 (present (init s0).ids) (init s0).next := by
  have e : init s0 = step (fun _ _ => none) ⟨[], [], 0⟩ s0 := by
    simp [init, step, matchConsecutive, availOf, firstStep_eq_propagate (fun _ _ => none) s0 0 0]
  obtain ⟨h1, h2⟩ := step_spec (fun _ _ => none) ⟨[], [], 0⟩ s0 ⟨rfl, List.nodup_nil, fun _ h => nomatch h⟩
  exact e ▸ ⟨h1, h2.inorder⟩

/-- two consecutive states are related by `step` with the distance matrix and slots of that time step -/
theorem allStates_consec (steps : List (Dist × List Slot)) (st : St) (t : Nat) (a b : St)
    (ha : (allStates st steps)[t]? = some a) (hb : (allStates st steps)[t + 1]? = some b) :
    ∃ d s, steps[t]? = some (d, s) ∧ b = step d a s := by
  induction steps generalizing st t with
  | nil => cases hb
  | cons ds rest ih =>
    cases t with
    | zero => cases rest <;> cases ha <;> cases hb <;> exact ⟨_, _, rfl, rfl⟩
    | succ t => exact ih _ t ha hb

/-- the states from step `t0` on are the states of the tracker started in the state of step `t0` -/
theorem allStates_mem_drop (steps : List (Dist × List Slot)) (st : St) (t0 t : Nat) (a0 a : St)
    (h0 : (allStates st steps)[t0]? = some a0) (h : (allStates st steps)[t]? = some a) (hle : t0 ≤ t) :
    a ∈ allStates a0 (steps.drop t0) := by
  induction t0 generalizing steps st t with
  | zero => cases steps <;> cases h0 <;> exact List.mem_of_getElem? h
  | succ t0 ih =>
    cases steps with
    | nil => cases h0
    | cons ds rest =>
      cases t with
      | zero => cases hle
      | succ t => exact ih rest _ t h0 h (Nat.le_of_succ_le_succ hle)

/-- a property kept by every time step holds along the whole history -/
theorem allStates_forall {P : St → Prop} (hP : ∀ d a s, Inv a → P a → P (step d a s)) :
    ∀ (steps : List (Dist × List Slot)) (st : St), Inv st → P st → ∀ b ∈ allStates st steps, Inv b ∧ P b
  | [], st, hI, h, b, hb => by cases List.mem_singleton.1 hb; exact ⟨hI, h⟩
  | (d, s) :: rest, st, hI, h, b, hb => by
    rcases List.mem_cons.1 hb with rfl | hb
    exacts [⟨hI, h⟩, allStates_forall hP rest _ (step_spec d st s hI).1 (hP d st s hI h) b hb]

theorem allStates_inv {steps : List (Dist × List Slot)} {st b : St} (hI : Inv st) (hb : b ∈ allStates st steps) :
    Inv b :=
  (allStates_forall (P := fun _ => True) (fun _ _ _ _ _ => trivial) steps st hI trivial b hb).1

theorem next_mono {steps : List (Dist × List Slot)} {st b : St} (hI : Inv st) (hb : b ∈ allStates st steps) :
    st.next ≤ b.next :=
  (allStates_forall (P := fun b => st.next ≤ b.next)
    (fun d a s hIa h => Nat.le_trans h (step_spec d a s hIa).2.inorder.le) steps st hI (Nat.le_refl _) b hb).2

/-- an id that has been issued (`< next`) and is not in use stays out of use for ever -/
theorem absent_persists {k : Nat} {steps : List (Dist × List Slot)} {st b : St} (hI : Inv st)
    (h1 : k < st.next) (h2 : k ∉ present st.ids) (hb : b ∈ allStates st steps) : k ∉ present b.ids := by
  refine (allStates_forall (P := fun b => k ∉ present b.ids ∧ k < b.next) (fun d a s hIa h => ?_)
    steps st hI ⟨h2, h1⟩ b hb).2.1
  obtain ⟨_, hR⟩ := step_spec d a s hIa
  refine ⟨fun hin => ?_, Nat.lt_of_lt_of_le h.2 hR.inorder.le⟩
  obtain ⟨c, hc⟩ := List.mem_iff_getElem?.1 (mem_present.1 hin)
  rcases hR.origin c k hc with h' | ⟨p, hp, _⟩
  exacts [Nat.lt_irrefl _ (Nat.lt_of_lt_of_le h.2 h'), h.1 (mem_present.2 (List.mem_of_getElem? hp))]

theorem finalNext_eq : ∀ (steps : List (Dist × List Slot)) (st : St),
    ∃ b, (allStates st steps).getLast? = some b ∧ finalNext st steps = b.next
  | [], st => ⟨st, rfl, rfl⟩
  | (d, s) :: rest, st => by
    obtain ⟨b, h1, h2⟩ := finalNext_eq rest (step d st s)
    exact ⟨b, by rw [allStates, List.getLast?_cons, h1]; rfl, h2⟩

/-- the ids of all steps, scanned in time order then slot order, are issued in order; the counter ends at
    the reported count -/
theorem allStates_inOrder : ∀ (steps : List (Dist × List Slot)) (st : St) (n0 : Nat), Inv st →
    InOrder n0 (present st.ids) st.next →
      InOrder n0 ((allStates st steps).flatMap fun a => present a.ids) (finalNext st steps)
  | [], st, n0, _, h => by rwa [allStates, List.flatMap_singleton]
  | (d, s) :: rest, st, n0, hI, h => by
    obtain ⟨hI', hR⟩ := step_spec d st s hI
    exact h.append (allStates_inOrder rest _ _ hI' hR.inorder)

theorem rows_get {s0 : List Slot} {steps : List (Dist × List Slot)} {t : Nat} {row : List (Option Nat)}
    (h : (track s0 steps).1[t]? = some row) :
    ∃ a, (allStates (init s0) steps)[t]? = some a ∧ a.ids = row ∧ Inv a := by
  obtain ⟨a, ha, e⟩ := Option.map_eq_some_iff.1 ((List.getElem?_map ..).symm.trans h)
  exact ⟨a, ha, e, allStates_inv (inv_init s0).1 (List.mem_of_getElem? ha)⟩

theorem allStates_slots : ∀ (steps : List (Dist × List Slot)) (st : St),
    (allStates st steps).map (·.slots) = st.slots :: steps.map (·.2)
  | [], _ => rfl
  | (d, s) :: rest, st => congrArg _ (allStates_slots rest (step d st s))

theorem mkSteps_get (rest : List (Thr × Step)) (s0 : Step) (t : Nat) (thr : Thr) (prevStep cur : Step)
    (h : rest[t]? = some (thr, cur)) (hp : (s0 :: rest.map (·.2))[t]? = some prevStep) :
    (mkSteps s0 rest)[t]? = some (distOf thr prevStep cur, slotsOf cur) := by
  induction rest generalizing s0 t with
  | nil => cases h
  | cons x rest ih =>
    cases t with
    | zero => cases h; cases hp; rfl
    | succ t => exact ih x.2 t h hp

end WS.Track
