import WsVerif.Model.Basic
import Mathlib.Tactic.Linarith
import Mathlib.Algebra.Order.Field.Rat
/-! `argmaxFirst` returns the first index of the maximum (numpy `argmax`). -/
namespace WS

theorem getR_append_right (pre ys : Vec) (j : Nat) (h : pre.length ≤ j) :
    getR (pre ++ ys) j = getR ys (j - pre.length) := by
  simp only [getR, List.getD_eq_getElem?_getD, List.getElem?_append_right h]

theorem getR_append_left (pre ys : Vec) (j : Nat) (h : j < pre.length) :
    getR (pre ++ ys) j = getR pre j := by
  simp only [getR, List.getD_eq_getElem?_getD, List.getElem?_append_left h]

/-- invariant of the scan: `best = (pre ++ ys)[bi]` is the first maximum of the part `pre` already seen -/
theorem argmaxFirst_go_spec (pre ys : Vec) (best : Rat) (bi : Nat)
    (hbi : bi < pre.length) (hbest : best = getR (pre ++ ys) bi)
    (hinv : ∀ j < pre.length, getR (pre ++ ys) j ≤ best ∧ (j < bi → getR (pre ++ ys) j < best)) :
    let r := argmaxFirst.go best bi pre.length ys
    r < (pre ++ ys).length ∧
      ∀ j < (pre ++ ys).length, getR (pre ++ ys) j ≤ getR (pre ++ ys) r ∧
        (j < r → getR (pre ++ ys) j < getR (pre ++ ys) r) := by
  induction ys generalizing pre best bi with
  | nil =>
    rw [List.append_nil] at hbest hinv ⊢
    exact ⟨hbi, fun j hj => hbest ▸ hinv j hj⟩
  | cons y ys ih =>
    have hy : getR (pre ++ y :: ys) pre.length = y := by
      rw [getR_append_right _ _ _ (le_refl _), Nat.sub_self]; rfl
    have hlen : (pre ++ [y]).length = pre.length + 1 := List.length_append
    rw [List.append_cons] at hbest hinv hy ⊢
    rw [argmaxFirst.go, ← hlen]
    -- both branches continue the scan with `pre ++ [y]` seen
    have hj : ∀ j < (pre ++ [y]).length, j < pre.length ∨ j = pre.length := fun j hj =>
      Nat.lt_succ_iff_lt_or_eq.mp (hlen ▸ hj : j < pre.length + 1)
    split
    · rename_i hlt
      refine ih (pre ++ [y]) y pre.length (hlen ▸ Nat.lt_succ_self _) hy.symm fun j hj' => ?_
      rcases hj j hj' with hj' | rfl
      · exact ⟨((hinv j hj').1.trans_lt hlt).le, fun _ => (hinv j hj').1.trans_lt hlt⟩
      · exact ⟨hy.le, fun h => absurd h (lt_irrefl _)⟩
    · rename_i hlt
      refine ih (pre ++ [y]) best bi (hlen ▸ Nat.lt_succ_of_lt hbi) hbest fun j hj' => ?_
      rcases hj j hj' with hj' | rfl
      · exact hinv j hj'
      · exact ⟨hy.le.trans (not_lt.mp hlt), fun h => absurd h (Nat.lt_asymm hbi)⟩

/-- numpy `argmax` semantics: a valid index, a maximiser, and the first one -/
theorem argmaxFirst_spec (l : Vec) (hne : l ≠ []) :
    argmaxFirst l < l.length ∧
      ∀ j < l.length, getR l j ≤ getR l (argmaxFirst l) ∧ (j < argmaxFirst l → getR l j < getR l (argmaxFirst l)) := by
  cases l with
  | nil => exact absurd rfl hne
  | cons x xs =>
    exact argmaxFirst_go_spec [x] xs x 0 Nat.zero_lt_one rfl fun j hj => by
      rw [List.length_singleton, Nat.lt_one_iff] at hj
      subst hj; exact ⟨le_refl _, fun h => absurd h (lt_irrefl _)⟩
end WS
