import WsVerif.Model.NpTwins
import WsVerif.Lemmas.Sums
/-!
Helper lemmas for the T-tier bridges of `Props/C01.lean`, `Props/C02.lean`: the slice / zip / map forms that the
vector grammar of `harness/translate_np.py` emits are the recursive forms used by the hand-written models.
No generated definition is mentioned here.
-/
namespace WS
open WS.Stats WS.Peak

/-- `npDf f = |f[1:] − f[:-1]|` -/
theorem npDf_eq_slices : ∀ f : Vec,
    npDf f = List.map (fun t => absR t) (List.zipWith (fun a b => a - b) (List.drop 1 f) (List.dropLast f))
  | [] => rfl
  | [_] => rfl
  | a :: b :: rest => by
    have ih := npDf_eq_slices (b :: rest)
    simp only [npDf, List.drop_succ_cons, List.drop_zero, List.dropLast_cons_cons, List.zipWith_cons_cons,
      List.map_cons] at ih ⊢
    rw [ih]

/-- `trapz d E = ½·Σ d·(E[1:] + E[:-1])` -/
theorem trapz_eq_slices (d E : Vec) :
    trapz d E = (1 / 2) * (List.zipWith (fun a b => a * b) d
      (List.zipWith (fun a b => a + b) (List.drop 1 E) (List.dropLast E))).sum := by
  induction d generalizing E with
  | nil => simp [trapz]
  | cons x ds ih =>
    match E with
    | [] => simp [trapz]
    | [_] => simp [trapz]
    | a :: b :: rest =>
      simp only [trapz, ih, List.drop_succ_cons, List.drop_zero, List.dropLast_cons_cons, List.zipWith_cons_cons,
        List.sum_cons]
      ring

/-- `((dd * spectrum * t).sum(axis=1))` written with maps and zips is `momdRow dd t` -/
theorem mom1_rows (dd : ℚ) (t : Vec) (e : Mat) :
    List.map List.sum (List.map (fun row => List.zipWith (fun a b => a * b) row t)
      (List.map (fun row => List.map (fun x => dd * x) row) e)) = momdRow dd t e := by
  unfold momdRow
  simp only [List.map_map]
  apply List.map_congr_left
  intro r _
  simp only [Function.comp_def, List.zipWith_map_left]

/-- the argument `180 + theta − dir` of the sin / cos tables at the default `theta = 90` -/
theorem momArg_default (d : ℚ) : 180 + 90 - d = momArg d := by
  unfold momArg; norm_num

/-- `np.where((f > lo·fp) & (f < hi·fp))[0]` written with maps, zips and a filtered range is `windowIdx` -/
theorem where_window_eq (lo hi fp : ℚ) (f : Vec) :
    (let b := (List.zipWith (fun a b => a && b) (List.map (fun t => decide (t > lo * fp)) f)
        (List.map (fun t => decide (t < hi * fp)) f))
     (List.range b.length).filter (fun i => b.getD i false)) = windowIdx lo hi fp f := by
  unfold windowIdx
  simp only [List.length_zipWith, List.length_map, Nat.min_self]
  apply List.filter_congr
  intro i hi'
  have hi'' : i < f.length := List.mem_range.mp hi'
  simp only [List.getD_eq_getElem?_getD, getR, List.getElem?_zipWith, List.getElem?_map, List.getElem?_eq_getElem hi'',
    Option.map_some, Option.getD_some, gt_iff_lt]

/-- `Σ s·f⁵·ex` over fancy-indexed vectors is the sum over the positions -/
theorem sum_zip3_map (pos : List Nat) (a b c : Nat → ℚ) :
    (List.zipWith (fun x y => x * y) (List.zipWith (fun x y => x * y) (pos.map a) (List.map (fun t => t ^ 5) (pos.map b)))
      (pos.map c)).sum = (pos.map fun i => a i * b i ^ 5 * c i).sum := by
  simp only [List.map_map, List.zipWith_map, List.zipWith_self, Function.comp_def]

end WS
