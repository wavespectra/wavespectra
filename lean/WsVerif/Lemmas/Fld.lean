import WsVerif.Lemmas.Fld.Base
import WsVerif.Lemmas.Fld.Eff
import WsVerif.Lemmas.Fld.S1a
import WsVerif.Lemmas.Fld.S1b
import WsVerif.Lemmas.Fld.S1c
import WsVerif.Lemmas.Fld.S2
import WsVerif.Lemmas.Fld.Top
import WsVerif.Lemmas.Fld.Table
import WsVerif.Lemmas.Fld.Sort
import WsVerif.Lemmas.Fld.Part
import WsVerif.Lemmas.Fld.Sim
import WsVerif.Lemmas.Fld.G1a
import WsVerif.Lemmas.Fld.G1b
import WsVerif.Lemmas.Fld.G1c
import WsVerif.Lemmas.Fld.GTop
import WsVerif.Lemmas.Fld.G2
import WsVerif.Lemmas.Fld.GCtx
import WsVerif.Lemmas.Fld.GValid
import WsVerif.Lemmas.Fld.GSound
/-! Helper lemmas for `Props/C20fld.lean` and `Props/C04sound.lean` about the transliteration of `pt_fld` and `partition`
(`Model/Specpart.lean`), in two layers.

Safety and label effect, one Hoare triple (`Std.Do`) per loop: no out-of-range access, the fuel suffices, and for the runs
that record it the label effect of the ghost trace is the concrete label array (`Ghost … (TR …)`).  `Fld/Base` = bounds-checked
accessors, verification-condition tactics, the circular FIFO, pigeonhole counting; `Fld/Eff` = label effect of a trace
(`effRun`), `TR`, `Ghost`; `Fld/S1a`, `Fld/S1b`, `Fld/S1c`, `Fld/S2`, `Fld/Top` = the loops of `pt_fld` and their composition;
`Fld/Table`, `Fld/Sort`, `Fld/Part` = neighbour table, counting sort, `partition` as a whole.

Simulation, a second triple per loop: the concrete arrays stay related to the state of the abstract flooding machine that
has consumed the ghost trace, so the trace is valid (G3).  `Fld/Sim` = the relation; `Fld/G1a`, `Fld/G1b`, `Fld/G1c`,
`Fld/GTop`, `Fld/G2` = the loops; `Fld/GCtx` = what `partition` hands to `pt_fld` is a context of the simulation;
`Fld/GValid`, `Fld/GSound` = from a run of the machine to `traceValid`, well-formedness of `graphOf`, label decoding. -/
