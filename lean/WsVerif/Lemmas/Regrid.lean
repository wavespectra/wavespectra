import WsVerif.Model.Basic
import WsVerif.Model.Regrid
import WsVerif.Lemmas.Sums
import WsVerif.Lemmas.Moments
import Mathlib.Tactic.Ring
import Mathlib.Tactic.Linarith
import Mathlib.Tactic.FieldSimp
import Mathlib.Tactic.NormNum
import Mathlib.Algebra.Order.Field.Rat
import Mathlib.Data.Rat.Floor
import Mathlib.Data.List.Rotate
/-!
Helper lemmas for C08: `zipWith` and lists with optional wrap elements, index bookkeeping with `getR`, the node search
`locate`, the stable sort `sortK` / `dedupK` (in general, on already ordered and on rotated input), `minL`/`maxL`.
-/
namespace WS.Regrid
open WS

/-! ### lists -/

/-- a `zipWith` whose function ignores its first argument, on a first list that is long enough -/
theorem zipWith_eq_map_right {α β γ : Type} {g : α → β → γ} {k : β → γ} : ∀ (l1 : List α) (l2 : List β),
    l2.length ≤ l1.length → (∀ a ∈ l1, ∀ b ∈ l2, g a b = k b) → List.zipWith g l1 l2 = l2.map k
  | _, [], _, _ => by simp
  | [], _ :: _, h, _ => by simp at h
  | a :: l1, b :: l2, h, hg => by
    rw [List.zipWith_cons_cons, List.map_cons, hg a (by simp) b (by simp),
      zipWith_eq_map_right l1 l2 (by simpa using h) fun a ha b hb =>
        hg a (List.mem_cons_of_mem _ ha) b (List.mem_cons_of_mem _ hb)]

theorem zipWith_eq_map_left {α β γ : Type} {g : α → β → γ} {k : α → γ} (l1 : List α) (l2 : List β)
    (h : l1.length ≤ l2.length) (hg : ∀ a ∈ l1, ∀ b ∈ l2, g a b = k a) : List.zipWith g l1 l2 = l1.map k := by
  rw [List.zipWith_comm]; exact zipWith_eq_map_right l2 l1 h fun b hb a ha => hg a ha b hb

theorem getD_mem_or {α : Type} (l : List α) (i : Nat) (d : α) : l.getD i d = d ∨ l.getD i d ∈ l := by
  rw [List.getD_eq_getElem?_getD]
  cases h : l[i]? with
  | none => exact Or.inl rfl
  | some a => exact Or.inr (List.mem_of_getElem? h)

theorem two_le_length_of_mem_ne (l : Vec) (a b : ℚ) (ha : a ∈ l) (hb : b ∈ l) (hab : a ≠ b) : 2 ≤ l.length := by
  match l, ha, hb with
  | [x], ha, hb =>
    simp only [List.mem_singleton] at ha hb
    exact absurd (ha.trans hb.symm) hab
  | _ :: _ :: _, _, _ => simp

/-! ### `getR` bookkeeping -/

/-- reading a list that carries an optional wrap element in front (and anything behind): the list's own entries -/
theorem getD_wrap {α : Type} (lo : Bool) (a : α) (l post : List α) (k : Nat) (hk : k < l.length) (d : α) :
    ((if lo then [a] else []) ++ l ++ post).getD (k + if lo then 1 else 0) d = l.getD k d := by
  simp only [List.getD_eq_getElem?_getD]
  cases lo
  · rw [List.getElem?_append_left (by simpa using hk)]; rfl
  · rw [List.getElem?_append_left (by simpa using hk)]; rfl

/-- … and the wrap element behind it -/
theorem getD_wrap_hi {α : Type} (lo : Bool) (a b : α) (l : List α) (d : α) :
    ((if lo then [a] else []) ++ l ++ [b]).getD (l.length + if lo then 1 else 0) d = b := by
  simp only [List.getD_eq_getElem?_getD]
  cases lo
  · rw [List.getElem?_append_right (by simp)]; simp
  · rw [List.getElem?_append_right (by simp)]; simp

/-- the members of a list with optional wrap elements at both ends (`dirXs`, `dirYs`) -/
theorem mem_wrap (lo hi : Bool) (a b : ℚ) (l : Vec) (y : ℚ)
    (h : y ∈ (if lo then [a] else []) ++ l ++ (if hi then [b] else [])) : y = a ∨ y ∈ l ∨ y = b := by
  rcases List.mem_append.mp h with h | h
  · rcases List.mem_append.mp h with h | h
    · cases lo
      · cases h
      · exact Or.inl (List.mem_singleton.mp h)
    · exact Or.inr (Or.inl h)
  · cases hi
    · cases h
    · exact Or.inr (Or.inr (List.mem_singleton.mp h))

theorem getR_wrap (lo : Bool) (a : ℚ) (l post : Vec) (k : Nat) (hk : k < l.length) :
    getR ((if lo then [a] else []) ++ l ++ post) (k + if lo then 1 else 0) = getR l k := getD_wrap lo a l post k hk 0

theorem getR_wrap_hi (lo : Bool) (a b : ℚ) (l : Vec) :
    getR ((if lo then [a] else []) ++ l ++ [b]) (l.length + if lo then 1 else 0) = b := getD_wrap_hi lo a b l 0

theorem getR_cons_zero (a : ℚ) (l : Vec) : getR (a :: l) 0 = a := rfl
theorem getR_cons_succ (a : ℚ) (l : Vec) (k : Nat) : getR (a :: l) (k + 1) = getR l k := rfl

theorem getR_of_le (l : Vec) (k : Nat) (h : l.length ≤ k) : getR l k = 0 := by
  simp [getR, List.getD_eq_getElem?_getD, List.getElem?_eq_none h]

theorem headD_eq_getR (l : Vec) : l.headD 0 = getR l 0 := by cases l <;> rfl

theorem headD_mem (l : Vec) (h : l ≠ []) : l.headD 0 ∈ l := by
  rw [headD_eq_getR]; exact getR_mem l _ (List.length_pos_iff.mpr h)

/-! ### `lerpT` -/

theorem lerpT_zero (a b : ℚ) : lerpT a b 0 = a := by simp [lerpT]
theorem lerpT_one (a b : ℚ) : lerpT a b 1 = b := by simp [lerpT]
theorem lerpT_convex (a b t : ℚ) : lerpT a b t = (1 - t) * a + t * b := by unfold lerpT; ring
theorem lerpT_nonneg (a b t : ℚ) (ha : 0 ≤ a) (hb : 0 ≤ b) (h0 : 0 ≤ t) (h1 : t ≤ 1) : 0 ≤ lerpT a b t := by
  rw [lerpT_convex]
  have := mul_nonneg (sub_nonneg.mpr h1) ha
  have := mul_nonneg h0 hb
  linarith

/-! ### the node search -/

theorem locate_cons2 (x0 x1 : ℚ) (rest : Vec) (x : ℚ) :
    locate (x0 :: x1 :: rest) x = if x < x0 then .out else locGo x x0 0 (x1 :: rest) := rfl
theorem locate_single (x0 x : ℚ) : locate [x0] x = if x = x0 then .nan else .out := rfl
theorem locGo_cons (x x0 : ℚ) (i : Nat) (x1 : ℚ) (rest : Vec) :
    locGo x x0 i (x1 :: rest) =
      if x ≤ x1 then (if x1 = x0 then .nan else .seg i ((x - x0) / (x1 - x0))) else locGo x x1 (i + 1) rest := rfl
theorem locGo_nil (x x0 : ℚ) (i : Nat) : locGo x x0 i [] = .out := rfl

/-- whatever the nodes: a located segment brackets the target, is non-degenerate, and carries the linear weight -/
theorem locGo_seg (x : ℚ) : ∀ (rest : Vec) (x0 : ℚ) (i j : Nat) (t : ℚ), x0 ≤ x →
    locGo x x0 i rest = .seg j t →
    ∃ k, j = i + k ∧ k + 1 < (x0 :: rest).length ∧ getR (x0 :: rest) k ≤ x ∧ x ≤ getR (x0 :: rest) (k + 1) ∧
      getR (x0 :: rest) k < getR (x0 :: rest) (k + 1) ∧
      t = (x - getR (x0 :: rest) k) / (getR (x0 :: rest) (k + 1) - getR (x0 :: rest) k) := by
  intro rest
  induction rest with
  | nil => intro x0 i j t _ h; rw [locGo_nil] at h; cases h
  | cons x1 r ih =>
    intro x0 i j t h0 h
    rw [locGo_cons] at h
    by_cases hx : x ≤ x1
    · rw [if_pos hx] at h
      by_cases he : x1 = x0
      · rw [if_pos he] at h; cases h
      · rw [if_neg he] at h
        injection h with h1 h2
        exact ⟨0, h1.symm, Nat.succ_lt_succ (Nat.succ_pos _), h0, hx,
          lt_of_le_of_ne (le_trans h0 hx) (Ne.symm he), h2.symm⟩
    · rw [if_neg hx] at h
      obtain ⟨k, hk1, hk2, hk⟩ := ih x1 (i + 1) j t (le_of_lt (not_le.mp hx)) h
      exact ⟨k + 1, by omega, Nat.succ_lt_succ hk2, hk⟩

theorem locate_seg (xs : Vec) (x : ℚ) (j : Nat) (t : ℚ) (h : locate xs x = .seg j t) :
    j + 1 < xs.length ∧ getR xs j ≤ x ∧ x ≤ getR xs (j + 1) ∧ getR xs j < getR xs (j + 1) ∧
      t = (x - getR xs j) / (getR xs (j + 1) - getR xs j) := by
  match xs, h with
  | [], h => simp [locate] at h
  | [x0], h =>
    rw [locate_single] at h
    split_ifs at h
  | x0 :: x1 :: rest, h =>
    rw [locate_cons2] at h
    by_cases hx : x < x0
    · rw [if_pos hx] at h; cases h
    · rw [if_neg hx] at h
      obtain ⟨k, hk1, hk2, hk3, hk4, hk5, hk6⟩ := locGo_seg x (x1 :: rest) x0 0 j t (not_lt.mp hx) h
      have : j = k := by omega
      subst this
      exact ⟨hk2, hk3, hk4, hk5, hk6⟩

theorem locate_seg_weight (xs : Vec) (x : ℚ) (j : Nat) (t : ℚ) (h : locate xs x = .seg j t) :
    0 ≤ t ∧ t ≤ 1 := by
  obtain ⟨_, h1, h2, h3, h4⟩ := locate_seg xs x j t h
  have hpos : 0 < getR xs (j + 1) - getR xs j := sub_pos.mpr h3
  rw [h4]
  constructor
  · exact div_nonneg (sub_nonneg.mpr h1) (le_of_lt hpos)
  · rw [div_le_one hpos]; exact sub_le_sub_right h2 _

theorem le_getR_of_pairwise (x1 : ℚ) (r : Vec) (hs : (x1 :: r).Pairwise (· < ·)) (j : Nat)
    (hj : j < (x1 :: r).length) : x1 ≤ getR (x1 :: r) j := by
  cases j with
  | zero => exact le_refl _
  | succ j => exact le_of_lt ((List.pairwise_cons.mp hs).1 _ (getR_mem r j (by simpa using hj)))

/-- on strictly increasing nodes a target in `(x_j, x_{j+1}]` is found in segment `j` -/
theorem locGo_between (x : ℚ) : ∀ (rest : Vec) (x0 : ℚ) (i j : Nat), (x0 :: rest).Pairwise (· < ·) →
    j + 1 < (x0 :: rest).length → getR (x0 :: rest) j < x → x ≤ getR (x0 :: rest) (j + 1) →
    locGo x x0 i rest =
      .seg (i + j) ((x - getR (x0 :: rest) j) / (getR (x0 :: rest) (j + 1) - getR (x0 :: rest) j)) := by
  intro rest
  induction rest with
  | nil => intro _ _ j _ hj; simp at hj
  | cons x1 r ih =>
    intro x0 i j hs hj h1 h2
    have hs' := List.pairwise_cons.mp hs
    cases j with
    | zero => rw [locGo_cons, if_pos (show x ≤ x1 from h2), if_neg (ne_of_gt (hs'.1 x1 (by simp)))]; rfl
    | succ j =>
      have hj' : j < (x1 :: r).length := Nat.lt_of_succ_lt (Nat.lt_of_succ_lt_succ hj)
      have hx1 : x1 < x := lt_of_le_of_lt (le_getR_of_pairwise x1 r hs'.2 j hj') h1
      rw [locGo_cons, if_neg (not_le.mpr hx1), ih x1 (i + 1) j hs'.2 (Nat.lt_of_succ_lt_succ hj) h1 h2, Nat.add_assoc,
        Nat.add_comm 1 j]
      rfl

theorem locate_between (xs : Vec) (x : ℚ) (hs : xs.Pairwise (· < ·)) (j : Nat) (hj : j + 1 < xs.length)
    (h1 : getR xs j < x) (h2 : x ≤ getR xs (j + 1)) :
    locate xs x = .seg j ((x - getR xs j) / (getR xs (j + 1) - getR xs j)) := by
  match xs, hj with
  | x0 :: x1 :: rest, hj =>
    have h0 : x0 ≤ x := le_trans (le_getR_of_pairwise x0 _ hs j (Nat.lt_of_succ_lt hj)) (le_of_lt h1)
    rw [locate_cons2, if_neg (not_lt.mpr h0), locGo_between x _ x0 0 j hs hj h1 h2, Nat.zero_add]

theorem locate_node_zero (xs : Vec) (hs : xs.Pairwise (· < ·)) (hn : 2 ≤ xs.length) :
    locate xs (getR xs 0) = .seg 0 0 := by
  match xs, hn with
  | x0 :: x1 :: rest, _ =>
    have h01 : x0 < x1 := (List.pairwise_cons.mp hs).1 x1 (by simp)
    rw [getR_cons_zero, locate_cons2, if_neg (lt_irrefl _), locGo_cons, if_pos (le_of_lt h01), if_neg (ne_of_gt h01)]
    simp

/-- the `k+1`-th node is found at the right end of segment `k` -/
theorem locate_node_succ (xs : Vec) (hs : xs.Pairwise (· < ·)) (k : Nat) (hk : k + 1 < xs.length) :
    locate xs (getR xs (k + 1)) = .seg k 1 := by
  have hlt := pairwise_getR_lt xs hs k hk
  rw [locate_between xs _ hs k hk hlt (le_refl _), div_self (ne_of_gt (sub_pos.mpr hlt))]

/-- strictly increasing nodes never give a degenerate segment -/
theorem locGo_not_nan (x : ℚ) : ∀ (rest : Vec) (x0 : ℚ) (i : Nat), (x0 :: rest).Pairwise (· < ·) →
    (locGo x x0 i rest).isNan = false := by
  intro rest
  induction rest with
  | nil => intro _ _ _; rfl
  | cons x1 r ih =>
    intro x0 i hs
    have hs' := List.pairwise_cons.mp hs
    rw [locGo_cons]
    split
    · rw [if_neg (ne_of_gt (hs'.1 x1 (by simp)))]; rfl
    · exact ih x1 (i + 1) hs'.2

theorem locate_not_nan (xs : Vec) (x : ℚ) (hs : xs.Pairwise (· < ·)) (hn : 2 ≤ xs.length) :
    (locate xs x).isNan = false := by
  match xs, hn with
  | x0 :: x1 :: rest, _ =>
    rw [locate_cons2]
    split
    · rfl
    · exact locGo_not_nan x (x1 :: rest) x0 0 hs

/-- beyond every node: the fill value -/
theorem locGo_out (x : ℚ) : ∀ (rest : Vec) (x0 : ℚ) (i : Nat), (∀ y ∈ rest, y < x) → locGo x x0 i rest = .out := by
  intro rest
  induction rest with
  | nil => intro _ _ _; rfl
  | cons x1 r ih =>
    intro x0 i h
    rw [locGo_cons, if_neg (not_le.mpr (h x1 (by simp)))]
    exact ih x1 (i + 1) (fun y hy => h y (List.mem_cons_of_mem _ hy))

theorem locate_out_above (xs : Vec) (x : ℚ) (h : ∀ y ∈ xs, y < x) : locate xs x = .out := by
  match xs, h with
  | [], _ => rfl
  | [x0], h =>
    rw [locate_single, if_neg (ne_of_gt (h x0 (by simp)))]
  | x0 :: x1 :: rest, h =>
    rw [locate_cons2, if_neg (not_lt.mpr (le_of_lt (h x0 (by simp))))]
    exact locGo_out x (x1 :: rest) x0 0 (fun y hy => h y (List.mem_cons_of_mem _ hy))

theorem locate_first_seg (a b : ℚ) (rest : Vec) (x : ℚ) (h1 : a ≤ x) (h2 : x ≤ b) (hab : a ≠ b) :
    locate (a :: b :: rest) x = .seg 0 ((x - a) / (b - a)) := by
  rw [locate_cons2, if_neg (not_lt.mpr h1), locGo_cons, if_pos h2, if_neg (Ne.symm hab)]

/-- inside the node range of strictly increasing nodes (at least two) a segment is always found -/
theorem locGo_in_range (x : ℚ) : ∀ (rest : Vec) (x0 : ℚ) (i : Nat), (x0 :: rest).Pairwise (· < ·) → rest ≠ [] →
    x ≤ lastD (x0 :: rest) → (locGo x x0 i rest).isSeg = true := by
  intro rest
  induction rest with
  | nil => intro _ _ _ h; exact absurd rfl h
  | cons x1 r ih =>
    intro x0 i hs _ hx
    have hs' := List.pairwise_cons.mp hs
    rw [locGo_cons]
    by_cases h1 : x ≤ x1
    · rw [if_pos h1, if_neg (ne_of_gt (hs'.1 x1 (by simp)))]; rfl
    · rw [if_neg h1]
      cases r with
      | nil => exact absurd hx h1
      | cons x2 r => exact ih x1 (i + 1) hs'.2 (List.cons_ne_nil _ _) hx

theorem locate_in_range (xs : Vec) (x : ℚ) (hs : xs.Pairwise (· < ·)) (hn : 2 ≤ xs.length) (h0 : xs.headD 0 ≤ x)
    (h1 : x ≤ lastD xs) : (locate xs x).isSeg = true := by
  match xs, hn with
  | x0 :: x1 :: rest, _ =>
    simp only [List.headD_cons] at h0
    rw [locate_cons2, if_neg (not_lt.mpr h0)]
    exact locGo_in_range x (x1 :: rest) x0 0 hs (by simp) h1

/-! ### stable sort and `np.unique` on input that is already ordered, or a rotation of an ordered list -/

section SortLemmas
variable {α : Type}

theorem insertK_nil (p : ℚ × α) : insertK p [] = [p] := rfl
theorem insertK_cons (p q : ℚ × α) (t : List (ℚ × α)) :
    insertK p (q :: t) = if p.1 ≤ q.1 then p :: q :: t else q :: insertK p t := rfl
theorem sortK_nil : sortK ([] : List (ℚ × α)) = [] := rfl
theorem sortK_cons (p : ℚ × α) (t : List (ℚ × α)) : sortK (p :: t) = insertK p (sortK t) := rfl

/-- keys weakly below every key of the list: inserted in front -/
theorem insertK_front (p : ℚ × α) (t : List (ℚ × α)) (h : ∀ q ∈ t, p.1 ≤ q.1) : insertK p t = p :: t := by
  cases t with
  | nil => rfl
  | cons q t => rw [insertK_cons, if_pos (h q (by simp))]

theorem sortK_sorted (l : List (ℚ × α)) (h : (l.map (·.1)).Pairwise (· ≤ ·)) : sortK l = l := by
  induction l with
  | nil => rfl
  | cons p t ih =>
    simp only [List.map_cons, List.pairwise_cons] at h
    rw [sortK_cons, ih h.2]
    exact insertK_front p t (fun q hq => h.1 q.1 (List.mem_map_of_mem hq))

/-- rows attached to increasing keys stay where they are -/
theorem sortK_zip (F : Vec) (E : List α) (hl : F.length = E.length) (hs : F.Pairwise (· ≤ ·)) :
    (sortK (F.zip E)).map (·.1) = F ∧ (sortK (F.zip E)).map (·.2) = E := by
  have hk : (F.zip E).map (·.1) = F := List.map_fst_zip (le_of_eq hl)
  rw [sortK_sorted _ (by rw [hk]; exact hs)]
  exact ⟨hk, List.map_snd_zip (le_of_eq hl.symm)⟩

theorem perm_insertK (p : ℚ × α) (t : List (ℚ × α)) : (insertK p t).Perm (p :: t) := by
  induction t with
  | nil => exact List.Perm.refl _
  | cons q t ih =>
    rw [insertK_cons]
    split
    · exact List.Perm.refl _
    · exact (ih.cons q).trans (List.Perm.swap p q t)

theorem perm_sortK (l : List (ℚ × α)) : (sortK l).Perm l := by
  induction l with
  | nil => exact List.Perm.refl _
  | cons p t ih => exact (perm_insertK p (sortK t)).trans (ih.cons p)

theorem mem_insertK (p x : ℚ × α) (t : List (ℚ × α)) : x ∈ insertK p t ↔ x = p ∨ x ∈ t :=
  (perm_insertK p t).mem_iff.trans List.mem_cons

theorem mem_sortK (x : ℚ × α) (l : List (ℚ × α)) : x ∈ sortK l ↔ x ∈ l := (perm_sortK l).mem_iff

theorem length_sortK (l : List (ℚ × α)) : (sortK l).length = l.length := (perm_sortK l).length_eq

/-- a key above every key of `l2`: inserted behind `l2` -/
theorem insertK_append (p : ℚ × α) (l2 t : List (ℚ × α)) (h : ∀ q ∈ l2, q.1 < p.1) :
    insertK p (l2 ++ t) = l2 ++ insertK p t := by
  induction l2 with
  | nil => rfl
  | cons q l2 ih =>
    rw [List.cons_append, insertK_cons, if_neg (not_le.mpr (h q (by simp)))]
    rw [ih (fun r hr => h r (List.mem_cons_of_mem _ hr))]; rfl

theorem foldr_insertK_append (l2 : List (ℚ × α)) : ∀ l1 : List (ℚ × α),
    ((l2 ++ l1).map (·.1)).Pairwise (· < ·) → List.foldr insertK l2 l1 = l2 ++ l1 := by
  intro l1
  induction l1 with
  | nil => intro _; simp
  | cons a t ih =>
    intro h
    have hsub : ((l2 ++ t).map (·.1)).Pairwise (· < ·) := by
      refine List.Pairwise.sublist ?_ h
      exact List.Sublist.map _ (List.Sublist.append_left (List.sublist_cons_self a t) l2)
    rw [List.foldr_cons, ih hsub]
    rw [List.map_append, List.pairwise_append] at h
    have h2 : ∀ q ∈ l2, q.1 < a.1 := fun q hq =>
      h.2.2 q.1 (List.mem_map_of_mem hq) a.1 (List.mem_map_of_mem (f := Prod.fst) List.mem_cons_self)
    rw [insertK_append a l2 t h2]
    have h3 := h.2.1
    simp only [List.map_cons, List.pairwise_cons] at h3
    rw [insertK_front a t (fun q hq => le_of_lt (h3.1 q.1 (List.mem_map_of_mem hq)))]

/-- sorting a rotation `l1 ++ l2` of a strictly ordered list `l2 ++ l1` gives the ordered list back -/
theorem sortK_rotated (l1 l2 : List (ℚ × α)) (h : ((l2 ++ l1).map (·.1)).Pairwise (· < ·)) :
    sortK (l1 ++ l2) = l2 ++ l1 := by
  unfold sortK
  rw [List.foldr_append]
  have h2 : (l2.map (·.1)).Pairwise (· ≤ ·) := by
    rw [List.map_append, List.pairwise_append] at h
    exact h.1.imp le_of_lt
  have : List.foldr insertK [] l2 = l2 := sortK_sorted l2 h2
  rw [this]
  exact foldr_insertK_append l2 l1 h

theorem dedupGo_strict : ∀ (t : List (ℚ × α)) (p : ℚ × α), (((p :: t).map (·.1))).Pairwise (· < ·) →
    dedupGo p t = p :: t := by
  intro t
  induction t with
  | nil => intro p _; rfl
  | cons q t ih =>
    intro p h
    rw [List.map_cons, List.pairwise_cons] at h
    have hpq : p.1 < q.1 := h.1 q.1 (List.mem_map_of_mem (f := Prod.fst) List.mem_cons_self)
    show (if p.1 = q.1 then dedupGo p t else p :: dedupGo q t) = p :: q :: t
    rw [if_neg (ne_of_lt hpq), ih q h.2]

theorem dedupK_strict (l : List (ℚ × α)) (h : (l.map (·.1)).Pairwise (· < ·)) : dedupK l = l := by
  cases l with
  | nil => rfl
  | cons p t => exact dedupGo_strict t p h

/-! ### the stable sort and `np.unique` in general: sorted, strictly increasing after `dedupK`, same key set -/

theorem insertK_keys_sorted (p : ℚ × α) (t : List (ℚ × α)) (h : (t.map (·.1)).Pairwise (· ≤ ·)) :
    ((insertK p t).map (·.1)).Pairwise (· ≤ ·) := by
  induction t with
  | nil => simp [insertK_nil]
  | cons q t ih =>
    simp only [List.map_cons, List.pairwise_cons] at h
    rw [insertK_cons]
    split
    · rename_i hpq
      simp only [List.map_cons, List.pairwise_cons]
      refine ⟨?_, h⟩
      intro y hy
      rcases List.mem_cons.mp hy with rfl | hy
      · exact hpq
      · exact le_trans hpq (h.1 y hy)
    · rename_i hpq
      simp only [List.map_cons, List.pairwise_cons]
      refine ⟨?_, ih h.2⟩
      intro y hy
      simp only [List.mem_map] at hy
      obtain ⟨r, hr, rfl⟩ := hy
      rcases (mem_insertK p r t).mp hr with rfl | hr
      · exact le_of_lt (not_le.mp hpq)
      · exact h.1 r.1 (List.mem_map_of_mem hr)

theorem sortK_keys_sorted (l : List (ℚ × α)) : ((sortK l).map (·.1)).Pairwise (· ≤ ·) := by
  induction l with
  | nil => simp [sortK_nil]
  | cons p t ih => rw [sortK_cons]; exact insertK_keys_sorted p _ ih

theorem dedupGo_cons (p q : ℚ × α) (t : List (ℚ × α)) :
    dedupGo p (q :: t) = if p.1 = q.1 then dedupGo p t else p :: dedupGo q t := rfl

/-- on key-sorted input `np.unique` leaves strictly increasing keys and the same key set -/
theorem dedupGo_spec : ∀ (t : List (ℚ × α)) (p : ℚ × α), (((p :: t).map (·.1))).Pairwise (· ≤ ·) →
    ((dedupGo p t).map (·.1)).Pairwise (· < ·) ∧
      (∀ y, y ∈ (dedupGo p t).map (·.1) ↔ y ∈ (p :: t).map (·.1)) := by
  intro t
  induction t with
  | nil => exact fun p _ => ⟨List.pairwise_singleton _ _, fun _ => Iff.rfl⟩
  | cons q t ih =>
    intro p h
    rw [List.map_cons, List.pairwise_cons, List.map_cons, List.forall_mem_cons] at h
    rw [dedupGo_cons]
    by_cases hpq : p.1 = q.1
    · -- `q` repeats the key of `p` and is dropped
      rw [if_pos hpq]
      obtain ⟨h1, h2⟩ := ih p (List.pairwise_cons.mpr ⟨h.1.2, (List.pairwise_cons.mp h.2).2⟩)
      refine ⟨h1, fun y => (h2 y).trans ?_⟩
      rw [List.map_cons, List.map_cons, List.map_cons, List.mem_cons, List.mem_cons, List.mem_cons, ← hpq, ← or_assoc,
        or_self]
    · rw [if_neg hpq]
      obtain ⟨h1, h2⟩ := ih q h.2
      have hlt : p.1 < q.1 := lt_of_le_of_ne h.1.1 hpq
      refine ⟨List.pairwise_cons.mpr ⟨fun y hy => ?_, h1⟩, fun y =>
        List.mem_cons.trans ((or_congr_right (h2 y)).trans List.mem_cons.symm)⟩
      rcases List.mem_cons.mp ((h2 y).mp hy) with rfl | hy'
      · exact hlt
      · exact lt_of_lt_of_le hlt ((List.pairwise_cons.mp h.2).1 y hy')

theorem dedupK_sortK_spec (l : List (ℚ × α)) :
    ((dedupK (sortK l)).map (·.1)).Pairwise (· < ·) ∧ (∀ y, y ∈ (dedupK (sortK l)).map (·.1) ↔ y ∈ l.map (·.1)) := by
  have hs := sortK_keys_sorted l
  have hmem : ∀ y, y ∈ (sortK l).map (·.1) ↔ y ∈ l.map (·.1) := fun y => ((perm_sortK l).map _).mem_iff
  cases hl : sortK l with
  | nil =>
    rw [hl] at hmem
    exact ⟨by simp [dedupK], fun y => by rw [← hmem y]; simp [dedupK]⟩
  | cons p t =>
    rw [hl] at hs hmem
    obtain ⟨h1, h2⟩ := dedupGo_spec t p hs
    exact ⟨h1, fun y => by rw [← hmem y]; exact h2 y⟩

end SortLemmas

/-! ### `min()` / `max()` of a coordinate array -/

theorem minL_le_mem (l : Vec) : ∀ y ∈ l, minL l ≤ y := (minD_le l _).2
theorem maxL_ge_mem (l : Vec) : ∀ y ∈ l, y ≤ maxL l := (le_maxD l _).2

theorem minL_mem (l : Vec) (h : l ≠ []) : minL l ∈ l :=
  (minD_mem l (l.headD 0)).elim (fun h1 => by rw [minL, h1]; exact headD_mem l h) id

theorem maxL_mem (l : Vec) (h : l ≠ []) : maxL l ∈ l :=
  (maxD_mem l (l.headD 0)).elim (fun h1 => by rw [maxL, h1]; exact headD_mem l h) id

/-- on a strictly increasing list the head is a lower bound of the minimum and the last element an upper bound of
    the maximum (the equalities are `Rg.minL_sorted` / `Rg.maxL_sorted` in `Lemmas/RgBridge.lean`) -/
theorem head_le_minL (l : Vec) (h : l.Pairwise (· < ·)) : l.headD 0 ≤ minL l := by
  cases l with
  | nil => simp [minL, minD]
  | cons a t => exact (pairwise_lt_bounds (a :: t) h _ (minL_mem (a :: t) (by simp))).1

theorem maxL_le_last (l : Vec) (h : l.Pairwise (· < ·)) : maxL l ≤ lastD l := by
  cases l with
  | nil => simp [maxL, maxD, lastD]
  | cons a t => exact (pairwise_lt_bounds (a :: t) h _ (maxL_mem (a :: t) (by simp))).2

end WS.Regrid
