import WsVerif.Model.Smooth
import WsVerif.Model.SmoRt
import WsVerif.Lemmas.Smooth
/-!
Helper lemmas for `Props/C16smo.lean`: the vocabulary of the smoothing translator (`Model/SmoRt.lean`) against the
definitions of the hand model (`Model/Smooth.lean`).
-/
namespace WS.Smo
open WS WS.Smooth

theorem insertIdx_eq (d : Vec) (i : Nat) (l : List Nat) : Smo.insertIdx d i l = Smooth.insertIdx d i l := by
  induction l with
  | nil => rfl
  | cons j js ih => simp [Smo.insertIdx, Smooth.insertIdx, ih]

theorem argsortAux_eq (d : Vec) (n : Nat) : argsortAux d n = sortPermAux d n := by
  induction n with
  | zero => rfl
  | succ n ih => simp [argsortAux, sortPermAux, ih, insertIdx_eq]

theorem argsortStable_eq (d : Vec) : argsortStable d = sortPerm d := argsortAux_eq d _

theorem npDiff_eq : ∀ l : Vec, npDiff l = diffs l
  | [] => rfl
  | [_] => rfl
  | a :: b :: t => by rw [npDiff, diffs, npDiff_eq (b :: t)]

theorem amax_eq (l : Vec) : amax l = maxL l := rfl
theorem amin_eq (l : Vec) : amin l = minL l := rfl

theorem mem_listSet (x : Rat) (l : Vec) : x ∈ listSet l ↔ x ∈ l := by
  induction l with
  | nil => simp [listSet]
  | cons a t ih =>
    simp only [listSet, List.mem_cons, List.mem_filter, ih]
    by_cases h : x = a <;> simp [h]

/-- `len(set(v)) == 1` for a non-empty `v` = all entries equal the first -/
theorem listSet_length_one (d : Rat) (ds : Vec) : (listSet (d :: ds)).length = 1 ↔ ∀ x ∈ ds, x = d := by
  simp [listSet, List.filter_eq_nil_iff, mem_listSet]

theorem item0_listSet (d : Rat) (ds : Vec) : item0 (listSet (d :: ds)) = d := rfl

theorem rollCell_eq (e : Mat) (nf nc fw dw i j : Nat) : Smo.rollCell e nf nc fw dw i j = Smooth.rollCell e nf nc fw dw i j := rfl

theorem lastN_pos {α : Type} (w : Nat) (hw : w ≠ 0) (r : List α) : lastN w r = r.drop (r.length - w) := by
  simp [lastN, hw]

theorem zipWith_pad {α : Type} (f g : List α → List α) (l : List (List α)) :
    List.zipWith (· ++ ·) (l.map f) (List.zipWith (· ++ ·) l (l.map g)) = l.map fun r => f r ++ r ++ g r := by
  induction l with
  | nil => rfl
  | cons a t ih => simp [ih]

theorem sub_min_self (n w : Nat) : n - min w n = n - w := by
  rcases Nat.le_total w n with h | h
  · rw [Nat.min_eq_left h]
  · rw [Nat.min_eq_right h, Nat.sub_self, Nat.sub_eq_zero_of_le h]

/-- padding by more than the row length is padding by the row length (`slice` clips) -/
theorem padRow_min {α : Type} (w : Nat) (r : List α) : padRow (min w r.length) r = padRow w r := by
  rw [padRow, sub_min_self, ← List.take_eq_take_min, padRow]

theorem padLabels_min (w : Nat) (l : Vec) : padLabels (min w l.length) l = padLabels w l := by
  rw [padLabels, sub_min_self, ← List.take_eq_take_min, padLabels]

end WS.Smo
