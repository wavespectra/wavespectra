import WsVerif.Model.Basic
import Mathlib.Data.Rat.Floor
import Mathlib.Algebra.Order.Field.Rat
import Mathlib.Tactic.Ring
/-! What the helpers of `Model/Basic.lean` compute: `absR`/`minR`/`maxR` are Mathlib's, `pmod` is the remainder in
`[0, m)` with period `m`, `minD`/`maxD` are the bounds of a start value and a list, `getR`/`lastD` read entries. -/
namespace WS

/-! ### `absR`, `minR`, `maxR`, `divOpt` -/

theorem absR_eq_abs (x : ℚ) : absR x = |x| :=
  if h : x < 0 then (if_pos h).trans (abs_of_neg h).symm
  else (if_neg h).trans (abs_of_nonneg (not_lt.mp h)).symm

theorem absR_nonneg (x : ℚ) : 0 ≤ absR x := absR_eq_abs x ▸ abs_nonneg x

theorem absR_of_nonneg {x : ℚ} (h : 0 ≤ x) : absR x = x := if_neg (not_lt.mpr h)

theorem minR_eq_min (a b : ℚ) : minR a b = min a b :=
  if h : b < a then (if_pos h).trans (min_eq_right h.le).symm
  else (if_neg h).trans (min_eq_left (not_lt.mp h)).symm

theorem maxR_eq_max (a b : ℚ) : maxR a b = max a b :=
  if h : a < b then (if_pos h).trans (max_eq_right h.le).symm
  else (if_neg h).trans (max_eq_left (not_lt.mp h)).symm

theorem divOpt_of_ne_zero (a : ℚ) {b : ℚ} (hb : b ≠ 0) : divOpt a b = some (a / b) := if_neg hb

theorem divOpt_eq_none_iff (a b : ℚ) : divOpt a b = none ↔ b = 0 := by
  unfold divOpt; split <;> simp only [*, reduceCtorEq]

/-! ### `pmod` -/

theorem pmod_nonneg (x : ℚ) {m : ℚ} (hm : 0 < m) : 0 ≤ pmod x m := by
  have h := mul_le_mul_of_nonneg_left (Int.floor_le (x / m)) hm.le
  rw [mul_div_cancel₀ _ hm.ne'] at h
  exact sub_nonneg.mpr h

theorem pmod_lt (x : ℚ) {m : ℚ} (hm : 0 < m) : pmod x m < m := by
  have h := mul_lt_mul_of_pos_left (Int.lt_floor_add_one (x / m)) hm
  rw [mul_div_cancel₀ _ hm.ne', mul_add, mul_one] at h
  exact sub_lt_iff_lt_add'.mpr h

theorem pmod_eq_self {x m : ℚ} (h0 : 0 ≤ x) (h1 : x < m) : pmod x m = x := by
  have hm : 0 < m := lt_of_le_of_lt h0 h1
  have : (x / m).floor = 0 := Int.floor_eq_zero_iff.mpr ⟨div_nonneg h0 hm.le, (div_lt_one hm).mpr h1⟩
  unfold pmod
  rw [this, Int.cast_zero, mul_zero, sub_zero]

theorem pmod_add_mul_int (x m : ℚ) (n : ℤ) (hm : m ≠ 0) : pmod (x + m * n) m = pmod x m := by
  have : ((x + m * n) / m).floor = (x / m).floor + n := by
    rw [add_div, mul_div_cancel_left₀ _ hm]; exact Int.floor_add_intCast (x / m) n
  unfold pmod
  rw [this]; push_cast; ring

theorem pmod_add_period (x m : ℚ) (hm : m ≠ 0) : pmod (x + m) m = pmod x m := by
  simpa using pmod_add_mul_int x m 1 hm

/-- the modulo may be taken before or after an offset is added -/
theorem pmod_add_pmod (x a m : ℚ) (hm : m ≠ 0) : pmod (pmod x m + a) m = pmod (x + a) m := by
  rw [← pmod_add_mul_int (x + a) m (-(x / m).floor) hm]
  congr 1; unfold pmod; push_cast; ring

theorem pmod_sub_pmod (a x m : ℚ) (hm : m ≠ 0) : pmod (a - pmod x m) m = pmod (a - x) m := by
  rw [← pmod_add_mul_int (a - x) m (x / m).floor hm]
  congr 1; unfold pmod; ring

theorem pmod_idem (x m : ℚ) (hm : m ≠ 0) : pmod (pmod x m) m = pmod x m := by
  simpa using pmod_add_pmod x 0 m hm

/-! ### `minD`, `maxD` -/

/-- a fold that keeps one of its two arguments at every step ends on the start value or a member -/
theorem foldl_ite_mem (r : ℚ → ℚ → Prop) [DecidableRel r] (l : Vec) (d : ℚ) :
    l.foldl (fun a b => if r a b then b else a) d = d ∨ l.foldl (fun a b => if r a b then b else a) d ∈ l := by
  induction l generalizing d with
  | nil => exact Or.inl rfl
  | cons b l ih =>
    rcases ih (if r d b then b else d) with h | h
    · rw [List.foldl_cons, h]; split
      · exact Or.inr List.mem_cons_self
      · exact Or.inl rfl
    · exact Or.inr (List.mem_cons_of_mem _ h)

theorem minD_mem (l : Vec) (d : ℚ) : minD l d = d ∨ minD l d ∈ l := foldl_ite_mem (fun a b => b < a) l d

theorem maxD_mem (l : Vec) (d : ℚ) : maxD l d = d ∨ maxD l d ∈ l := foldl_ite_mem (fun a b => a < b) l d

/-- `minD l d` is the greatest lower bound of `d` and the entries of `l` -/
theorem le_minD_iff : ∀ (l : Vec) (d b : ℚ), b ≤ minD l d ↔ b ≤ d ∧ ∀ x ∈ l, b ≤ x
  | [], d, b => by simp [minD]
  | y :: ys, d, b => by
    rw [show minD (y :: ys) d = minD ys (if y < d then y else d) from rfl, le_minD_iff ys, List.forall_mem_cons,
      ← and_assoc]
    refine and_congr_left fun _ => ?_
    split
    · exact ⟨fun h => ⟨h.trans (le_of_lt ‹_›), h⟩, And.right⟩
    · exact ⟨fun h => ⟨h, h.trans (not_lt.mp ‹_›)⟩, And.left⟩

/-- `maxD l d` is the least upper bound of `d` and the entries of `l` -/
theorem maxD_le_iff : ∀ (l : Vec) (d b : ℚ), maxD l d ≤ b ↔ d ≤ b ∧ ∀ x ∈ l, x ≤ b
  | [], d, b => by simp [maxD]
  | y :: ys, d, b => by
    rw [show maxD (y :: ys) d = maxD ys (if d < y then y else d) from rfl, maxD_le_iff ys, List.forall_mem_cons,
      ← and_assoc]
    refine and_congr_left fun _ => ?_
    split
    · exact ⟨fun h => ⟨(le_of_lt ‹_›).trans h, h⟩, And.right⟩
    · exact ⟨fun h => ⟨h, (not_lt.mp ‹_›).trans h⟩, And.left⟩

theorem minD_le (l : Vec) (d : ℚ) : minD l d ≤ d ∧ ∀ x ∈ l, minD l d ≤ x := (le_minD_iff l d _).mp le_rfl

theorem le_maxD (l : Vec) (d : ℚ) : d ≤ maxD l d ∧ ∀ x ∈ l, x ≤ maxD l d := (maxD_le_iff l d _).mp le_rfl

/-! ### `getR`, `lastD` -/

theorem getR_eq_getElem (l : Vec) (i : Nat) (h : i < l.length) : getR l i = l[i] :=
  (List.getElem_eq_getD 0).symm

theorem getR_mem (l : Vec) (i : Nat) (h : i < l.length) : getR l i ∈ l := by
  rw [getR_eq_getElem l i h]; exact List.getElem_mem h

theorem map_getR_range (r : Vec) : (List.range r.length).map (getR r) = r := by
  refine List.ext_getElem (by rw [List.length_map, List.length_range]) fun i _ h2 => ?_
  rw [List.getElem_map, List.getElem_range]
  exact getR_eq_getElem r i h2

/-- an entry read with `getR` is a member of the list, or the default `0` -/
theorem getR_forall {P : ℚ → Prop} (l : Vec) (h0 : P 0) (h : ∀ y ∈ l, P y) (k : Nat) : P (getR l k) := by
  by_cases hk : k < l.length
  · exact h _ (getR_mem l k hk)
  · rw [getR, List.getD_eq_getElem?_getD, List.getElem?_eq_none (not_lt.mp hk)]; exact h0

/-- reading a mapped list at a valid position -/
theorem getR_map_of_lt {α : Type} (σ : List α) (g : α → ℚ) (d : α) (j : Nat) (hj : j < σ.length) :
    getR (σ.map g) j = g (σ.getD j d) := by
  rw [getR, List.getD_eq_getElem?_getD, List.getD_eq_getElem?_getD, List.getElem?_map,
    List.getElem?_eq_getElem hj]
  rfl

theorem lastD_eq_getR (l : Vec) : lastD l = getR l (l.length - 1) := by
  unfold lastD getR
  rw [List.getLastD_eq_getLast?, List.getLast?_eq_getElem?, List.getD_eq_getElem?_getD]

theorem lastD_mem (l : Vec) (h : l ≠ []) : lastD l ∈ l := by
  rw [lastD_eq_getR]; exact getR_mem l _ (Nat.sub_lt (List.length_pos_iff.mpr h) Nat.one_pos)

theorem lastD_forall {P : ℚ → Prop} (l : Vec) (h0 : P 0) (h : ∀ y ∈ l, P y) : P (lastD l) :=
  lastD_eq_getR l ▸ getR_forall l h0 h _

end WS
