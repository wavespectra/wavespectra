import WsVerif.Lemmas.Basic
import WsVerif.Model.Stats
import WsVerif.Model.Peak
import WsVerif.Lemmas.Argmax
import Mathlib.Data.List.Rotate
import Mathlib.Data.Rat.Floor
import Mathlib.Algebra.BigOperators.Group.List.Basic
import Mathlib.Algebra.Order.Field.Rat
import Mathlib.Tactic.Linarith
import Mathlib.Tactic.Ring
import Mathlib.Tactic.NormNum
/-!
Helper definitions and lemmas for C05 (results depend on labelled values, not on storage order):
re-ordering of the stored direction sequence, permutation invariance of sums, column sums and argmax under
re-ordering, and the uniform direction grids.
-/
namespace WS

/-! ### how a re-ordering is described -/

/-- re-ordering of a direction-indexed list by the index list `σ`: position `j` of the result holds the
    entry that was stored at position `σ[j]` -/
def reorder (σ : List Nat) (l : Vec) : Vec := σ.map fun j => l.getD j 0

/-- every row of `e'` is a permutation of the corresponding row of `e` -/
def RowsPerm (e e' : Mat) : Prop := List.Forall₂ List.Perm e e'

/-- rows and a direction-indexed table (sin / cos table, direction labels, …) re-ordered *alike*: in every
    row the (value, table entry) pairs form the same multiset before and after -/
def Alike (t t' : Vec) (e e' : Mat) : Prop :=
  List.Forall₂ (fun r r' => (r.zip t).Perm (r'.zip t')) e e'

/-! ### sums -/

theorem sum_zipWith_perm (g : ℚ → ℚ → ℚ) {r t r' t' : Vec} (h : (r.zip t).Perm (r'.zip t')) :
    (List.zipWith g r t).sum = (List.zipWith g r' t').sum := by
  rw [← List.map_uncurry_zip_eq_zipWith, ← List.map_uncurry_zip_eq_zipWith]
  exact (h.map _).sum_eq

theorem map_forall₂ {α β : Type} {R : α → α → Prop} {F F' : α → β} {e e' : List α}
    (h : List.Forall₂ R e e') (hF : ∀ r r', R r r' → F r = F' r') : e.map F = e'.map F' := by
  induction h with
  | nil => rfl
  | cons hr _ ih => simp only [List.map_cons, hF _ _ hr, ih]

theorem zipWith_forall₂ {α β γ : Type} {R : α → α → Prop} {F F' : γ → α → β} {e e' : List α}
    (h : List.Forall₂ R e e') (ps : List γ) (hF : ∀ p r r', R r r' → F p r = F' p r') :
    List.zipWith F ps e = List.zipWith F' ps e' := by
  induction h generalizing ps with
  | nil => simp
  | cons hr _ ih =>
    cases ps with
    | nil => simp
    | cons p ps => simp only [List.zipWith_cons_cons, hF _ _ _ hr, ih]

theorem forall₂_zipWith_left {α β γ : Type} {R : α → α → Prop} {R' : β → β → Prop} {F : α → γ → β}
    {e e' : List α} (h : List.Forall₂ R e e') (w : List γ)
    (hF : ∀ r r' d, R r r' → R' (F r d) (F r' d)) :
    List.Forall₂ R' (List.zipWith F e w) (List.zipWith F e' w) := by
  induction h generalizing w with
  | nil => simp
  | cons hr _ ih =>
    cases w with
    | nil => simp
    | cons d w => exact List.Forall₂.cons (hF _ _ _ hr) (ih w)

theorem forall₂_map_same {α : Type} {R : α → α → Prop} (F : α → α) (e : List α) (hF : ∀ r ∈ e, R r (F r)) :
    List.Forall₂ R e (e.map F) :=
  List.forall₂_map_right_iff.mpr (List.forall₂_same.mpr hF)

/-! ### index re-orderings -/

theorem getR_map_range (g : Nat → ℚ) (m i : Nat) (hi : i < m) : getR ((List.range m).map g) i = g i := by
  rw [getR_map_of_lt _ _ 0 _ (by rwa [List.length_range]), List.getD_eq_getElem?_getD,
    List.getElem?_range hi]
  rfl

theorem getR_reorder (σ : List Nat) (l : Vec) (j : Nat) (hj : j < σ.length) :
    getR (reorder σ l) j = getR l (σ.getD j 0) := getR_map_of_lt σ _ 0 j hj

theorem eq_map_range (l : Vec) (m : Nat) (h : l.length = m) :
    l = (List.range m).map fun j => l.getD j 0 := by
  subst h
  exact (map_getR_range l).symm

theorem zip_eq_map_range (r t : Vec) (m : Nat) (hr : r.length = m) (ht : t.length = m) :
    r.zip t = (List.range m).map fun j => (r.getD j 0, t.getD j 0) := by
  conv_lhs => rw [eq_map_range r m hr, eq_map_range t m ht]
  rw [List.zip_map']

theorem rotate_eq_reorder (l : Vec) (m k : Nat) (h : l.length = m) :
    l.rotate k = reorder ((List.range m).rotate k) l := by
  rw [reorder, List.map_rotate, ← eq_map_range l m h]

theorem reverse_eq_reorder (l : Vec) (m : Nat) (h : l.length = m) :
    l.reverse = reorder (List.range m).reverse l := by
  rw [reorder, List.map_reverse, ← eq_map_range l m h]

theorem map_rotate_eq_reorder (e : Mat) (m k : Nat) (hrow : ∀ r ∈ e, r.length = m) :
    e.map (·.rotate k) = e.map (reorder ((List.range m).rotate k)) :=
  List.map_congr_left fun r hr => rotate_eq_reorder r m k (hrow r hr)

theorem map_reverse_eq_reorder (e : Mat) (m : Nat) (hrow : ∀ r ∈ e, r.length = m) :
    e.map List.reverse = e.map (reorder (List.range m).reverse) :=
  List.map_congr_left fun r hr => reverse_eq_reorder r m (hrow r hr)

theorem reorder_perm {σ : List Nat} {m : Nat} (hσ : σ.Perm (List.range m)) (l : Vec) (h : l.length = m) :
    (reorder σ l).Perm l := by
  conv_rhs => rw [eq_map_range l m h]
  exact hσ.map _

theorem reorder_zip_perm {σ : List Nat} {m : Nat} (hσ : σ.Perm (List.range m)) (r t : Vec)
    (hr : r.length = m) (ht : t.length = m) :
    (r.zip t).Perm ((reorder σ r).zip (reorder σ t)) := by
  unfold reorder
  rw [List.zip_map', zip_eq_map_range r t m hr ht]
  exact (hσ.map _).symm

theorem reorder_map (σ : List Nat) (g : ℚ → ℚ) (hg : g 0 = 0) (r : Vec) :
    reorder σ (r.map g) = (reorder σ r).map g := by
  unfold reorder
  rw [List.map_map]
  apply List.map_congr_left
  intro j _
  simp only [List.getD_eq_getElem?_getD, List.getElem?_map, Function.comp]
  cases r[j]? <;> simp [hg]

theorem mem_of_perm_range {σ : List Nat} {m : Nat} (hσ : σ.Perm (List.range m)) (j : Nat) (hj : j < σ.length) :
    σ.getD j 0 < m := by
  rw [← List.getElem_eq_getD (h := hj)]
  exact List.mem_range.mp (hσ.mem_iff.mp (List.getElem_mem hj))

theorem exists_of_perm_range {σ : List Nat} {m : Nat} (hσ : σ.Perm (List.range m)) (i : Nat) (hi : i < m) :
    ∃ j, j < σ.length ∧ σ.getD j 0 = i := by
  obtain ⟨j, hj, e⟩ := List.mem_iff_getElem.mp (hσ.mem_iff.mpr (List.mem_range.mpr hi))
  exact ⟨j, hj, by rw [← List.getElem_eq_getD (h := hj), e]⟩

/-! ### column sums -/

theorem colSums_length (m : Nat) (e : Mat) : (colSums m e).length = m := by
  rw [colSums, List.length_map, List.length_range]

theorem getR_colSums (m : Nat) (e : Mat) (j : Nat) (hj : j < m) :
    getR (colSums m e) j = (e.map fun r => r.getD j 0).sum := getR_map_range _ m j hj

theorem colSums_reorder {σ : List Nat} {m : Nat} (hσ : σ.Perm (List.range m)) (e : Mat) :
    colSums m (e.map (reorder σ)) = reorder σ (colSums m e) := by
  have hl : σ.length = m := hσ.length_eq.trans List.length_range
  refine List.ext_getElem (by rw [colSums_length, reorder, List.length_map, hl]) fun j h1 _ => ?_
  rw [colSums_length] at h1
  have hj : j < σ.length := hl ▸ h1
  rw [List.getElem_eq_getD 0, List.getElem_eq_getD 0]
  show getR (colSums m (e.map (reorder σ))) j = getR (reorder σ (colSums m e)) j
  rw [getR_colSums _ _ _ h1, getR_reorder _ _ _ hj, getR_colSums _ _ _ (mem_of_perm_range hσ j hj),
    List.map_map]
  exact congrArg List.sum (List.map_congr_left fun r _ => getR_reorder σ r j hj)

/-! ### argmax under re-ordering -/

/-- the entry that `argmax` picks in the re-ordered vector sits, in the original vector, at a maximiser -/
theorem argmax_reorder (cs : Vec) {σ : List Nat} (hσ : σ.Perm (List.range cs.length)) (hne : cs ≠ []) :
    argmaxFirst (reorder σ cs) < σ.length ∧
    σ.getD (argmaxFirst (reorder σ cs)) 0 < cs.length ∧
      ∀ i < cs.length, getR cs i ≤ getR cs (σ.getD (argmaxFirst (reorder σ cs)) 0) := by
  have hl : σ.length = cs.length := hσ.length_eq.trans List.length_range
  have hlen : (reorder σ cs).length = σ.length := List.length_map _
  have hne' : reorder σ cs ≠ [] := fun h =>
    hne (List.length_eq_zero_iff.mp (by rw [← hl, ← hlen, h, List.length_nil]))
  obtain ⟨hp, hmax⟩ := argmaxFirst_spec (reorder σ cs) hne'
  rw [hlen] at hp hmax
  refine ⟨hp, mem_of_perm_range hσ _ hp, fun i hi => ?_⟩
  obtain ⟨j, hj, hji⟩ := exists_of_perm_range hσ i hi
  have := (hmax j hj).1
  rwa [getR_reorder _ _ _ hj, getR_reorder _ _ _ hp, hji] at this

/-! ### rotated and reversed lists, uniform grids -/

theorem getR_rotate (S : Vec) (k i : Nat) (hi : i < S.length) :
    getR (S.rotate k) i = getR S ((i + k) % S.length) := by
  unfold getR
  rw [List.getD_eq_getElem?_getD, List.getD_eq_getElem?_getD, List.getElem?_rotate hi]

theorem getR_reverse (S : Vec) (i : Nat) (hi : i < S.length) :
    getR S.reverse i = getR S (S.length - 1 - i) := by
  unfold getR
  rw [List.getD_eq_getElem?_getD, List.getD_eq_getElem?_getD, List.getElem?_reverse hi]

/-- the uniform grid `θ0 + j·δ`, `j = 0..m−1`, as stored without reduction -/
def ugrid (θ0 δ : ℚ) (m : Nat) : Vec := (List.range m).map fun (j : Nat) => θ0 + (j : ℚ) * δ

/-- the same grid with every label reduced to `[0, 360)` -/
def ugridMod (θ0 δ : ℚ) (m : Nat) : Vec := (List.range m).map fun (j : Nat) => pmod (θ0 + (j : ℚ) * δ) 360

end WS
