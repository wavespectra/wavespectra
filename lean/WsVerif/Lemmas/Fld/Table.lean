import WsVerif.Lemmas.Fld.Base
import WsVerif.Lemmas.Neigh
/-! The flat neighbour table `Neigh.table` (what `partinit`/`ptnghb` leave in `neigh`) satisfies `NbOK`. -/
namespace WS.Fld
open Std.Do WS.SP WS.Neigh
set_option mvcgen.warning false

/-- the nine table slots of pixel `p`: its neighbours, zero padding, the count -/
def slots (mk mth p : Nat) : List Int :=
  (neighLin mk mth p).map (fun (x : Nat) => (x : Int)) ++ List.replicate (8 - (neighLin mk mth p).length) 0 ++
    [((neighLin mk mth p).length : Int)]

theorem table_toList (mk mth : Nat) :
    (table mk mth).toList = (List.range (mk * mth)).flatMap (slots mk mth) := by
  generalize h : table mk mth = x
  apply Id.of_wp_run_eq h
  mvcgen
  case inv1 => exact ⇓⟨xs, t⟩ => ⌜t.toList = xs.prefix.flatMap (slots mk mth)⌝
  case inv2 =>
    rename_i b _ _
    exact ⇓⟨ys, t⟩ => ⌜t.toList = b.toList ++ ys.prefix.map (fun (x : Nat) => (x : Int))⌝
  case inv3 =>
    rename_i t1 _
    exact ⇓⟨ys, t⟩ => ⌜t.toList = t1.toList ++ List.replicate ys.prefix.length 0⌝
  all_goals vcp
  all_goals try (simp_all [List.replicate_succ']; done)
  case vc5 =>
    simp_all [slots, Std.Legacy.Range.toList]
  case vc7 =>
    simp_all [Std.Legacy.Range.toList, List.range_eq_range']

theorem flatMap_block {f : Nat → List Int} {L : Nat} : ∀ (N : Nat), (∀ p, p < N → (f p).length = L) →
    ((List.range N).flatMap f).length = L * N ∧
    ∀ p i, p < N → i < L → ((List.range N).flatMap f)[L * p + i]? = (f p)[i]? := by
  intro N
  induction N with
  | zero => intro _; simp
  | succ N ih =>
    intro hl
    obtain ⟨ihl, ihg⟩ := ih (fun p hp => hl p (by omega))
    rw [List.range_succ, List.flatMap_append]
    simp only [List.flatMap_cons, List.flatMap_nil, List.append_nil, List.length_append]
    refine ⟨by rw [ihl, hl N (by omega), Nat.mul_succ], ?_⟩
    intro p i hp hi
    by_cases hpN : p < N
    · rw [List.getElem?_append_left, ihg p i hpN hi]
      rw [ihl]
      calc L * p + i < L * p + L := by omega
        _ = L * (p + 1) := by rw [Nat.mul_succ]
        _ ≤ L * N := Nat.mul_le_mul_left L hpN
    · have : p = N := by omega
      subst this
      rw [List.getElem?_append_right (by rw [ihl]; omega), ihl]
      congr 1; omega

theorem get_of_toList {a : Array Int} {l : List Int} (h : a.toList = l) {k : Nat} {v : Int}
    (hv : l[k]? = some v) : a[k]! = v := by
  subst h
  rw [Array.getElem?_toList] at hv
  rw [getElem!_def, hv]

theorem neighLin_ok {mk mth p : Nat} (hp : p < mk * mth) :
    (neighLin mk mth p).length ≤ 8 ∧ ∀ x ∈ neighLin mk mth p, x < mk * mth :=
  ⟨NeighL.neighLin_length_le hp, NeighL.neighLin_lt hp⟩

theorem slots_length {mk mth p : Nat} (hp : p < mk * mth) : (slots mk mth p).length = 9 := by
  have := NeighL.neighLin_length_le hp
  simp [slots]; omega

/-- slot 8 of pixel `p` holds its number of neighbours -/
theorem table_cnt (mk mth : Nat) {p : Nat} (hp : p < mk * mth) :
    (table mk mth)[(8 + 9 * (p : Int)).toNat]! = ((neighLin mk mth p).length : Int) := by
  obtain ⟨-, hget⟩ := flatMap_block (f := slots mk mth) (L := 9) (mk * mth) (fun p hp => slots_length hp)
  have hl := NeighL.neighLin_length_le hp
  rw [show (8 + 9 * (p : Int)).toNat = 9 * p + 8 by omega]
  apply get_of_toList (table_toList mk mth)
  rw [hget _ 8 hp (by omega)]
  simp [slots]
  rw [List.getElem?_append_right (by simp; omega)]
  simp

/-- slot `i` of pixel `p` holds its `i`-th neighbour -/
theorem table_ent (mk mth : Nat) {p i : Nat} (hp : p < mk * mth) (hi : i < (neighLin mk mth p).length) :
    (table mk mth)[((i : Int) + 9 * (p : Int)).toNat]! = (((neighLin mk mth p)[i] : Nat) : Int) := by
  obtain ⟨-, hget⟩ := flatMap_block (f := slots mk mth) (L := 9) (mk * mth) (fun p hp => slots_length hp)
  have hl := NeighL.neighLin_length_le hp
  rw [show ((i : Int) + 9 * (p : Int)).toNat = 9 * p + i by omega]
  apply get_of_toList (table_toList mk mth)
  rw [hget _ i hp (by omega)]
  simp only [slots]
  rw [List.append_assoc, List.getElem?_append_left (by simp; omega)]
  simp [hi]

/-- the table that `partinit` leaves behind satisfies the bounds used by `pt_fld` -/
theorem table_ok (mk mth : Nat) : NbOK (mk * mth) (table mk mth) := by
  -- a pixel is a natural number below `mk * mth`
  have hpix : ∀ {ip : Int}, Pix (mk * mth) ip → ∃ p : Nat, ip = p ∧ p < mk * mth := fun {ip} hp =>
    ⟨ip.toNat, by have := hp.1; omega, by have := hp.1; have := hp.2; omega⟩
  refine ⟨?_, fun ip hp => ?_, fun ip hp i hi => ?_⟩
  · have := congrArg List.length (table_toList mk mth)
    rw [(flatMap_block (mk * mth) fun p hp => slots_length hp).1] at this
    simpa using this
  · obtain ⟨p, rfl, hp'⟩ := hpix hp
    rw [table_cnt mk mth hp']
    have := NeighL.neighLin_length_le hp'
    omega
  · obtain ⟨p, rfl, hp'⟩ := hpix hp
    rw [table_cnt mk mth hp'] at hi
    have hi' : i < (neighLin mk mth p).length := by omega
    rw [table_ent mk mth hp' hi']
    have := NeighL.neighLin_lt hp' _ (List.getElem_mem hi')
    exact ⟨by omega, by omega⟩
end WS.Fld
