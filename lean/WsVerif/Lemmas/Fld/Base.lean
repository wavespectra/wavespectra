import Lean
import Std.Do
import Std.Tactic.Do
import WsVerif.Model.Specpart
/-! Base layer for the proofs about `pt_fld` (`Model/Specpart.lean`): what the bounds-checked accessors return when the
access is in bounds, the circular FIFO as a list (`QRep`), the static facts about the neighbour table and `ind`
(`NbOK`, `IndOK`), and the tactics that tidy the verification conditions `mvcgen` leaves. -/
namespace WS.Fld
open Std.Do WS.SP
set_option mvcgen.warning false

theorem rd_eq (a : Array Int) (i : Int) (h0 : 0 ≤ i) (h1 : i.toNat < a.size) (o : Bool) :
    rd a i o = (a[i.toNat]!, o) := by
  unfold rd
  rw [if_neg (by omega)]
  simp [h1]

theorem wr_eq (a : Array Int) (i v : Int) (h0 : 0 ≤ i) (h1 : i.toNat < a.size) (o : Bool) :
    wr a i v o = (a.set! i.toNat v, o) := by
  unfold wr
  rw [if_neg (by omega), if_pos h1]

theorem triple_iff {α} (x : M α) (P : Bool → Prop) (Q : α → Bool → Prop) :
    ⦃fun o => ⌜P o⌝⦄ x ⦃⇓ r o => ⌜Q r o⌝⦄ ↔ ∀ o, P o → Q (x o).1 (x o).2 := Iff.rfl

theorem triple_val_iff {α} (x : M α) (P : Prop) (Q : α → Prop) :
    ⦃⌜P⌝⦄ x ⦃⇓ r => ⌜Q r⌝⦄ ↔ (P → ∀ o, Q (x o).1) :=
  ⟨fun h hp o => h o hp, fun h o hp => h hp o⟩

theorem triple_val_true {α} (x : M α) : ⦃⌜True⌝⦄ x ⦃⇓ _ => ⌜True⌝⦄ :=
  (triple_val_iff _ _ _).mpr fun _ _ => trivial

/-! An access in bounds returns its value and leaves the flag alone: `x o = (v, o)`, the accessor's `_eq`.  From such an
equation come its specifications, in the forms the two layers of proofs use.  Both have the bounds in the precondition, so
that an access costs its caller one verification condition.  `_pre`, for the proofs that the flag stays down (`Sort`,
`S1a` … `S2`, `Part`, `Top`), carries the flag through; `_val`, for the simulation proofs (`G1a` … `G2`), does not
mention it. -/

theorem triple_pre_of_eq {α} {x : M α} {v : α} {H : Prop} {Q : α → Prop} (h : H → ∀ o, x o = (v, o)) (hq : H → Q v) :
    ⦃fun o => ⌜o = false ∧ H⌝⦄ x ⦃⇓ r o => ⌜o = false ∧ Q r⌝⦄ :=
  (triple_iff _ _ _).mpr fun o ho => by rw [h ho.2]; exact ⟨ho.1, hq ho.2⟩

theorem triple_val_of_eq {α} {x : M α} {v : α} {P : Prop} {Q : α → Prop} (h : P → ∀ o, x o = (v, o)) (hq : P → Q v) :
    ⦃⌜P⌝⦄ x ⦃⇓ r => ⌜Q r⌝⦄ :=
  (triple_val_iff _ _ _).mpr fun hp o => by rw [h hp]; exact hq hp

/-- A hypothesis of a specification costs its caller one verification condition; as a conjunct of the precondition, all of
    them together cost one. -/
theorem triple_pre {α} {x : M α} {H : Prop} {Q : α → Bool → Prop}
    (h : H → ⦃fun o => ⌜o = false⌝⦄ x ⦃⇓ r o => ⌜Q r o⌝⦄) : ⦃fun o => ⌜o = false ∧ H⌝⦄ x ⦃⇓ r o => ⌜Q r o⌝⦄ :=
  (triple_iff _ _ _).mpr fun o ho => (triple_iff _ _ _).mp (h ho.2) o ho.1

theorem rd_pre (a : Array Int) (i : Int) :
    ⦃fun o => ⌜o = false ∧ 0 ≤ i ∧ i.toNat < a.size⌝⦄ rd a i ⦃⇓ r o => ⌜o = false ∧ r = a[i.toNat]!⌝⦄ :=
  triple_pre_of_eq (fun h => rd_eq a i h.1 h.2) fun _ => rfl

theorem wr_pre (a : Array Int) (i v : Int) :
    ⦃fun o => ⌜o = false ∧ 0 ≤ i ∧ i.toNat < a.size⌝⦄ wr a i v ⦃⇓ r o => ⌜o = false ∧ r = a.set! i.toNat v⌝⦄ :=
  triple_pre_of_eq (fun h => wr_eq a i v h.1 h.2) fun _ => rfl

theorem rd_val (a : Array Int) (i : Int) :
    ⦃⌜0 ≤ i ∧ i.toNat < a.size⌝⦄ rd a i ⦃⇓ r => ⌜r = a[i.toNat]!⌝⦄ :=
  triple_val_of_eq (fun h => rd_eq a i h.1 h.2) fun _ => rfl

theorem wr_val (a : Array Int) (i v : Int) :
    ⦃⌜0 ≤ i ∧ i.toNat < a.size⌝⦄ wr a i v ⦃⇓ r => ⌜r = a.set! i.toNat v⌝⦄ :=
  triple_val_of_eq (fun h => wr_eq a i v h.1 h.2) fun _ => rfl

theorem size_set (a : Array Int) (i : Nat) (v : Int) : (a.set! i v).size = a.size := by simp

theorem range_split {a b : Nat} {pref suff : List Nat} {cur : Nat}
    (h : [a:b].toList = pref ++ cur :: suff) : cur = a + pref.length ∧ cur < b := by
  simp only [Std.Legacy.Range.toList, Nat.add_sub_cancel, Nat.div_one] at h
  have hl := congrArg List.length h
  simp only [List.length_range', List.length_append, List.length_cons] at hl
  have hg : (List.range' a (b - a))[pref.length]? = some cur := by rw [h]; simp
  rw [List.getElem?_range' (by omega)] at hg
  simp at hg
  omega

theorem pigeon (n : Nat) (l : List Int) (hn : l.Nodup) (h : ∀ x ∈ l, 0 ≤ x ∧ x < n) : l.length ≤ n := by
  have h1 : (l.map Int.toNat).Nodup := by
    rw [List.Nodup, List.pairwise_map]
    exact List.Pairwise.imp_of_mem (fun {a b} ha hb hne heq => hne (by have := h _ ha; have := h _ hb; omega)) hn
  have h2 : l.map Int.toNat ⊆ List.range n := by
    intro x hx
    obtain ⟨y, hy, rfl⟩ := List.mem_map.mp hx
    have := h _ hy
    exact List.mem_range.mpr (by omega)
  have := h1.length_le_of_subset h2
  simpa using this

theorem get_set (a : Array Int) (i j : Nat) (v : Int) :
    (a.set! i v)[j]! = if j = i ∧ i < a.size then v else a[j]! := by
  by_cases hj : j = i
  · subst hj
    by_cases h : j < a.size <;> simp [h]
  · have : i ≠ j := fun h => hj h.symm
    simp [hj, Array.getElem!_eq_getD, Array.getD]
    split <;> simp [*]

theorem get_setP (a : Array Int) (p j : Nat) (v : Int) (hp : p < a.size) :
    (a.set! p v)[j]! = if j = p then v else a[j]! := by
  rw [get_set]
  by_cases h : j = p
  · rw [if_pos ⟨h, hp⟩, if_pos h]
  · rw [if_neg (fun hh => h hh.1), if_neg h]

theorem get_setI {a : Array Int} {i x : Int} (v : Int) (h0 : 0 ≤ i) (hx : 0 ≤ x) (hi : i.toNat < a.size) :
    (a.set! i.toNat v)[x.toNat]! = if x = i then v else a[x.toNat]! := by
  rw [get_set]
  by_cases h : x = i
  · subst h; simp [hi]
  · rw [if_neg (fun hh => h (by omega)), if_neg h]

theorem mod_ne {n a b : Nat} (h1 : a < b) (h2 : b - a < n) : a % n ≠ b % n := by
  intro h
  have h3 : (b - a) % n = 0 := Nat.sub_mod_eq_zero_of_mod_eq h.symm
  have h4 : n ∣ b - a := Nat.dvd_of_mod_eq_zero h3
  have := Nat.le_of_dvd (by omega) h4
  omega

theorem succ_mod {n e : Nat} (he : e < n) : (e + 1) % n = if e + 1 = n then 0 else e + 1 := by
  split
  · next h => rw [h, Nat.mod_self]
  · next h => exact Nat.mod_eq_of_lt (by omega)

theorem add_mod_eq_self {n a l : Nat} (ha : a < n) (hl : l < n) : (a + l) % n = a ↔ l = 0 := by
  constructor
  · intro h
    apply Classical.byContradiction
    intro h0
    exact mod_ne (n := n) (a := a) (b := a + l) (by omega) (by omega) (by rw [h, Nat.mod_eq_of_lt ha])
  · rintro rfl
    exact Nat.mod_eq_of_lt ha

/-- the queue of `pt_fld` holds the list `q`: the circular buffer `iq` of `n` slots, read at `qs` (`iq_start`), written
    at `qe` (`iq_end`) -/
structure QRep (n : Nat) (iq : Array Int) (qs qe : Int) (q : List Int) : Prop where
  size : iq.size = n
  qs0 : 0 ≤ qs
  qsn : qs < n
  len : q.length ≤ n
  qe_eq : qe = ((qs.toNat + q.length) % n : Nat)
  ent : ∀ i (h : i < q.length), iq[(qs.toNat + i) % n]! = q[i]

section
variable {n : Nat} {iq : Array Int} {qs qe : Int} {q : List Int}

theorem QRep.npos (h : QRep n iq qs qe q) : 0 < n := by
  have := h.qs0; have := h.qsn; omega

theorem QRep.qe_range (h : QRep n iq qs qe q) : 0 ≤ qe ∧ qe < n ∧ qe.toNat < iq.size := by
  have hn := h.npos
  have := Nat.mod_lt (qs.toNat + q.length) hn
  have := h.qe_eq; have := h.size
  omega

theorem QRep.empty (hs : iq.size = n) (h0 : 0 ≤ qs) (h1 : qs < n) : QRep n iq qs qs [] := by
  refine ⟨hs, h0, h1, by simp, ?_, by simp⟩
  simp only [List.length_nil, Nat.add_zero]
  rw [Nat.mod_eq_of_lt (by omega)]; omega

theorem QRep.add (h : QRep n iq qs qe q) (hl : q.length < n) (v : Int) :
    QRep n (iq.set! qe.toNat v) qs (fifoNextEnd n qe) (q ++ [v]) := by
  have hn := h.npos
  have hr := h.qe_range
  have hq := h.qe_eq
  have hlt := Nat.mod_lt (qs.toNat + q.length) hn
  have hqe : qe.toNat = (qs.toNat + q.length) % n := by omega
  refine ⟨by simp [h.size], h.qs0, h.qsn, by simp; omega, ?_, ?_⟩
  · simp only [List.length_append, List.length_cons, List.length_nil]
    rw [← Nat.add_assoc, ← Nat.mod_add_mod, ← hqe, succ_mod (by omega)]
    unfold fifoNextEnd
    split <;> split <;> omega
  · intro i hi
    simp only [List.length_append, List.length_cons, List.length_nil] at hi
    rw [get_set]
    by_cases hiL : i < q.length
    · have hne : (qs.toNat + i) % n ≠ qe.toNat := by
        rw [hqe]; exact mod_ne (by omega) (by omega)
      rw [if_neg (fun hh => hne hh.1), h.ent i hiL, List.getElem_append_left hiL]
    · have : i = q.length := by omega
      subst this
      rw [if_pos ⟨hqe.symm, hr.2.2⟩]
      simp

theorem QRep.pop {v : Int} (h : QRep n iq qs qe (v :: q)) :
    iq[qs.toNat]! = v ∧ QRep n iq (fifoNextStart n qs) qe q := by
  have hn := h.npos
  have h0 := h.qs0; have h1 := h.qsn
  have hlen := h.len
  simp only [List.length_cons] at hlen
  have hs' : ((fifoNextStart n qs).toNat) = (qs.toNat + 1) % n := by
    rw [succ_mod (by omega)]; unfold fifoNextStart; split <;> split <;> omega
  have hlt := Nat.mod_lt (qs.toNat + 1) hn
  constructor
  · have := h.ent 0 (by simp)
    simpa [Nat.mod_eq_of_lt (show qs.toNat < n by omega)] using this
  · refine ⟨h.size, by unfold fifoNextStart; split <;> omega, by unfold fifoNextStart; split <;> omega, by omega, ?_, ?_⟩
    · rw [h.qe_eq, hs', Nat.mod_add_mod]
      simp only [List.length_cons]
      congr 2; omega
    · intro i hi
      rw [hs', Nat.mod_add_mod]
      have := h.ent (i + 1) (by simp; omega)
      simp only [List.getElem_cons_succ] at this
      rw [← this]; congr 2; omega

theorem QRep.empty_iff (h : QRep n iq qs qe q) (hl : q.length < n) : qs = qe ↔ q = [] := by
  have := h.qs0; have := h.qsn; have := h.qe_eq
  have := add_mod_eq_self (show qs.toNat < n by omega) hl
  rw [← List.length_eq_zero_iff]; omega

theorem QRep.eq_nil (h : QRep n iq qs qe q) (hl : q.length + 1 ≤ n) (he : (qs == qe) = true) : q = [] :=
  (h.empty_iff (by omega)).mp (by simpa using he)

theorem QRep.eq_cons (h : QRep n iq qs qe q) (hl : q.length + 1 ≤ n) (he : ¬(qs == qe) = true) : ∃ v t, q = v :: t := by
  cases q with
  | nil => exact absurd ((h.empty_iff (by omega)).mpr rfl) (by simpa using he)
  | cons v t => exact ⟨v, t, rfl⟩

theorem QRep.qs_ok (h : QRep n iq qs qe q) : 0 ≤ qs ∧ qs.toNat < iq.size := by
  have := h.qs0; have := h.qsn; have := h.size; omega

end

/-- `x` is a pixel index: an `Int`, as the model's arrays are indexed, within `0 ≤ x < n` -/
def Pix (n : Nat) (x : Int) : Prop := 0 ≤ x ∧ x < n

theorem Pix.idx {n : Nat} {x : Int} {a : Array Int} (h : Pix n x) (hs : a.size = n) : 0 ≤ x ∧ x.toNat < a.size := by
  unfold Pix at h; omega

/-- the neighbour table: `9n` slots; per pixel a count `0..8` in slot 8 and that many valid pixels in slots `0..` -/
structure NbOK (n : Nat) (nb : Array Int) : Prop where
  size : nb.size = 9 * n
  cnt : ∀ ip : Int, Pix n ip → 0 ≤ nb[(8 + 9 * ip).toNat]! ∧ nb[(8 + 9 * ip).toNat]! ≤ 8
  ent : ∀ ip : Int, Pix n ip → ∀ i : Nat, (i : Int) < nb[(8 + 9 * ip).toNat]! → Pix n nb[((i : Int) + 9 * ip).toNat]!

/-- `ind` lists every pixel once -/
structure IndOK (n : Nat) (ind : Array Int) : Prop where
  size : ind.size = n
  rng : ∀ k : Nat, k < n → Pix n ind[k]!
  inj : ∀ j k : Nat, j < n → k < n → ind[j]! = ind[k]! → j = k

/-- arithmetic finish -/
macro "vco" : tactic => `(tactic| ((try simp only [Pix] at *); omega))

open Lean Elab Tactic Meta in
/-- `grab h : C` gives the name `h` to the most recent hypothesis whose type has head constant `C` -/
elab "grab " h:ident " : " c:ident : tactic => do
  let cname ← realizeGlobalConstNoOverloadWithInfo c
  liftMetaTactic fun g => g.withContext do
    let lctx ← getLCtx
    for d in lctx.decls.toList.reverse.filterMap id do
      if d.isImplementationDetail then continue
      let t ← instantiateMVars d.type
      if t.getAppFn.isConstOf cname then
        let g' ← g.rename d.fvarId h.getId
        return [g']
    throwError "grab: no hypothesis with head {cname}"

open Lean Elab Tactic Meta in
/-- `grab_all h` names the most recent hypothesis that is a universally quantified statement (`∀ x : α, …`, `α` a type) -/
elab "grab_all " h:ident : tactic => do
  liftMetaTactic fun g => g.withContext do
    let lctx ← getLCtx
    for d in lctx.decls.toList.reverse.filterMap id do
      if d.isImplementationDetail || d.isLet then continue
      let t ← instantiateMVars d.type
      if t.isForall then
        if !(← isProp t.bindingDomain!) then
          if (← isProp t) then
            let g' ← g.rename d.fvarId h.getId
            return [g']
    throwError "grab_all: no universally quantified hypothesis"

open Lean Elab Tactic Meta in
/-- destructure every tuple-valued variable of the context -/
elab "cases_prods" : tactic => liftMetaTactic fun g => do
  g.casesRec fun d => do
    if d.isLet then return false
    let t ← instantiateMVars d.type
    return t.isAppOf ``Prod

open Lean Elab Tactic Meta in
/-- destructure every conjunction and existential of the context -/
elab "cases_hyps" : tactic => liftMetaTactic fun g => do
  g.casesRec fun d => do
    if d.isLet then return false
    let t ← instantiateMVars d.type
    return t.isAppOf ``And || t.isAppOf ``Exists

/-- clean a verification condition (tuples destructured first, `let`s inlined) -/
macro "vcp" : tactic => `(tactic| (
  intros
  (try cases_prods)
  (try simp +zetaDelta only [SPred.down_pure_nil, SPred.down_pure, SPred.apply_pure, SPred.entails_nil, SPred.entails_1,
    true_implies, Prod.mk.injEq] at *)
  cases_hyps
  subst_vars))

theorem range_split0 {b : Nat} {pref suff : List Nat} {cur : Nat}
    (h : [0:b].toList = pref ++ cur :: suff) : cur = pref.length ∧ cur < b := by
  have := range_split h; omega

open Lean Elab Tactic Meta in
/-- for every loop cursor `[a:b].toList = pref ++ cur :: suff` of the context add `cur = a + pref.length ∧ cur < b` -/
elab "range_facts" : tactic => liftMetaTactic fun g => g.withContext do
  let mut g := g
  for d in (← getLCtx) do
    if d.isImplementationDetail then continue
    let t ← instantiateMVars d.type
    if t.isAppOfArity ``Eq 3 && (t.getArg! 1).isAppOf ``Std.Legacy.Range.toList then
      try
        let pf ← (mkAppM ``WS.Fld.range_split0 #[d.toExpr]) <|> (mkAppM ``WS.Fld.range_split #[d.toExpr])
        let ty ← inferType pf
        let (_, g') ← (← g.assert `hrs ty pf).intro1
        g := g'
      catch _ => pure ()
  return [g]

/-- position of the loop cursor(s) -/
macro "vcr" : tactic => `(tactic| (try range_facts))

theorem nbCnt_eq {n : Nat} {nb : Array Int} (hnb : NbOK n nb) {ip : Int} (hp : Pix n ip) (o : Bool) :
    nbCnt nb ip o = (nb[(8 + 9 * ip).toNat]!, o) := by
  have hs := hnb.size
  unfold Pix at hp
  exact rd_eq nb _ (by omega) (by omega) o

theorem nbAt_eq {n : Nat} {nb : Array Int} (hnb : NbOK n nb) {ip : Int} {i : Nat} (hp : Pix n ip)
    (hi : (i : Int) < nb[(8 + 9 * ip).toNat]!) (o : Bool) : nbAt nb ip i o = (nb[((i : Int) + 9 * ip).toNat]!, o) := by
  have hs := hnb.size
  have hc := hnb.cnt ip hp
  unfold Pix at hp
  exact rd_eq nb _ (by omega) (by omega) o

theorem indAt_eq {n : Nat} {ind : Array Int} (hind : IndOK n ind) {m : Int} (h0 : 0 ≤ m) (h1 : m < n) (o : Bool) :
    indAt ind m o = (ind[m.toNat]!, o) :=
  rd_eq ind m h0 (by have := hind.size; omega) o

section
variable {n : Nat} {nb ind : Array Int}

theorem nbCnt_pre (hnb : NbOK n nb) (ip : Int) :
    ⦃fun o => ⌜o = false ∧ Pix n ip⌝⦄ nbCnt nb ip
    ⦃⇓ r o => ⌜o = false ∧ r = nb[(8 + 9 * ip).toNat]! ∧ 0 ≤ r ∧ r ≤ 8⌝⦄ :=
  triple_pre_of_eq (fun hp => nbCnt_eq hnb hp) fun hp => ⟨rfl, hnb.cnt ip hp⟩

theorem nbCnt_val (hnb : NbOK n nb) (ip : Int) :
    ⦃⌜Pix n ip⌝⦄ nbCnt nb ip ⦃⇓ r => ⌜r = nb[(8 + 9 * ip).toNat]! ∧ 0 ≤ r ∧ r ≤ 8⌝⦄ :=
  triple_val_of_eq (fun hp => nbCnt_eq hnb hp) fun hp => ⟨rfl, hnb.cnt ip hp⟩

theorem nbAt_pre (hnb : NbOK n nb) (ip : Int) (i : Nat) :
    ⦃fun o => ⌜o = false ∧ Pix n ip ∧ (i : Int) < nb[(8 + 9 * ip).toNat]!⌝⦄ nbAt nb ip i
    ⦃⇓ r o => ⌜o = false ∧ r = nb[((i : Int) + 9 * ip).toNat]! ∧ Pix n r⌝⦄ :=
  triple_pre_of_eq (fun h => nbAt_eq hnb h.1 h.2) fun h => ⟨rfl, hnb.ent ip h.1 i h.2⟩

theorem nbAt_val (hnb : NbOK n nb) (ip : Int) (i : Nat) :
    ⦃⌜Pix n ip ∧ (i : Int) < nb[(8 + 9 * ip).toNat]!⌝⦄ nbAt nb ip i
    ⦃⇓ r => ⌜r = nb[((i : Int) + 9 * ip).toNat]! ∧ Pix n r⌝⦄ :=
  triple_val_of_eq (fun h => nbAt_eq hnb h.1 h.2) fun h => ⟨rfl, hnb.ent ip h.1 i h.2⟩

theorem indAt_pre (hind : IndOK n ind) (m : Int) :
    ⦃fun o => ⌜o = false ∧ 0 ≤ m ∧ m < n⌝⦄ indAt ind m ⦃⇓ r o => ⌜o = false ∧ r = ind[m.toNat]! ∧ Pix n r⌝⦄ :=
  triple_pre_of_eq (fun h => indAt_eq hind h.1 h.2) fun h => ⟨rfl, hind.rng m.toNat (by omega)⟩

theorem indAt_val (hind : IndOK n ind) (m : Int) :
    ⦃⌜0 ≤ m ∧ m < n⌝⦄ indAt ind m ⦃⇓ r => ⌜r = ind[m.toNat]! ∧ Pix n r⌝⦄ :=
  triple_val_of_eq (fun h => indAt_eq hind h.1 h.2) fun h => ⟨rfl, hind.rng m.toNat (by omega)⟩

theorem scan1a_pre (hnb : NbOK n nb) (imo : Array Int) (ip : Int) :
    ⦃fun o => ⌜o = false ∧ imo.size = n ∧ Pix n ip⌝⦄ scan1a nb imo ip
    ⦃⇓ r o => ⌜o = false ∧ (r = true → ∃ x : Int, Pix n x ∧ 0 ≤ imo[x.toNat]!)⌝⦄ := by
  refine triple_pre fun ⟨hs, hp⟩ => ?_
  subst hs
  have s1 := nbCnt_pre hnb
  have s2 := nbAt_pre hnb
  mvcgen -trivial -leave [scan1a, s1, s2, rd_pre]
  case inv1 =>
    exact ⇓⟨_, found⟩ o => ⌜o = false ∧ (found = true → ∃ x : Int, Pix imo.size x ∧ 0 ≤ imo[x.toNat]!)⌝
  all_goals clear s1 s2; vcr; vcp
  case vc1 => exact ⟨rfl, hp⟩
  case vc2 => exact ⟨rfl, hp, by omega⟩
  case vc3 => exact ⟨rfl, ‹Pix _ (nb[_]!)›.idx rfl⟩
  case vc4 =>
    have hor := ‹(_ || _) = true›
    simp at hor
    exact ⟨rfl, _, ‹Pix _ (nb[_]!)›, by omega⟩
  case vc5 | vc7 => exact ⟨rfl, ‹_›⟩
  case vc6 => exact ⟨rfl, nofun⟩
end

theorem fifoAdd_eq (nspec : Int) (iq : Array Int) {qe : Int} (v : Int) (h0 : 0 ≤ qe) (h1 : qe.toNat < iq.size) (o : Bool) :
    fifoAdd nspec iq qe v o = ((iq.set! qe.toNat v, fifoNextEnd nspec qe), o) := by
  simp only [fifoAdd, bind, StateT.bind, pure, StateT.pure, wr_eq iq qe v h0 h1]

theorem fifoFirst_eq (nspec : Int) (iq : Array Int) {qs : Int} (h0 : 0 ≤ qs) (h1 : qs.toNat < iq.size) (o : Bool) :
    fifoFirst nspec iq qs o = ((iq[qs.toNat]!, fifoNextStart nspec qs), o) := by
  simp only [fifoFirst, bind, StateT.bind, pure, StateT.pure, rd_eq iq qs h0 h1]

theorem fifoAdd_pre (nspec : Int) (iq : Array Int) (qe v : Int) :
    ⦃fun o => ⌜o = false ∧ 0 ≤ qe ∧ qe.toNat < iq.size⌝⦄ fifoAdd nspec iq qe v
    ⦃⇓ r o => ⌜o = false ∧ r = (iq.set! qe.toNat v, fifoNextEnd nspec qe)⌝⦄ :=
  triple_pre_of_eq (fun h => fifoAdd_eq nspec iq v h.1 h.2) fun _ => rfl

theorem fifoAdd_val (nspec : Int) (iq : Array Int) (qe v : Int) :
    ⦃⌜0 ≤ qe ∧ qe.toNat < iq.size⌝⦄ fifoAdd nspec iq qe v
    ⦃⇓ r => ⌜r = (iq.set! qe.toNat v, fifoNextEnd nspec qe)⌝⦄ :=
  triple_val_of_eq (fun h => fifoAdd_eq nspec iq v h.1 h.2) fun _ => rfl

theorem fifoFirst_pre (nspec : Int) (iq : Array Int) (qs : Int) :
    ⦃fun o => ⌜o = false ∧ 0 ≤ qs ∧ qs.toNat < iq.size⌝⦄ fifoFirst nspec iq qs
    ⦃⇓ r o => ⌜o = false ∧ r = (iq[qs.toNat]!, fifoNextStart nspec qs)⌝⦄ :=
  triple_pre_of_eq (fun h => fifoFirst_eq nspec iq h.1 h.2) fun _ => rfl

theorem fifoFirst_val (nspec : Int) (iq : Array Int) (qs : Int) :
    ⦃⌜0 ≤ qs ∧ qs.toNat < iq.size⌝⦄ fifoFirst nspec iq qs
    ⦃⇓ r => ⌜r = (iq[qs.toNat]!, fifoNextStart nspec qs)⌝⦄ :=
  triple_val_of_eq (fun h => fifoFirst_eq nspec iq h.1 h.2) fun _ => rfl

/-- ghost generalisation: a family of specifications of the same run, indexed by ghost data `i` -/
theorem triple_forall {α : Type} {ι : Sort _} (x : M α) (H : ι → Prop) (Q : ι → α → Prop)
    (h : ∀ i, H i → ⦃fun o => ⌜o = false⌝⦄ x ⦃⇓ r o => ⌜o = false ∧ Q i r⌝⦄) (hex : ∃ i, H i) :
    ⦃fun o => ⌜o = false⌝⦄ x ⦃⇓ r o => ⌜o = false ∧ ∀ i, H i → Q i r⌝⦄ := by
  rw [triple_iff]
  intro o ho
  obtain ⟨i0, h0⟩ := hex
  exact ⟨((triple_iff _ _ _).mp (h i0 h0) o ho).1, fun i hi => ((triple_iff _ _ _).mp (h i hi) o ho).2⟩

end WS.Fld
