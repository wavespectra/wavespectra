import WsVerif.Lemmas.Fld.S1a
import WsVerif.Lemmas.Fld.S1b
import WsVerif.Lemmas.Fld.S1c
import WsVerif.Lemmas.Fld.S2
/-! Composition: one level of step 1 (`levelStep`) and the whole of `pt_fld` (`ptFld`). -/
namespace WS.Fld
open Std.Do WS.SP
set_option mvcgen.warning false

theorem levelStep_spec {n : Nat} {nb imi ind : Array Int} {E : Prop} (hnb : NbOK n nb) (hind : IndOK n ind)
    (hi : imi.size = n) (hn : 2 ≤ n) (ihN : Nat) (tr : Bool) (imo imd iq : Array Int) (qs qe icl m : Int)
    (trace : Array Flood.Step) :
    ⦃fun o => ⌜o = false ∧ Ghost tr E (TR n trace imo icl) ∧ Idle n imo imd iq qs qe icl m⌝⦄
    levelStep n nb imi ind ihN tr imo imd iq qs qe icl m trace
    ⦃⇓ r o => ⌜o = false ∧ Ghost tr E (TR n r.2.2.2.2.2.2.2.1 r.1 r.2.2.2.2.2.1) ∧ r.2.2.2.2.2.2.2.2 = false ∧
      Idle n r.1 r.2.1 r.2.2.1 r.2.2.2.1 r.2.2.2.2.1 r.2.2.2.2.2.1 r.2.2.2.2.2.2.1⌝⦄ := by
  refine triple_pre ?_
  rintro ⟨hT, h⟩
  have s1 := step1a_spec (E := E) hnb hind hi icl qs
  have s2 := step1b_spec (E := E) hnb icl
  have s3 := step1c_spec (E := E) hnb hind hi hn
  mvcgen -trivial -leave [levelStep, s1, s2, s3]
  all_goals clear s1 s2 s3; vcp
  case vc1 => exact ⟨rfl, hT.step (·.quiet _ rfl), h.so, h.sd, h.q, h.m0, h.m1⟩
  case vc2 => exact ⟨rfl, ‹_›, ‹_›⟩
  case vc3 => grab hT' : Ghost; exact ⟨rfl, hT'.step (·.quiet _ rfl), ‹_›, ‹_›, h.m0, h.m1, h.icl0, ‹_›⟩
  case vc4 => grab hT' : Ghost; exact ⟨rfl, hT'.step (·.quiet _ rfl), rfl, ‹_›⟩

theorem Idle.init {n : Nat} (hn : 1 ≤ n) (iqFill : Int) :
    Idle n (Array.replicate n (-1)) (Array.replicate n 0) (Array.replicate n iqFill) 0 0 0 0 :=
  ⟨by simp, by simp, by omega, by omega, by omega, QRep.empty (by simp) (by omega) (by omega)⟩

theorem ptFld_spec {n : Nat} {nb imi ind zp : Array Int} (ihmax : Nat) (iqFill : Int) (tr : Bool)
    (hnb : NbOK n nb) (hind : IndOK n ind) (hi : imi.size = n) (hz : zp.size = n) (hn : 2 ≤ n) :
    ⦃fun o => ⌜o = false⌝⦄ ptFld n nb imi ind zp ihmax iqFill tr
    ⦃⇓ r o => ⌜o = false ∧ r.fuelOut = false ∧ r.imo.size = n ∧ Ghost tr True (TR n r.trace r.imo r.npart)⌝⦄ := by
  have s1 := levelStep_spec (E := True) hnb hind hi hn
  have s2 := fun (zpmax : Int) (imo : Array Int) (trace : Array Flood.Step) =>
    triple_pre fun h : imo.size = n ∧ ∃ icl, Ghost tr True (TR n trace imo icl) =>
      triple_forall _ _ _ (fun icl hT => step2_spec icl zpmax tr trace hT hnb hz h.1) h.2
  have s3 := zpMax_spec hz (show 1 ≤ n by omega)
  mvcgen -trivial -leave [ptFld, s1, s2, s3]
  case inv1 =>
    exact ⇓⟨_, imo', imd', iq', qs', qe', icl', trace', fo, m'⟩ o => ⌜o = false ∧ fo = false ∧
      Ghost tr True (TR n trace' imo' icl') ∧ Idle n imo' imd' iq' qs' qe' icl' m'⌝
  all_goals clear s1 s2 s3; vcr; vcp
  case vc1 => rfl
  case vc2 => exact ⟨rfl, ‹_›, ‹_›⟩
  case vc3 => exact absurd ‹true = false› nofun
  case vc4 => exact ⟨rfl, rfl, ‹_›, ‹_›⟩
  case vc5 => exact ⟨rfl, trivial, Ghost.intro (TR.init _), Idle.init (by omega) iqFill⟩
  case vc6 => exact ⟨rfl, ‹Idle ..›.so, _, ‹_›⟩
  case vc7 => grab_all hall; exact ⟨rfl, rfl, (hall _ ‹_›).2, (hall _ ‹_›).1⟩

end WS.Fld
