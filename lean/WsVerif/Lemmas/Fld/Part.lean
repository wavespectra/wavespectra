import WsVerif.Lemmas.Fld.Top
import WsVerif.Lemmas.Fld.Table
import WsVerif.Lemmas.Fld.Sort
/-! The whole of `partition` (copy loops, range loop, constant branch, `ptsort`, `pt_fld`, copy back), executed symbolically
once: `partitionM_run` says what is returned in terms of the run of `pt_fld`; what is known about that run (`ptFld_spec`
here, the simulation in `Fld/GCtx`) then carries over to `partition` without another pass through its loops. -/
namespace WS.Fld
open Std.Do WS.SP
set_option mvcgen.warning false
attribute [local spec high] rd_pre wr_pre

theorem toNat_mk (f mth a : Nat) : ((f : Int) * (mth : Int) + (a : Int)).toNat = f * mth + a := by
  have h : (f : Int) * (mth : Int) + (a : Int) = ((f * mth + a : Nat) : Int) := by simp
  rw [h, Int.toNat_natCast]

theorem toNat_km (f mk a : Nat) : ((f : Int) + (mk : Int) * (a : Int)).toNat = f + mk * a := by
  have h : (f : Int) + (mk : Int) * (a : Int) = ((f + mk * a : Nat) : Int) := by simp
  rw [h, Int.toNat_natCast]

theorem mk_lt {mk mth f a : Nat} (hf : f < mk) (ha : a < mth) : f * mth + a < mk * mth := by
  have := NeighL.lin_lt (mk := mth) (mth := mk) ha hf
  rwa [Nat.mul_comm mth mk, Nat.add_comm, Nat.mul_comm] at this

/-- `ifreq + nk*iang` (the C's internal layout) indexes every array of `nk·nth` entries -/
theorem idx_km {mk mth f a : Nat} {x : Array Int} (hx : x.size = mk * mth) (hf : f < mk) (ha : a < mth) :
    0 ≤ (f : Int) + (mk : Int) * (a : Int) ∧ ((f : Int) + (mk : Int) * (a : Int)).toNat < x.size := by
  rw [toNat_km, hx]
  exact ⟨by have := Int.mul_nonneg (Int.natCast_nonneg mk) (Int.natCast_nonneg a); omega, NeighL.lin_lt hf ha⟩

/-- so does `ifreq*nth + iang` (row-major) -/
theorem idx_mk {mk mth f a : Nat} {x : Array Int} (hx : x.size = mk * mth) (hf : f < mk) (ha : a < mth) :
    0 ≤ (f : Int) * (mth : Int) + (a : Int) ∧ ((f : Int) * (mth : Int) + (a : Int)).toNat < x.size := by
  rw [toNat_mk, hx]
  exact ⟨by have := Int.mul_nonneg (Int.natCast_nonneg f) (Int.natCast_nonneg mth); omega, mk_lt hf ha⟩

theorem lin_inj {nk f t f' t' : Nat} (hf : f < nk) (hf' : f' < nk) (h : f + nk * t = f' + nk * t') : f = f' ∧ t = t' := by
  have h1 := NeighL.lin_mod nk f t hf
  have h2 := NeighL.lin_mod nk f' t' hf'
  have h3 := NeighL.lin_div nk f t hf
  have h4 := NeighL.lin_div nk f' t' hf'
  rw [h] at h1 h3
  exact ⟨by omega, by omega⟩

theorem mk_inj {nth f t f' t' : Nat} (ht : t < nth) (ht' : t' < nth) (h : f * nth + t = f' * nth + t') : f = f' ∧ t = t' := by
  rw [Nat.add_comm, Nat.mul_comm, Nat.add_comm (f' * nth), Nat.mul_comm f'] at h
  exact (lin_inj ht ht' h).symm

/-- progress of a copy loop nest `for a … for b in [0:B] … dst[ix a b] = v a b`: the rows before `a` and the first `b`
    entries of row `a` are written -/
def Copied (ix : Nat → Nat → Nat) (v : Nat → Nat → Int) (B : Nat) (dst : Array Int) (a b : Nat) : Prop :=
  ∀ a' b', b' < B → a' < a ∨ a' = a ∧ b' < b → dst[ix a' b']! = v a' b'

section
variable {ix : Nat → Nat → Nat} {v : Nat → Nat → Int} {B a b : Nat} {dst : Array Int}

theorem Copied.zero : Copied ix v B dst 0 0 := fun _ _ _ h => by omega

theorem Copied.step (h : Copied ix v B dst a b) (hlt : ix a b < dst.size)
    (hinj : ∀ a' b', b' < B → ix a' b' = ix a b → a' = a ∧ b' = b) :
    Copied ix v B (dst.set! (ix a b) (v a b)) a (b + 1) := by
  intro a' b' hb' hlex
  rw [get_set]
  split
  · next hh => obtain ⟨rfl, rfl⟩ := hinj a' b' hb' hh.1; rfl
  · next hh =>
    have : ¬(a' = a ∧ b' = b) := fun e => hh ⟨by rw [e.1, e.2], hlt⟩
    exact h a' b' hb' (by omega)

/-- a finished inner loop is a finished row -/
theorem Copied.row (h : Copied ix v B dst a b) (hb : b = B) : Copied ix v B dst (a + 1) 0 :=
  fun a' b' hb' _ => h a' b' hb' (by omega)

theorem Copied.all (h : Copied ix v B dst a 0) (a' b' : Nat) (ha : a' < a) (hb : b' < B) : dst[ix a' b']! = v a' b' :=
  h a' b' hb (Or.inl ha)
end

/-- the copy of a constant spectrum is constant -/
theorem copy_const {nk nth : Nat} {z spec : Array Int}
    (hz : ∀ t f, t < nth → f < nk → z[f + nk * t]! = spec[f * nth + t]!)
    (hc : ∀ i, i < nk * nth → spec[i]! = spec[0]!) (i : Nat) (hi : i < nk * nth) : z[i]! = spec[0]! := by
  obtain ⟨h1, h2, h3⟩ := NeighL.decomp hi
  rw [h3, hz _ _ h2 h1]
  exact hc _ (mk_lt h1 h2)

/-- a spectrum with two different values has two bins -/
theorem two_le_of_ne {z : Array Int} {n i j : Nat} (hne : ¬(z[j]! == z[i]!) = true) (hi : i < n) (hj : j < n) : 2 ≤ n := by
  apply Classical.byContradiction
  intro h
  have : i = j := by omega
  subst this
  simp at hne

/-- the level map `partition` computes has one level in `[0, ihmax)` per bin -/
theorem map_level_ok (ihmax : Nat) (hi : 1 ≤ ihmax) (zmin zmax : Int) {z : Array Int} {n : Nat} (hz : z.size = n) :
    (z.map fun v => ((levelOf ihmax zmin zmax v : Nat) : Int)).size = n ∧ ∀ i, i < n →
      0 ≤ (z.map fun v => ((levelOf ihmax zmin zmax v : Nat) : Int))[i]! ∧
      (z.map fun v => ((levelOf ihmax zmin zmax v : Nat) : Int))[i]! < ihmax := by
  refine ⟨Array.size_map.trans hz, fun i h => ?_⟩
  have e : (z.map fun v => ((levelOf ihmax zmin zmax v : Nat) : Int))[i]! = ((levelOf ihmax zmin zmax z[i]! : Nat) : Int) := by
    simp [hz ▸ h]
  rw [e]
  have : levelOf ihmax zmin zmax z[i]! ≤ ihmax - 1 := by unfold levelOf; exact Nat.min_le_right _ _
  omega

/-- a specification may also name the value returned: it is that of the run from the lowered flag -/
theorem triple_run {α} {x : M α} {H : Prop} {Q : α → Prop}
    (h : H → ⦃fun o => ⌜o = false⌝⦄ x ⦃⇓ r o => ⌜o = false ∧ Q r⌝⦄) :
    ⦃fun o => ⌜o = false ∧ H⌝⦄ x ⦃⇓ r o => ⌜o = false ∧ r = (x false).1 ∧ Q r⌝⦄ :=
  (triple_iff _ _ _).mpr fun o ho => by
    obtain ⟨rfl, hH⟩ := ho
    have := (triple_iff _ _ _).mp (h hH) false rfl
    exact ⟨this.1, rfl, this.2⟩

/-- What `partition` does, from the lowered flag: no access leaves its buffer; `z` is the spectrum in the C's internal
    layout `ifreq + nk*iang`, `zmin` and `zmax` are among its values; if they coincide, the early return; otherwise the
    level map, a listing of the pixels as `ptsort` specifies it, and what the run of `pt_fld` on these returns (named as that
    run `F`, whatever it is), the labels copied back row-major.  A level (`1 ≤ ihmax`) is needed by `ptsort` only, which a
    constant spectrum does not reach. -/
theorem partitionM_run (nk nth ihmax : Nat) (spec : Array Int) (iqFill : Int) (tr : Bool)
    (hk : 1 ≤ nk) (ht : 1 ≤ nth) (hi : 1 ≤ ihmax ∨ ∀ i, i < nk * nth → spec[i]! = spec[0]!) (hs : spec.size = nk * nth) :
    ⦃fun o => ⌜o = false⌝⦄ partitionM nk nth ihmax (Neigh.table nk nth) spec iqFill tr
    ⦃⇓ r o => ⌜o = false ∧ ∃ (z : Array Int) (zmin zmax : Int), z.size = nk * nth ∧
      (∀ t f, t < nth → f < nk → z[f + nk * t]! = spec[f * nth + t]!) ∧
      (∃ i, i < nk * nth ∧ zmin = z[i]!) ∧ (∃ i, i < nk * nth ∧ zmax = z[i]!) ∧
      if zmax = zmin then
        r = { labels := Array.replicate (nk * nth) 0, imi := #[], ind := #[], trace := #[], oob := false,
              fuelOut := false, const := true }
      else r.const = false ∧ 2 ≤ nk * nth ∧ r.imi = z.map (fun v => (levelOf ihmax zmin zmax v : Int)) ∧
        IndOK (nk * nth) r.ind ∧ r.ind.toList = (ptsortSpec ihmax (nk * nth) (levOf r.imi)).map (fun (x : Nat) => (x : Int)) ∧
        ∃ F, F = (ptFld (nk * nth) (Neigh.table nk nth) r.imi r.ind (z.map (zmax - ·)) ihmax iqFill tr false).1 ∧
          r.trace = F.trace ∧ r.fuelOut = F.fuelOut ∧ r.labels.size = nk * nth ∧
          ∀ f t, f < nk → t < nth → r.labels[f * nth + t]! = F.imo[f + nk * t]!⌝⦄ := by
  have hnb := table_ok nk nth
  have hpos : 1 ≤ nk * nth := Nat.mul_pos hk ht
  have s1 := fun (imi : Array Int) =>
    triple_pre fun h : 1 ≤ ihmax ∧ imi.size = nk * nth ∧ ∀ i, i < nk * nth → 0 ≤ imi[i]! ∧ imi[i]! < ihmax =>
      ptsort_spec h.1 h.2.1 h.2.2
  have s2 := fun (imi ind zp : Array Int) =>
    triple_run fun h : IndOK (nk * nth) ind ∧ imi.size = nk * nth ∧ zp.size = nk * nth ∧ 2 ≤ nk * nth =>
      ptFld_spec ihmax iqFill tr hnb h.1 h.2.1 h.2.2.1 h.2.2.2
  mvcgen -trivial -leave [partitionM, s1, s2]
  case inv1 =>
    exact ⇓⟨xs, z⟩ o => ⌜o = false ∧ z.size = nk * nth ∧
      Copied (fun t f => f + nk * t) (fun t f => spec[f * nth + t]!) nk z xs.prefix.length 0⌝
  case inv2 =>
    rename_i cur _ _ _ _ _
    exact ⇓⟨ys, z⟩ o => ⌜o = false ∧ z.size = nk * nth ∧
      Copied (fun t f => f + nk * t) (fun t f => spec[f * nth + t]!) nk z cur ys.prefix.length⌝
  case inv3 =>
    rename_i z _ _ _ _ _
    exact ⇓⟨_, zmin, zmax⟩ o => ⌜o = false ∧ (∃ i, i < nk * nth ∧ zmin = z[i]!) ∧ ∃ i, i < nk * nth ∧ zmax = z[i]!⌝
  case inv4 =>
    rename_i F _ _ _
    exact ⇓⟨xs, out⟩ o => ⌜o = false ∧ out.size = nk * nth ∧
      Copied (fun f t => f * nth + t) (fun f t => F.imo[f + nk * t]!) nth out xs.prefix.length 0⌝
  case inv5 =>
    rename_i F _ _ _ _ cur _ _ _ _ _
    exact ⇓⟨ys, out⟩ o => ⌜o = false ∧ out.size = nk * nth ∧
      Copied (fun f t => f * nth + t) (fun f t => F.imo[f + nk * t]!) nth out cur ys.prefix.length⌝
  all_goals clear s1 s2; vcr; vcp
  case vc1 | vc18 => exact ⟨rfl, idx_mk ‹_› ‹_ < nk› ‹_ < nth›⟩
  case vc2 | vc17 => exact ⟨rfl, idx_km ‹_› ‹_ < nk› ‹_ < nth›⟩
  case vc3 =>
    rw [toNat_km, toNat_mk]
    exact ⟨rfl, (size_set ..).trans ‹_›, List.length_append ▸ ‹Copied ..›.step
      (Nat.lt_of_lt_of_eq (NeighL.lin_lt ‹_ < nk› ‹_ < nth›) (Eq.symm ‹_›)) fun _ _ hb e => (lin_inj hb ‹_ < nk› e).symm⟩
  case vc4 | vc20 => exact ⟨rfl, ‹_›, ‹_›⟩
  case vc5 | vc21 => exact ⟨rfl, ‹_›, List.length_append ▸ ‹Copied ..›.row (range_toList_length ..)⟩
  case vc6 | vc22 => exact ⟨rfl, Array.size_replicate, Copied.zero⟩
  case vc7 => exact ⟨rfl, Int.le_refl 0, by omega⟩
  case vc8 => exact ⟨rfl, by omega, by omega⟩
  case vc9 | vc13 => exact ⟨rfl, ⟨_, by omega, rfl⟩, _, by omega, rfl⟩
  case vc10 => exact ⟨rfl, ⟨_, by omega, rfl⟩, _, ‹_›, rfl⟩
  case vc11 => exact ⟨rfl, ⟨_, ‹_›, rfl⟩, _, by omega, rfl⟩
  case vc12 => exact ⟨rfl, ⟨_, ‹_›, rfl⟩, _, ‹_›, rfl⟩
  case vc14 =>
    refine ⟨rfl, _, _, _, ‹_›, fun t f ht' => ‹Copied ..›.all t f (by simpa [range_toList_length] using ht'), ?_, ?_,
      (if_pos (beq_iff_eq.mp ‹_›)).mpr trivial⟩
    all_goals exact ⟨_, ‹_›, rfl⟩
  case vc15 =>
    -- reached with two different values only: then the caller has provided a level
    have hi' : 1 ≤ ihmax := hi.resolve_right fun hc => ‹¬(_ == _) = true› <| beq_iff_eq.mpr <|
      have hall := copy_const (fun t f ht' => ‹Copied ..›.all t f (by simpa [range_toList_length] using ht')) hc
      (hall _ ‹_›).trans (hall _ ‹_›).symm
    exact ⟨rfl, hi', map_level_ok _ hi' _ _ ‹_›⟩
  case vc16 => exact ⟨rfl, ‹_›, Array.size_map.trans ‹_›, Array.size_map.trans ‹_›, two_le_of_ne ‹_› ‹_› ‹_›⟩
  case vc19 =>
    rw [toNat_km, toNat_mk]
    exact ⟨rfl, (size_set ..).trans ‹_›, List.length_append ▸ ‹Copied ..›.step
      (Nat.lt_of_lt_of_eq (mk_lt ‹_ < nk› ‹_ < nth›) (Eq.symm ‹_›)) fun _ _ hb e => mk_inj hb ‹_ < nth› e⟩
  case vc23 =>
    refine ⟨rfl, _, _, _, ‹_›, fun t f ht' => ‹Copied _ _ nk ..›.all t f (by simpa [range_toList_length] using ht'), ?_, ?_,
      (if_neg (mt beq_iff_eq.mpr ‹_›)).mpr ⟨trivial, two_le_of_ne ‹_› ‹_› ‹_›, rfl, ‹_›, ‹_›, _, rfl, rfl, rfl, ‹_›,
        fun f t hf => ‹Copied _ _ nth ..›.all f t (by simpa [range_toList_length] using hf)⟩⟩
    all_goals exact ⟨_, ‹_›, rfl⟩

theorem partitionM_spec (nk nth ihmax : Nat) (spec : Array Int) (iqFill : Int) (tr : Bool)
    (hk : 1 ≤ nk) (ht : 1 ≤ nth) (hi : 1 ≤ ihmax) (hs : spec.size = nk * nth) :
    ⦃fun o => ⌜o = false⌝⦄ partitionM nk nth ihmax (Neigh.table nk nth) spec iqFill tr
    ⦃⇓ r o => ⌜o = false ∧ r.fuelOut = false ∧ (r.const = false →
      r.ind.toList = (ptsortSpec ihmax (nk * nth) (levOf r.imi)).map (fun (x : Nat) => (x : Int))) ∧
      r.labels.size = nk * nth ∧ (r.const = false → ∃ imoF : Array Int, imoF.size = nk * nth ∧
        Ghost tr True ((effRun (nk * nth) r.trace.toList).1 = imoF.map labC) ∧
        ∀ f t, f < nk → t < nth → r.labels[f * nth + t]! = imoF[f + nk * t]!)⌝⦄ := by
  rw [triple_iff]
  intro o ho
  obtain ⟨ho', z, zmin, zmax, hz, -, -, -, hr⟩ :=
    (triple_iff _ _ _).mp (partitionM_run nk nth ihmax spec iqFill tr hk ht (Or.inl hi) hs) o ho
  generalize partitionM nk nth ihmax (Neigh.table nk nth) spec iqFill tr o = p at hr ho' ⊢
  refine ⟨ho', ?_⟩
  split at hr
  · rw [hr]; exact ⟨rfl, nofun, Array.size_replicate, nofun⟩
  · obtain ⟨-, hn, himi, hind, hsort, F, hF, htr, hfo, hls, hl⟩ := hr
    have hfld := (triple_iff _ _ _).mp (ptFld_spec (zp := z.map (zmax - ·)) ihmax iqFill tr (table_ok nk nth) hind
      (himi ▸ (map_level_ok ihmax hi zmin zmax hz).1) (Array.size_map.trans hz) hn) false rfl
    rw [← hF] at hfld
    exact ⟨hfo ▸ hfld.2.1, fun _ => hsort, hls, fun _ => ⟨F.imo, hfld.2.2.1, htr ▸ hfld.2.2.2.map (·.2.1), hl⟩⟩

/-- a constant spectrum takes the early return -/
theorem partitionM_const (nk nth ihmax : Nat) (spec : Array Int) (iqFill : Int) (tr : Bool)
    (hk : 1 ≤ nk) (ht : 1 ≤ nth) (hs : spec.size = nk * nth) (hc : ∀ i, i < nk * nth → spec[i]! = spec[0]!) :
    ⦃fun o => ⌜o = false⌝⦄ partitionM nk nth ihmax (Neigh.table nk nth) spec iqFill tr
    ⦃⇓ r o => ⌜o = false ∧ r.const = true ∧ r.labels = Array.replicate (nk * nth) 0 ∧ r.trace = #[] ∧
      r.fuelOut = false⌝⦄ := by
  rw [triple_iff]
  intro o ho
  obtain ⟨ho', z, zmin, zmax, -, hz, ⟨i, hi, rfl⟩, ⟨j, hj, rfl⟩, hr⟩ :=
    (triple_iff _ _ _).mp (partitionM_run nk nth ihmax spec iqFill tr hk ht (Or.inr hc) hs) o ho
  rw [if_pos (by rw [copy_const hz hc i hi, copy_const hz hc j hj])] at hr
  rw [hr]
  exact ⟨ho', rfl, rfl, rfl, rfl⟩

end WS.Fld
