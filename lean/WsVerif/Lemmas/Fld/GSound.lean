import WsVerif.Lemmas.Fld.GValid
import WsVerif.Lemmas.Flood
/-! Helpers for `Props/C04sound.lean`: the graph `graphOf` of the cylinder table is well formed, paths, pixel numbers. -/
namespace WS.Fld
open WS.SP WS.Flood WS.FloodL WS.Neigh

theorem graphOf_adj_ge (mk mth : Nat) (imi : Array Int) {p : Nat} (hp : ¬ p < mk * mth) :
    (graphOf mk mth (rows mk mth) imi).adj p = [] := by
  simp [graphOf, rows, Array.getD, hp]

/-- the graph on which the ghost trace is replayed is symmetric and closed -/
theorem graphOf_wf (mk mth : Nat) (imi : Array Int) : WF (graphOf mk mth (rows mk mth) imi) := by
  constructor
  · intro x y hy
    by_cases hx : x < mk * mth
    · rw [graphOf_adj mk mth imi hx] at hy
      exact (neighLin_ok hx).2 y hy
    · rw [graphOf_adj_ge mk mth imi hx] at hy; cases hy
  · intro x y hy
    by_cases hx : x < mk * mth
    · rw [graphOf_adj mk mth imi hx] at hy
      have hyn := (neighLin_ok hx).2 y hy
      rw [graphOf_adj mk mth imi hyn]
      exact neighLin_symm mk mth x y hx hy
    · rw [graphOf_adj_ge mk mth imi hx] at hy; cases hy

theorem Conn_mono {g : Graph} {S T : Nat → Prop} (h : ∀ x, S x → T x) {a b : Nat} (c : Conn g S a b) : Conn g T a b := by
  induction c with
  | refl hs => exact .refl (h _ hs)
  | step hs ha _ ih => exact .step (h _ hs) ha ih

/-- pixel `p = ifreq + nk·iang` read back as `(ifreq, iang)` -/
theorem pix_decomp {nk nth p : Nat} (hp : p < nk * nth) :
    p % nk < nk ∧ p / nk < nth ∧ p = p % nk + nk * (p / nk) ∧ (p % nk) * nth + p / nk < nk * nth := by
  obtain ⟨h1, h2, h3⟩ := NeighL.decomp hp
  refine ⟨h1, h2, h3, ?_⟩
  calc (p % nk) * nth + p / nk < (p % nk) * nth + nth := by omega
    _ = (p % nk + 1) * nth := by rw [Nat.add_mul, Nat.one_mul]
    _ ≤ nk * nth := Nat.mul_le_mul_right nth h1

end WS.Fld
