import WsVerif.Lemmas.Fld.Eff
/-! Step 1c of `pt_fld` (seeding and flooding of new basins): invariants and Hoare triples. -/
namespace WS.Fld
open Std.Do WS.SP
set_option mvcgen.warning false
attribute [local spec high] rd_pre wr_pre

/-- flood of a new basin: `P` = pixels already dequeued, `q` = pixels waiting; all distinct, none `MASK` -/
structure QC (n : Nat) (imo : Array Int) (P q : List Int) : Prop where
  nodup : (P ++ q).Nodup
  pix : ∀ x ∈ P ++ q, Pix n x
  lab : ∀ x ∈ P ++ q, imo[x.toNat]! ≠ -2

section
variable {n : Nat} {imo : Array Int} {P q : List Int}

theorem QC.len (h : QC n imo P q) : P.length + q.length ≤ n := by
  have := pigeon n _ h.nodup h.pix
  simpa using this

/-- dequeue from a non-empty queue: the slot read holds a pixel, which moves to the done list -/
theorem QC.popQ {iq : Array Int} {qs qe : Int} (h : QC n imo P q) (hq : QRep n iq qs qe q) (hl : q.length + 1 ≤ n)
    (hne : ¬(qs == qe) = true) :
    Pix n iq[qs.toNat]! ∧ ∃ t, QRep n iq (fifoNextStart n qs) qe t ∧ QC n imo (P ++ [iq[qs.toNat]!]) t ∧
      P ++ [iq[qs.toNat]!] ≠ [] ∧ t.length + 1 ≤ n := by
  obtain ⟨v, t, rfl⟩ := hq.eq_cons hl hne
  rw [hq.pop.1]
  have e : (P ++ [v]) ++ t = P ++ v :: t := by simp
  exact ⟨h.pix v (by simp), t, hq.pop.2, ⟨e ▸ h.nodup, e ▸ h.pix, e ▸ h.lab⟩, by simp, by simp at hl; omega⟩

/-- enqueue a `MASK` pixel and give it the label `icl ≠ MASK` -/
theorem QC.add {x icl : Int} (h : QC n imo P q) (hP : P ≠ []) (hx : Pix n x) (hm : imo[x.toNat]! = -2)
    (hicl : icl ≠ -2) (hs : imo.size = n) :
    QC n (imo.set! x.toNat icl) P (q ++ [x]) ∧ (q ++ [x]).length + 1 ≤ n := by
  have hnot : x ∉ P ++ q := fun hx' => h.lab x hx' hm
  have hx2 : x.toNat < imo.size := by have := hx.1; have := hx.2; omega
  have hq : QC n (imo.set! x.toNat icl) P (q ++ [x]) := by
    refine ⟨List.append_assoc .. ▸ nodup_concat h.nodup hnot, List.append_assoc .. ▸ forall_mem_concat h.pix hx,
      List.append_assoc .. ▸ forall_mem_concat (fun y hy => ?_) ?_⟩
    · rw [get_setI _ hx.1 (h.pix y hy).1 hx2]
      split
      · exact hicl
      · exact h.lab y hy
    · rw [get_setI _ hx.1 hx.1 hx2, if_pos rfl]; exact hicl
  refine ⟨hq, ?_⟩
  have := hq.len
  have : 0 < P.length := List.length_pos_iff.mpr hP
  simp at *; omega
end

theorem nbr1c_spec {n : Nat} {nb : Array Int} {E : Prop} (tr : Bool) {icl ipp : Int} {imo iq : Array Int} {qs qe : Int}
    (trace : Array Flood.Step) (P q : List Int) (hT : Ghost tr E (TR n trace imo icl)) (hi1 : Ghost tr E (1 ≤ icl))
    (hnb : NbOK n nb) (hs : imo.size = n) (hp : Pix n ipp) (hicl : icl ≠ -2)
    (hq : QRep n iq qs qe q) (hc : QC n imo P q) (hP : P ≠ []) (hl : q.length + 1 ≤ n) :
    ⦃fun o => ⌜o = false⌝⦄ nbr1c n nb tr icl ipp imo iq qe trace
    ⦃⇓ r o => ⌜o = false ∧ Ghost tr E (TR n r.2.2.2 r.1 icl) ∧ r.1.size = n ∧
      ∃ q', QRep n r.2.1 qs r.2.2.1 q' ∧ QC n r.1 P q' ∧ q'.length + 1 ≤ n⌝⦄ := by
  have s1 := nbCnt_pre hnb
  have s2 := nbAt_pre hnb
  mvcgen -trivial -leave [nbr1c, s1, s2, fifoAdd_pre]
  case inv1 =>
    exact ⇓⟨_, imo', iq', qe', tr'⟩ o => ⌜o = false ∧ Ghost tr E (TR n tr' imo' icl) ∧ imo'.size = n ∧
      ∃ q', QRep n iq' qs qe' q' ∧ QC n imo' P q' ∧ q'.length + 1 ≤ n⌝
  all_goals clear s1 s2; vcr; vcp
  case vc1 => exact ⟨rfl, hp⟩
  case vc2 => exact ⟨rfl, hp, by omega⟩
  case vc3 | vc5 => exact ⟨rfl, ‹Pix _ (nb[_]!)›.idx ‹_›⟩
  case vc4 => exact ⟨rfl, ‹QRep ..›.qe_range.1, ‹QRep ..›.qe_range.2.2⟩
  case vc6 =>
    grab hT' : Ghost
    have hadd := ‹QC ..›.add hP ‹Pix _ _› (by simpa using ‹(_ == (-2 : Int)) = true›) hicl ‹_›
    exact ⟨rfl, (hT'.and hi1).step fun h => h.1.flood h.2 _ _, (size_set ..).trans ‹_›, _, ‹QRep ..›.add (by omega) _, hadd⟩
  case vc7 | vc9 => exact ⟨rfl, ‹_›, ‹_›, _, ‹_›, ‹_›, ‹_›⟩
  case vc8 => exact ⟨rfl, hT, rfl, _, hq, hc, hl⟩

/-- `nbr1c_spec` as the flood loop uses it: the hypotheses in the precondition, for all ghost data (`qs`, `P`, `q`) at once -/
theorem nbr1c_pre {n : Nat} {nb : Array Int} {E : Prop} (tr : Bool) {icl ipp : Int} {imo iq : Array Int} {qe : Int}
    (trace : Array Flood.Step) (hnb : NbOK n nb) :
    ⦃fun o => ⌜o = false ∧ (Ghost tr E (TR n trace imo icl) ∧ Ghost tr E (1 ≤ icl) ∧ imo.size = n ∧ Pix n ipp ∧ icl ≠ -2) ∧
      ∃ g : Int × List Int × List Int,
        QRep n iq g.1 qe g.2.2 ∧ QC n imo g.2.1 g.2.2 ∧ g.2.1 ≠ [] ∧ g.2.2.length + 1 ≤ n⌝⦄
    nbr1c n nb tr icl ipp imo iq qe trace
    ⦃⇓ r o => ⌜o = false ∧ ∀ g : Int × List Int × List Int,
      (QRep n iq g.1 qe g.2.2 ∧ QC n imo g.2.1 g.2.2 ∧ g.2.1 ≠ [] ∧ g.2.2.length + 1 ≤ n) →
      Ghost tr E (TR n r.2.2.2 r.1 icl) ∧ r.1.size = n ∧
        ∃ q', QRep n r.2.1 g.1 r.2.2.1 q' ∧ QC n r.1 g.2.1 q' ∧ q'.length + 1 ≤ n⌝⦄ :=
  triple_pre fun h => triple_forall _ _ _ (fun g hg =>
    nbr1c_spec tr trace g.2.1 g.2.2 h.1.1 h.1.2.1 hnb h.1.2.2.1 h.1.2.2.2.1 h.1.2.2.2.2 hg.1 hg.2.1 hg.2.2.1 hg.2.2.2) h.2

theorem flood1c_spec {n : Nat} {nb : Array Int} {E : Prop} (hnb : NbOK n nb) (tr : Bool) (icl : Int) (imo iq : Array Int)
    (qs qe : Int) (trace : Array Flood.Step) :
    ⦃fun o => ⌜o = false ∧ Ghost tr E (TR n trace imo icl) ∧ Ghost tr E (1 ≤ icl) ∧ imo.size = n ∧ icl ≠ -2 ∧
      ∃ q, QRep n iq qs qe q ∧ QC n imo [] q ∧ q.length + 1 ≤ n⌝⦄
    flood1c n nb tr icl imo iq qs qe trace
    ⦃⇓ r o => ⌜o = false ∧ Ghost tr E (TR n r.2.2.2.2.1 r.1 icl) ∧ r.2.2.2.2.2 = true ∧ r.1.size = n ∧
      QRep n r.2.1 r.2.2.1 r.2.2.2.1 []⌝⦄ := by
  refine triple_pre ?_
  rintro ⟨hT, hi1, hs, hicl, q, hq, hc, hl⟩
  have s1 := fun (ipp : Int) (imo iq : Array Int) (qe : Int) (trace : Array Flood.Step) =>
    @nbr1c_pre n nb E tr icl ipp imo iq qe trace hnb
  mvcgen -trivial -leave [flood1c, s1, fifoFirst_pre]
  case inv1 =>
    exact ⇓⟨xs, imo', iq', qs', qe', tr', brk⟩ o => ⌜o = false ∧ Ghost tr E (TR n tr' imo' icl) ∧ imo'.size = n ∧
      ((brk = false ∧ ∃ P q, P.length = xs.prefix.length ∧ QRep n iq' qs' qe' q ∧ QC n imo' P q ∧ q.length + 1 ≤ n) ∨
       (brk = true ∧ xs.suffix = [] ∧ QRep n iq' qs' qe' []))⌝
  all_goals clear s1; vcr; vcp
  -- inside the loop the suffix is not empty: the invariant is its first alternative
  all_goals try (grab hor : Or; rcases hor with ⟨hb, P, q', hP, hq', hc', hl'⟩ | ⟨hb, hnil, hq'⟩ <;> try (simp at hnil; done))
  case vc1 =>
    have := hq'.eq_nil hl' ‹_›; subst this
    exact ⟨rfl, ‹_›, ‹_›, Or.inr ⟨trivial, trivial, hq'⟩⟩
  case vc2 => exact ⟨rfl, hq'.qs_ok⟩
  case vc3 =>
    obtain ⟨hpx, t, ht⟩ := hc'.popQ hq' hl' ‹_›
    exact ⟨rfl, ⟨‹_›, hi1, ‹_›, hpx, hicl⟩, (_, _, t), ht⟩
  case vc4 =>
    obtain ⟨-, t, ht⟩ := hc'.popQ hq' hl' ‹_›
    grab_all hall
    obtain ⟨hT2, hsz, q2, h2⟩ := hall (_, _, t) ht
    exact ⟨rfl, hT2.step (·.quiet _ rfl), hsz, Or.inl ⟨hb, _, q2, by simp [hP], h2⟩⟩
  case vc5 => exact ⟨rfl, hT, rfl, Or.inl ⟨trivial, [], q, rfl, hq, hc, hl⟩⟩
  case vc6.post.success.inl =>
    -- the fuel `n + 2` is not used up: every iteration dequeues another pixel
    have := hc'.len
    simp [Std.Legacy.Range.toList] at hP; omega
  case vc6.post.success.inr => exact ⟨rfl, ‹_›, hb, ‹_›, hq'⟩

theorem QC.single {n : Nat} {imo : Array Int} {x icl : Int} (hx : Pix n x) (hs : imo.size = n) (hicl : icl ≠ -2) :
    QC n (imo.set! x.toNat icl) [] [x] := by
  refine ⟨by simp, by simpa using hx, ?_⟩
  intro y hy
  simp at hy; subst hy
  rw [get_setI _ hx.1 hx.1 (by have := hx.1; have := hx.2; omega), if_pos rfl]; exact hicl

/-- state between the phases of a level: buffers of size `n`, cursor in range, queue empty, labels non-negative -/
structure Idle (n : Nat) (imo imd iq : Array Int) (qs qe icl m : Int) : Prop where
  so : imo.size = n
  sd : imd.size = n
  m0 : 0 ≤ m
  m1 : m < n
  icl0 : 0 ≤ icl
  q : QRep n iq qs qe []

theorem step1c_spec {n : Nat} {nb imi ind : Array Int} {E : Prop} (hnb : NbOK n nb) (hind : IndOK n ind)
    (hi : imi.size = n) (hn : 2 ≤ n) (ih : Int) (tr : Bool) (imo imd iq : Array Int) (qs qe icl m : Int)
    (trace : Array Flood.Step) :
    ⦃fun o => ⌜o = false ∧ Ghost tr E (TR n trace imo icl) ∧ Idle n imo imd iq qs qe icl m⌝⦄
    step1c n nb imi ind ih tr imo imd iq qs qe icl m trace
    ⦃⇓ r o => ⌜o = false ∧ Ghost tr E (TR n r.2.2.2.2.2.2.2.1 r.1 r.2.2.2.2.2.1) ∧ r.2.2.2.2.2.2.2.2 = false ∧
      Idle n r.1 r.2.1 r.2.2.1 r.2.2.2.1 r.2.2.2.2.1 r.2.2.2.2.2.1 r.2.2.2.2.2.2.1⌝⦄ := by
  refine triple_pre ?_
  rintro ⟨hT, h⟩
  have s1 := indAt_pre hind
  have s2 := flood1c_spec (E := E) hnb tr
  mvcgen -trivial -leave [step1c, s1, s2, fifoAdd_pre]
  case inv1 =>
    exact ⇓⟨xs, imo', imd', iq', qs', qe', icl', m', tr', fo, brk⟩ o => ⌜o = false ∧ Ghost tr E (TR n tr' imo' icl') ∧
      fo = false ∧ Idle n imo' imd' iq' qs' qe' icl' m' ∧
      ((brk = false ∧ m' = m + xs.prefix.length) ∨ (brk = true ∧ xs.suffix = []))⌝
  all_goals clear s1 s2; vcr; vcp
  case vc15 => exact ⟨rfl, hT, trivial, h, Or.inl ⟨trivial, by simp⟩⟩
  case vc17 => exact ⟨rfl, ‹_›, rfl, ‹_›⟩
  -- inside the loop the suffix is not empty: the invariant is its first alternative
  all_goals try (grab hor : Or; rcases hor with ⟨hb, hm⟩ | ⟨hb, hnil⟩ <;> try (simp at hnil; done))
  all_goals try grab hI : Idle
  case vc1 => exact ⟨rfl, hI.m0, hI.m1⟩
  case vc2 => exact ⟨rfl, ‹Pix _ _›.idx rfl⟩
  case vc3 => exact ⟨rfl, ‹_›, rfl, hI, Or.inr ⟨trivial, trivial⟩⟩
  case vc4 => exact ⟨rfl, ‹Pix _ _›.idx hI.sd⟩
  case vc5 | vc7 => exact ⟨rfl, ‹Pix _ _›.idx hI.so⟩
  case vc6 => exact ⟨rfl, hI.q.qe_range.1, hI.q.qe_range.2.2⟩
  case vc8 =>
    grab hT' : Ghost
    have := hI.icl0
    exact ⟨rfl, hT'.step (·.seed _), Ghost.intro (by omega), (size_set ..).trans hI.so, by omega,
      [_], hI.q.add (by simp; omega) _, QC.single ‹Pix _ _› hI.so (by omega), by simp; omega⟩
  case vc9 | vc10 => exact absurd ‹(!true) = true› (by decide)
  case vc11 =>
    exact ⟨rfl, ‹_›, rfl, ⟨‹_›, (size_set ..).trans hI.sd, hI.m0, hI.m1, by have := hI.icl0; omega, ‹_›⟩,
      Or.inr ⟨trivial, trivial⟩⟩
  case vc12 =>
    have := hI.m0
    exact ⟨rfl, ‹_›, rfl, ⟨‹_›, (size_set ..).trans hI.sd, by omega, by omega, by have := hI.icl0; omega, ‹_›⟩,
      Or.inl ⟨hb, by simp; omega⟩⟩
  case vc13 => exact ⟨rfl, ‹_›, rfl, { hI with sd := (size_set ..).trans hI.sd }, Or.inr ⟨trivial, trivial⟩⟩
  case vc14 =>
    have := hI.m0
    exact ⟨rfl, ‹_›, rfl, { hI with sd := (size_set ..).trans hI.sd, m0 := by omega, m1 := by omega },
      Or.inl ⟨hb, by simp; omega⟩⟩
  case vc16.post.success.isTrue.inl =>
    -- the fuel `n + 1` is not used up: the cursor stays below `n`
    have := h.m0; have := hI.m1
    simp [Std.Legacy.Range.toList] at hm; omega
  case vc16.post.success.isTrue.inr => subst hb; exact absurd ‹(!true) = true› (by decide)

end WS.Fld
