import WsVerif.Lemmas.Fld.Eff
/-! Step 2 of `pt_fld` (five clean-up sweeps) and the `zpmax` loop: Hoare triples. -/
namespace WS.Fld
open Std.Do WS.SP
set_option mvcgen.warning false
attribute [local spec high] rd_pre wr_pre

theorem nb_pick {n : Nat} {nb : Array Int} (hnb : NbOK n nb) {jl ipt : Int} (hp : Pix n jl) (hgt : ipt > -1)
    (hor : ipt = -1 ∨ (0 ≤ ipt ∧ ipt < nb[(8 + 9 * jl).toNat]!)) : Pix n nb[(ipt + 9 * jl).toNat]! := by
  have h0 : 0 ≤ ipt := by omega
  have hi := hnb.ent jl hp ipt.toNat (by omega)
  rwa [Int.toNat_of_nonneg h0] at hi

theorem TR2.resolveI {n : Nat} {t : Array Flood.Step} {imo imd : Array Int} {icl : Int} (h : TR2 n t imo imd icl)
    (p : Nat) {q : Int} (hq : Pix n q) (hs : imo.size = n) :
    TR2 n (pushIf true t (.resolve p q.toNat)) imo (imd.set! ((p : Int)).toNat imo[q.toNat]!) icl := by
  have := h.resolve p q.toNat (by have := hq.1; have := hq.2; omega)
  simpa [Int.toNat_natCast] using this

theorem sweepPix_spec {n : Nat} {nb zp : Array Int} {E : Prop} (hnb : NbOK n nb) (hz : zp.size = n) (icl zpmax : Int)
    (tr : Bool) (imo : Array Int) (jlN : Nat) (imd : Array Int) (trace : Array Flood.Step) :
    ⦃fun o => ⌜o = false ∧ Ghost tr E (TR2 n trace imo imd icl) ∧ imo.size = n ∧ imd.size = n ∧ jlN < n⌝⦄
    sweepPix nb zp zpmax tr imo jlN imd trace
    ⦃⇓ r o => ⌜o = false ∧ Ghost tr E (TR2 n r.2 imo r.1 icl) ∧ r.1.size = n⌝⦄ := by
  refine triple_pre ?_
  rintro ⟨hT, hs, hd, hj⟩
  have s1 := nbCnt_pre hnb
  have s2 := nbAt_pre hnb
  have hp : Pix n (jlN : Int) := ⟨by omega, by omega⟩
  mvcgen -trivial -leave [sweepPix, s1, s2]
  case inv1 =>
    exact ⇓⟨_, ipt, _⟩ o => ⌜o = false ∧ (ipt = -1 ∨ (0 ≤ ipt ∧ ipt < nb[(8 + 9 * (jlN : Int)).toNat]!))⌝
  all_goals clear s1 s2; vcr; vcp
  case vc1 => exact ⟨rfl, hp.idx hs⟩
  case vc2 => exact ⟨rfl, hp⟩
  case vc3 => exact ⟨rfl, hp, by omega⟩
  case vc4 => exact ⟨rfl, hp.idx rfl⟩
  case vc5 => exact ⟨rfl, ‹Pix _ (nb[_]!)›.idx rfl⟩
  case vc6 => exact ⟨rfl, ‹Pix _ (nb[_]!)›.idx hs⟩
  case vc7 => exact ⟨rfl, Or.inr ⟨by omega, by omega⟩⟩
  case vc8 => exact ⟨rfl, ‹_ ∨ _›⟩
  case vc9 => exact ⟨rfl, Or.inl trivial⟩
  case vc10 =>
    have := hnb.cnt _ hp; have := hnb.size; have := hp.1; have := hp.2
    exact ⟨rfl, by omega, by omega⟩
  case vc11 => exact ⟨rfl, (nb_pick hnb hp ‹_› ‹_›).idx hs⟩
  case vc12 => exact ⟨rfl, hp.idx hd⟩
  case vc13 => exact ⟨rfl, hT.step2 (·.resolveI jlN (nb_pick hnb hp ‹_› ‹_›) hs), (size_set ..).trans hd⟩
  case vc14 | vc15 => exact ⟨rfl, hT, hd⟩

theorem step2_spec {n : Nat} {nb zp : Array Int} {E : Prop} (icl : Int) (zpmax : Int) (tr : Bool) {imo : Array Int}
    (trace : Array Flood.Step) (hT : Ghost tr E (TR n trace imo icl))
    (hnb : NbOK n nb) (hz : zp.size = n) (hs : imo.size = n) :
    ⦃fun o => ⌜o = false⌝⦄ step2 n nb zp zpmax tr imo trace
    ⦃⇓ r o => ⌜o = false ∧ Ghost tr E (TR n r.2 r.1 icl) ∧ r.1.size = n⌝⦄ := by
  have s1 := sweepPix_spec (E := E) hnb hz icl
  mvcgen -trivial -leave [step2, s1]
  case inv1 => exact ⇓⟨_, imo', tr'⟩ o => ⌜o = false ∧ Ghost tr E (TR n tr' imo' icl) ∧ imo'.size = n⌝
  case inv2 =>
    rename_i b _ _ _ _ _
    exact ⇓⟨_, tr', imd'⟩ o => ⌜o = false ∧ Ghost tr E (TR2 n tr' b.1 imd' icl) ∧ imd'.size = n⌝
  all_goals clear s1; vcr; vcp
  case vc1 => exact ⟨rfl, ‹_›, ‹_›, ‹_›, ‹_›⟩
  case vc2 | vc7 => exact ⟨rfl, ‹_›, ‹_›⟩
  case vc3 => grab hT' : Ghost; exact ⟨rfl, hT'.step2 TR2.sweep, ‹_›⟩
  case vc4 | vc5 => grab hT2 : Ghost; exact ⟨rfl, hT2.map TR2.done, ‹_›⟩
  case vc6 => exact ⟨rfl, hT, hs⟩

theorem zpMax_spec {n : Nat} {zp : Array Int} (hz : zp.size = n) (hn : 1 ≤ n) :
    ⦃fun o => ⌜o = false⌝⦄ zpMax n zp ⦃⇓ _ o => ⌜o = false⌝⦄ := by
  mvcgen -trivial -leave [zpMax]
  case inv1 => exact ⇓⟨_, _⟩ o => ⌜o = false⌝
  all_goals vcr; vcp
  case vc1 => exact ⟨rfl, Int.le_refl 0, hn⟩
  case vc2 => exact ⟨rfl, by omega, by omega⟩
  all_goals rfl

end WS.Fld
