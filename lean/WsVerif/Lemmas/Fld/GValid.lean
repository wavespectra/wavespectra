import WsVerif.Lemmas.Fld.GCtx
/-! The executable checker `Flood.traceCheck` accepts every trace on which `Flood.run` succeeds. -/
namespace WS.Fld
open Std.Do WS.SP WS.Flood
set_option mvcgen.warning false

theorem toList_split (t : Array Step) {i : Nat} (hi : i < t.size) :
    t.toList = t.toList.take i ++ t[i]! :: t.toList.drop (i + 1) := by
  have h1 : i < t.toList.length := by simpa using hi
  have e : t[i]! = t.toList[i] := by simp [hi]
  rw [e, ← List.drop_eq_getElem_cons h1, List.take_append_drop]

theorem take_succ_split (t : Array Step) {i : Nat} (hi : i < t.size) :
    t.toList.take (i + 1) = t.toList.take i ++ [t[i]!] := by
  have h1 : i < t.toList.length := by simpa using hi
  have e : t[i]! = t.toList[i] := by simp [hi]
  rw [e, List.take_succ_eq_append_getElem h1]

theorem traceCheck_ok {g : Graph} {t : Array Step} {s : St} (h : run g t.toList = some s) :
    traceCheck g t = .ok s := by
  generalize hr : traceCheck g t = x
  apply Id.of_wp_run_eq hr
  mvcgen -trivial -leave
  case inv1 =>
    exact ⇓⟨xs, r⟩ => ⌜r.1 = none ∧ runFrom g (St.init g.n) (t.toList.take xs.prefix.length) = some r.2⌝
  all_goals vcr; vcp
  case vc1 =>
    have hstep := ‹step g _ _ = some _›
    have hrun := ‹runFrom g _ _ = some _›
    refine ⟨trivial, ?_⟩
    simp only [List.length_append, List.length_cons, List.length_nil, Nat.zero_add]
    rw [take_succ_split t (by assumption), runFrom_append, hrun]
    simp [runFrom, hstep]
  case vc2 =>
    have hstep := ‹step g _ _ = none›
    have hrun := ‹runFrom g _ _ = some _›
    exfalso
    unfold run at h
    rw [toList_split t (by assumption), runFrom_append, hrun] at h
    simp [runFrom, hstep] at h
  case vc3 => exact ⟨trivial, rfl⟩
  case vc4 => simp_all
  case vc5 =>
    have hrun := ‹runFrom g _ _ = some _›
    have : t.toList.take [:t.size].toList.length = t.toList := by
      rw [range_toList_length, Nat.sub_zero, ← Array.length_toList]; exact List.take_length
    rw [this] at hrun
    unfold run at h
    rw [h] at hrun
    simp at hrun
    rw [hrun]

theorem traceValid_of_run {g : Graph} {t : Array Step} {s : St} (h : run g t.toList = some s) :
    (traceValid g t).1 = true := by
  unfold traceValid
  rw [traceCheck_ok h]

end WS.Fld
