import WsVerif.Lemmas.Fld.G1b
/-! Step 1c of `pt_fld` with the simulation relation: `seed`, `flood`, `closed`, `endlevel` satisfy their guards; `endlevel`
leads back to the state between two levels (`RIdle`, `GIdle`). -/
namespace WS.Fld
open Std.Do WS.SP WS.Flood
set_option mvcgen.warning false
attribute [local spec high] rd_val wr_val fifoAdd_val fifoFirst_val

/-- flooding the basin of a new seed, loop head: `P` closed pixels, `q` waiting pixels (the abstract frontier) -/
structure RFl (n : Nat) (ind : Array Int) (g : Graph) (s : St) (P q : List Nat) (imo imd : Array Int) (icl : Int) (ih : Nat)
    (m : Int) : Prop where
  base : Base n g s imo icl ih
  sd : imd.size = n
  ph : s.phase = .seeding
  i1 : 1 ≤ icl
  fr : ∀ x, x ∈ s.frontier ↔ x ∈ q
  nd : (P ++ q).Nodup
  ql : ∀ x ∈ P ++ q, x < n ∧ imo[x]! = icl ∧ s.finOf x = true
  lc : LvC n ind g s imo imd ih m

/-- … inside an iteration: `v` is still at the head of the waiting pixels, the first `i` slots of its neighbour row
    examined -/
structure RFlMid (n : Nat) (nb ind : Array Int) (g : Graph) (s : St) (P : List Nat) (v : Nat) (q : List Nat)
    (imo imd : Array Int) (icl : Int) (ih : Nat) (m : Int) (i : Nat) : Prop
    extends RFl n ind g s P (v :: q) imo imd icl ih m where
  pcl : ∀ j : Nat, j < i → imo[nbN nb v j]! ≠ -2

/-- what `seed` / `flood` do to the abstract state: pixel `p` becomes a final pixel of basin `k` and joins the frontier -/
structure Labelled (s s' : St) (p k : Nat) (fr : List Nat) : Prop where
  lab : s'.lab = s.lab.setIfInBounds p (.basin k)
  fin : s'.fin = s.fin.setIfInBounds p true
  K : s'.K = k
  h : s'.h = s.h
  ph : s'.phase = s.phase
  fr : s'.frontier = fr

theorem step_seed {g : Graph} {s : St} {p k : Nat} (hph : s.phase = .seeding) (hp : p < g.n) (hf : s.frontier = [])
    (hl : s.labOf p = .mask) (hk : k = s.K + 1) :
    ∃ s', step g s (.seed p k) = some s' ∧ Labelled s s' p k [p] := by
  simp only [step]
  rw [if_pos ⟨hph, hp, hf, hl, hk⟩]
  exact ⟨_, rfl, rfl, rfl, rfl, rfl, rfl, rfl⟩

theorem step_flood {g : Graph} {s : St} {p q : Nat} (hph : s.phase = .seeding) (hp : p < g.n) (hq : q < g.n)
    (hl : s.labOf p = .mask) (ha : q ∈ g.adj p) (hfq : s.finOf q = true) (hlq : s.labOf q = .basin s.K) (hK : 1 ≤ s.K) :
    ∃ s', step g s (.flood p q) = some s' ∧ Labelled s s' p s.K (p :: s.frontier) := by
  have hc : (g.adj p).contains q = true := by simpa using ha
  simp only [step]
  rw [if_pos ⟨hph, hp, hq, hl, hc, hfq, hlq, hK⟩]
  exact ⟨_, rfl, rfl, rfl, rfl, rfl, rfl, rfl⟩

theorem step_closed {g : Graph} {s : St} {q : Nat} (hph : s.phase = .seeding) (h : ∀ y ∈ g.adj q, s.labOf y ≠ .mask) :
    step g s (.closed q) = some { s with frontier := s.frontier.filter (· != q) } := by
  have hc : ((g.adj q).all fun y => s.labOf y != .mask) = true := by
    rw [List.all_eq_true]; intro y hy; simpa using h y hy
  simp only [step]
  rw [if_pos ⟨hph, hc⟩]

theorem step_endlevel {g : Graph} {s : St} (hph : s.phase = .seeding) (hf : s.frontier = [])
    (h : ∀ x, x < g.n → g.level x ≤ s.h → s.finOf x = true ∧ (s.labOf x).labelled = true) :
    step g s .endlevel = some { s with phase := .idle, h := s.h + 1, cur := [] } := by
  have hok : endlevelOk g s = true := by
    simp only [endlevelOk, List.all_eq_true, List.mem_range, Bool.or_eq_true, Bool.not_eq_true', decide_eq_false_iff_not,
      Bool.and_eq_true]
    exact fun x hx => (Decidable.em (g.level x ≤ s.h)).symm.imp_right (h x hx)
  simp only [step]
  rw [if_pos ⟨hph, hf, hok⟩]

section
variable {n : Nat} {nb imi ind : Array Int} {g : Graph} {s : St} {P q : List Nat} {v : Nat} {imo imd : Array Int}
  {icl : Int} {ih : Nat} {m : Int} {i : Nat}

theorem LvC.label {s' : St} {y : Nat} {v : Int} (h : LvC n ind g s imo imd ih m) (hy : y < imo.size) (hv : 0 ≤ v)
    (hf : ∀ x, s'.finOf x = if x = y then true else s.finOf x) : LvC n ind g s' (imo.set! y v) imd ih m := by
  have hget := fun j => get_setP imo y j v hy
  refine ⟨fun p hp hl => ?_, fun k hk hl hkm => ?_, h.imdl⟩
  · rw [hget, hf]
    split
    · exact Or.inr ⟨hv, rfl⟩
    · exact h.lvl p hp hl
  · have := h.pos k hk hl hkm
    rw [hget]
    split
    · exact ⟨hv, this.2⟩
    · exact this

/-- a `MASK` pixel `y` of the level becomes a final pixel of basin `v ≥ 1` -/
theorem Base.label {s' : St} {icl' : Int} {y : Nat} {v : Int} {fr : List Nat} (b : Base n g s imo icl ih) (hy : y < n)
    (hm : imo[y]! = -2) (hv : 1 ≤ v) (L : Labelled s s' y v.toNat fr) (hK : v.toNat = icl'.toNat) (hi : 0 ≤ icl') :
    (∀ x, s'.finOf x = if x = y then true else s.finOf x) ∧ Base n g s' (imo.set! y v) icl' ih := by
  have hf := finOf_set L.fin (b.fsz ▸ hy)
  exact ⟨hf, b.set hy (b.mask_lv hy hm) (by omega) (by rw [L.lab, labC_pos hv]) (fun x hx => by rw [hf, if_neg hx])
    (by rw [L.fin]; simpa using b.fsz) (L.K.trans hK) hi L.h⟩

/-- resetting the distance of the pixel under the cursor -/
theorem R1c.setd (h : R1c n ind g s imo imd icl ih m) {p : Nat} (hp : p < n) : R1c n ind g s imo (imd.set! p 0) icl ih m := by
  have hget := fun j => get_setP imd p j 0 (h.sd ▸ hp)
  refine ⟨h.base, by simp [h.sd], h.ph, h.fr, h.lc.lvl, fun k hk hl hkm => ?_, fun x hx hl => ?_⟩
  · have := h.lc.pos k hk hl hkm
    rw [hget]; split
    · exact ⟨this.1, rfl⟩
    · exact this
  · rw [hget]; split
    · rfl
    · exact h.lc.imdl x hx hl

/-- the cursor passes a pixel that is labelled and has its distance reset -/
theorem LvC.next (h : LvC n ind g s imo imd ih m) (hm0 : 0 ≤ m)
    (hd : imd[(ind[m.toNat]!).toNat]! = 0) (hl : 0 ≤ imo[(ind[m.toNat]!).toNat]!) : LvC n ind g s imo imd ih (m + 1) := by
  refine ⟨h.lvl, fun k hk hlk hkm => ?_, h.imdl⟩
  by_cases hkm' : (k : Int) < m
  · exact h.pos k hk hlk hkm'
  · have : k = m.toNat := by omega
    subst this
    exact ⟨hl, hd⟩

/-- `seed` -/
theorem R1c.seed (C : Ctx n nb imi ind g) (h : R1c n ind g s imo imd icl ih m) (hm0 : 0 ≤ m) (hm1 : m < n)
    (hd : imd[(ind[m.toNat]!).toNat]! = 0) (hl : imo[(ind[m.toNat]!).toNat]! = -2) :
    ∃ s', step g s (.seed (ind[m.toNat]!).toNat (icl + 1).toNat) = some s' ∧
      RFl n ind g s' [] [(ind[m.toNat]!).toNat] (imo.set! (ind[m.toNat]!).toNat (icl + 1)) imd (icl + 1) ih (m + 1) := by
  have hp := (C.ind_lt (show m.toNat < n by omega)).1
  generalize hpe : (ind[m.toNat]!).toNat = p at *
  have hi0 := h.base.icl0
  have hk : (icl + 1).toNat = s.K + 1 := by rw [h.base.K]; omega
  obtain ⟨s', hs, L⟩ := step_seed h.ph (by rw [C.gn]; exact hp) h.fr (by rw [h.base.labOf hp, hl]; rfl) hk
  obtain ⟨hfe, hb⟩ := h.base.label hp hl (show 1 ≤ icl + 1 by omega) L rfl (by omega)
  have hps : p < imo.size := h.base.so ▸ hp
  have hget := fun j => get_setP imo p j (icl + 1) hps
  refine ⟨s', hs, hb, h.sd, L.ph ▸ h.ph, by omega, by intro x; rw [L.fr], by simp, ?_, ?_⟩
  · intro x hx
    simp at hx; subst hx
    exact ⟨hp, by rw [hget, if_pos rfl], by rw [hfe, if_pos rfl]⟩
  · exact (h.lc.label hps (by omega) hfe).next hm0 (by rw [hpe]; exact hd) (by rw [hpe, hget, if_pos rfl]; omega)

theorem RFl.pop (h : RFl n ind g s P (v :: q) imo imd icl ih m) : RFlMid n nb ind g s P v q imo imd icl ih m 0 :=
  ⟨h, fun j hj => by omega⟩

/-- queue empty: the flood of this seed is over -/
theorem RFl.done (h : RFl n ind g s P [] imo imd icl ih m) : R1c n ind g s imo imd icl ih m :=
  ⟨h.base, h.sd, h.ph, List.eq_nil_iff_forall_not_mem.mpr (fun x hx => by have := (h.fr x).mp hx; simp at this), h.lc⟩

theorem RFl.len (h : RFl n ind g s P q imo imd icl ih m) : P.length + q.length ≤ n := by
  have := pigeonN n _ h.nd (fun x hx => (h.ql x hx).1)
  simpa using this

/-- slot `i` is not `MASK` -/
theorem RFlMid.keep (h : RFlMid n nb ind g s P v q imo imd icl ih m i) (hc : imo[nbN nb v i]! ≠ -2) :
    RFlMid n nb ind g s P v q imo imd icl ih m (i + 1) :=
  { h with pcl := Nat.forall_lt_succ_right.mpr ⟨h.pcl, hc⟩ }

/-- `flood` -/
theorem RFlMid.flood (C : Ctx n nb imi ind g) (h : RFlMid n nb ind g s P v q imo imd icl ih m i)
    (hi : (i : Int) < nb[(8 + 9 * (v : Int)).toNat]!) (hc : imo[nbN nb v i]! = -2) :
    ∃ s', step g s (.flood (nbN nb v i) v) = some s' ∧
      RFlMid n nb ind g s' P v (q ++ [nbN nb v i]) (imo.set! (nbN nb v i) icl) imd icl ih m (i + 1) := by
  have hv := h.ql v (by simp)
  obtain ⟨hyadj, hy⟩ := C.slot_adj hv.1 hi
  have hpcl := h.pcl
  generalize hyd : nbN nb v i = y at *
  have hi1 := h.i1
  have hK1 : 1 ≤ s.K := by rw [h.base.K]; omega
  have hlabv : s.labOf v = .basin s.K := by rw [h.base.labOf hv.1, hv.2.1, labC_pos hi1, h.base.K]
  obtain ⟨s', hs, L⟩ := step_flood h.ph (by rw [C.gn]; exact hy) (by rw [C.gn]; exact hv.1)
    (by rw [h.base.labOf hy, hc]; rfl) (C.adj_symm v y hv.1 hyadj) hv.2.2 hlabv hK1
  obtain ⟨hfe, hb⟩ := h.base.label hy hc hi1 (h.base.K ▸ L) rfl h.base.icl0
  have hys : y < imo.size := h.base.so ▸ hy
  have hget := fun j => get_setP imo y j icl hys
  have hynot : y ∉ P ++ v :: q := fun hm => by have := (h.ql y hm).2.1; omega
  have e : P ++ v :: (q ++ [y]) = (P ++ v :: q) ++ [y] := by simp
  refine ⟨s', hs, ⟨hb, h.sd, L.ph ▸ h.ph, hi1, fun x => ?_, by rw [e]; exact nodup_concat h.nd hynot, fun x hx => ?_,
    h.lc.label hys (by omega) hfe⟩, fun j hj hm => ?_⟩
  · rw [L.fr, List.mem_cons, h.fr, ← List.cons_append, List.mem_append, List.mem_singleton, or_comm]
  · rw [e, List.mem_append, List.mem_singleton] at hx
    rw [hget, hfe]
    rcases hx with hx | rfl
    · have hne : x ≠ y := fun e => hynot (e ▸ hx)
      rw [if_neg hne, if_neg hne]; exact h.ql x hx
    · exact ⟨hy, by rw [if_pos rfl], by rw [if_pos rfl]⟩
  · -- the new label is not `MASK`, the others are as before
    rw [hget] at hm
    split at hm
    · omega
    · rcases Nat.lt_succ_iff_lt_or_eq.mp hj with hj | rfl
      · exact hpcl j hj hm
      · exact ‹¬_› hyd

/-- `closed` after the whole neighbour row -/
theorem RFlMid.close (C : Ctx n nb imi ind g) (h : RFlMid n nb ind g s P v q imo imd icl ih m i)
    (hi : ∀ j : Nat, (j : Int) < nb[(8 + 9 * (v : Int)).toNat]! → j < i) :
    step g s (.closed v) = some { s with frontier := s.frontier.filter (· != v) } ∧
    RFl n ind g { s with frontier := s.frontier.filter (· != v) } (P ++ [v]) q imo imd icl ih m := by
  have hv := h.ql v (by simp)
  have hvq : v ∉ q := (List.nodup_cons.mp (List.nodup_append.mp h.nd).2.1).1
  constructor
  · refine step_closed h.ph ?_
    intro y hy
    obtain ⟨j, hj, rfl⟩ := C.adj_slot hv.1 hy
    rw [h.base.labOf (C.adj_lt hv.1 hy), Ne, labC_mask]
    exact h.pcl j (hi j hj)
  · refine ⟨h.base.congr rfl rfl rfl rfl, h.sd, h.ph, h.i1, fun x => ?_, by simpa using h.nd,
      fun x hx => h.ql x (by simpa using hx), h.lc.lvl, h.lc.pos, h.lc.imdl⟩
    show x ∈ s.frontier.filter (· != v) ↔ _
    rw [List.mem_filter, h.fr, List.mem_cons, bne_iff_ne]
    exact ⟨fun ⟨h1, h2⟩ => h1.resolve_left h2, fun h1 => ⟨Or.inr h1, fun e => hvq (e ▸ h1)⟩⟩
end

section
variable {n : Nat} {nb imi ind : Array Int} {g : Graph}

/-- all pixels of the level are labelled: `endlevel` -/
theorem R1c.endlevel (C : Ctx n nb imi ind g) {s : St} {imo imd : Array Int} {icl : Int} {ih : Nat} {m m' : Int}
    (h : R1c n ind g s imo imd icl ih m) (hall : ∀ k : Nat, k < n → g.level (ind[k]!).toNat = ih → (k : Int) < m)
    (hmi : MInv n ind g (ih + 1) m') :
    step g s .endlevel = some { s with phase := .idle, h := s.h + 1, cur := [] } ∧
    RIdle n ind g { s with phase := .idle, h := s.h + 1, cur := [] } imo imd icl (ih + 1) m' := by
  have hlab : ∀ p, p < n → g.level p = ih → 0 ≤ imo[p]! ∧ s.finOf p = true ∧ imd[p]! = 0 := by
    intro p hp hl
    obtain ⟨k, hk, he⟩ := C.ind_surj hp
    have hl' : g.level (ind[k]!).toNat = ih := by rw [he, Int.toNat_natCast]; exact hl
    have := h.lc.pos k hk hl' (hall k hk hl')
    rw [he, Int.toNat_natCast] at this
    rcases h.lc.lvl p hp hl with h1 | h1
    · omega
    · exact ⟨this.1, h1.2, this.2⟩
  constructor
  · refine step_endlevel h.ph h.fr fun x hx hl => ?_
    rw [C.gn] at hx
    rw [h.base.h] at hl
    rw [h.base.labOf hx, labC_labelled (h.base.lo x hx)]
    rcases Nat.lt_or_eq_of_le hl with h1 | h1
    · exact h.base.old x hx h1
    · exact ⟨(hlab x hx h1).2.1, (hlab x hx h1).1⟩
  · refine ⟨⟨h.base.so, h.base.lab, h.base.fsz, h.base.K, h.base.icl0, h.base.lo, by show s.h + 1 = ih + 1; rw [h.base.h], ?_, ?_⟩,
      h.sd, rfl, ?_, ?_, hmi⟩
    · intro p hp hl
      rcases Nat.lt_or_eq_of_le (Nat.le_of_lt_succ hl) with h1 | h1
      · exact h.base.old p hp h1
      · have := hlab p hp h1; exact ⟨this.2.1, this.1⟩
    · intro p hp hl
      exact h.base.new p hp (by omega)
    · intro p hp hl
      exact h.base.new p hp (by omega)
    · intro p hp
      by_cases hl : g.level p = ih
      · exact (hlab p hp hl).2.2
      · exact h.lc.imdl p hp hl
end

section
variable {n : Nat} {nb imi ind : Array Int} {g : Graph}

def GFl (n : Nat) (ind : Array Int) (g : Graph) (trace : Array Step) (imo imd iq : Array Int) (qs qe icl : Int) (ih : Nat)
    (m : Int) (k : Nat) : Prop :=
  ∃ (s : St) (P q : List Nat), P.length = k ∧ run g trace.toList = some s ∧ QRep n iq qs qe (castL q) ∧
    q.length + 1 ≤ n ∧ RFl n ind g s P q imo imd icl ih m

def GFlMid (n : Nat) (nb ind : Array Int) (g : Graph) (trace : Array Step) (imo imd iq : Array Int) (qs qe icl : Int)
    (ih : Nat) (m : Int) (k : Nat) (ipp : Int) (i : Nat) : Prop :=
  ∃ (s : St) (P : List Nat) (v : Nat) (q : List Nat), ipp = (v : Int) ∧ P.length + 1 = k ∧ run g trace.toList = some s ∧
    QRep n iq qs qe (castL q) ∧ RFlMid n nb ind g s P v q imo imd icl ih m i

def G1c (n : Nat) (ind : Array Int) (g : Graph) (trace : Array Step) (imo imd iq : Array Int) (qs qe icl : Int) (ih : Nat)
    (m : Int) : Prop :=
  ∃ s : St, run g trace.toList = some s ∧ QRep n iq qs qe [] ∧ R1c n ind g s imo imd icl ih m

/-- the seeding loop has left: every pixel of the level is labelled and the cursor is right for the next level -/
def G1cEnd (n : Nat) (ind : Array Int) (g : Graph) (trace : Array Step) (imo imd iq : Array Int) (qs qe icl : Int) (ih : Nat)
    (m : Int) : Prop :=
  ∃ (s : St) (mm : Int), run g trace.toList = some s ∧ QRep n iq qs qe [] ∧ R1c n ind g s imo imd icl ih mm ∧
    (∀ k : Nat, k < n → g.level (ind[k]!).toNat = ih → (k : Int) < mm) ∧ MInv n ind g (ih + 1) m

/-- state between two levels -/
def GIdle (n : Nat) (ind : Array Int) (g : Graph) (trace : Array Step) (imo imd iq : Array Int) (qs qe icl : Int) (ih : Nat)
    (m : Int) : Prop :=
  ∃ s : St, run g trace.toList = some s ∧ QRep n iq qs qe [] ∧ RIdle n ind g s imo imd icl ih m

variable {trace : Array Step} {imo imd iq : Array Int} {qs qe icl : Int} {ih : Nat} {m : Int} {k : Nat}

theorem GFlMid.facts {ipp : Int} {i : Nat} (h : GFlMid n nb ind g trace imo imd iq qs qe icl ih m k ipp i) :
    Pix n ipp ∧ imo.size = n ∧ (0 ≤ qe ∧ qe.toNat < iq.size) := by
  obtain ⟨s, P, v, q, rfl, -, -, hq, hR⟩ := h
  have := (hR.ql v (by simp)).1
  have := hq.qe_range
  exact ⟨⟨by omega, by omega⟩, hR.base.so, by omega⟩

theorem GFlMid.cast {ipp : Int} {i j : Nat} (h : GFlMid n nb ind g trace imo imd iq qs qe icl ih m k ipp i) (e : i = j) :
    GFlMid n nb ind g trace imo imd iq qs qe icl ih m k ipp j := e ▸ h

theorem GFlMid.keepG {ipp : Int} {i : Nat} (h : GFlMid n nb ind g trace imo imd iq qs qe icl ih m k ipp i)
    (hc : ¬(imo[nbN nb ipp i]! == -2) = true) :
    GFlMid n nb ind g trace imo imd iq qs qe icl ih m k ipp (i + 1) := by
  obtain ⟨s, P, v, q, rfl, hk, hrun, hq, hR⟩ := h
  exact ⟨s, P, v, q, rfl, hk, hrun, hq, hR.keep (by simpa using hc)⟩

theorem GFlMid.floodG (C : Ctx n nb imi ind g) {ipp : Int} {i : Nat}
    (h : GFlMid n nb ind g trace imo imd iq qs qe icl ih m k ipp i) (hi : i < (nb[(8 + 9 * ipp).toNat]!).toNat)
    (hc : (imo[nbN nb ipp i]! == -2) = true) :
    GFlMid n nb ind g (pushIf true trace (.flood (nbN nb ipp i) ipp.toNat)) (imo.set! (nbN nb ipp i) icl) imd
      (iq.set! qe.toNat nb[((i : Int) + 9 * ipp).toNat]!) qs (fifoNextEnd n qe) icl ih m k ipp (i + 1) := by
  obtain ⟨s, P, v, q, rfl, hk, hrun, hq, hR⟩ := h
  simp only [beq_iff_eq] at hc
  obtain ⟨s', hs, hR'⟩ := hR.flood C (by omega) hc
  have hlen := hR'.toRFl.len
  simp at hlen
  have hvn := (hR.ql v (by simp)).1
  have hpx := C.nbok.ent v ⟨by omega, by omega⟩ i (by omega)
  rw [Int.toNat_natCast]
  refine ⟨s', P, v, q ++ [nbN nb v i], rfl, hk, run_push hrun hs, ?_, hR'⟩
  have := hq.add (by simp; omega) nb[((i : Int) + 9 * (v : Int)).toNat]!
  have e : ((nbN nb (v : Int) i : Nat) : Int) = nb[((i : Int) + 9 * (v : Int)).toNat]! := by
    unfold nbN; have := hpx.1; omega
  simpa [castL, e] using this

theorem nbr1c_specG (C : Ctx n nb imi ind g) {ipp : Int}
    (h : GFlMid n nb ind g trace imo imd iq qs qe icl ih m k ipp 0) :
    ⦃⌜True⌝⦄ nbr1c n nb true icl ipp imo iq qe trace
    ⦃⇓ r => ⌜GFlMid n nb ind g r.2.2.2 r.1 imd r.2.1 qs r.2.2.1 icl ih m k ipp (nb[(8 + 9 * ipp).toNat]!).toNat⌝⦄ := by
  have s1 := nbCnt_val C.nbok
  have s2 := nbAt_val C.nbok
  have hip := h.facts.1
  mvcgen -trivial -leave [nbr1c, s1, s2]
  case inv1 =>
    exact ⇓⟨xs, imo', iq', qe', tr'⟩ => ⌜GFlMid n nb ind g tr' imo' imd iq' qs qe' icl ih m k ipp xs.prefix.length⌝
  all_goals clear s1 s2; vcr; vcp
  case vc8 => exact h
  all_goals try grab hQ : GFlMid
  case vc1 => exact hip
  case vc2 => exact ⟨hip, by omega⟩
  case vc3 | vc5 => exact ‹Pix n _›.idx hQ.facts.2.1
  case vc4 => exact hQ.facts.2.2
  case vc6 => exact (hQ.floodG C ‹_› ‹_›).cast (by simp)
  case vc7 => exact (hQ.keepG ‹_›).cast (by simp)
  case vc9 => exact hQ.cast (by simp [Std.Legacy.Range.toList])

/-- for all ghost data at once, as `nbr1b_specG'` -/
theorem nbr1c_specG' (C : Ctx n nb imi ind g) {ipp : Int} {trace : Array Step} {imo iq : Array Int} {qe icl : Int} :
    ⦃⌜True⌝⦄ nbr1c n nb true icl ipp imo iq qe trace
    ⦃⇓ r => ⌜∀ imd qs ih m k, GFlMid n nb ind g trace imo imd iq qs qe icl ih m k ipp 0 →
      GFlMid n nb ind g r.2.2.2 r.1 imd r.2.1 qs r.2.2.1 icl ih m k ipp (nb[(8 + 9 * ipp).toNat]!).toNat⌝⦄ :=
  (triple_val_iff _ _ _).mpr fun _ o _ _ _ _ _ hk => (triple_val_iff _ _ _).mp (nbr1c_specG C hk) trivial o

theorem GFl.facts (h : GFl n ind g trace imo imd iq qs qe icl ih m k) :
    (0 ≤ qs ∧ qs.toNat < iq.size) ∧ imo.size = n ∧ k ≤ n := by
  obtain ⟨s, P, q, hk, -, hq, -, hR⟩ := h
  have := hR.len
  exact ⟨hq.qs_ok, hR.base.so, by omega⟩

theorem GFl.empty (h : GFl n ind g trace imo imd iq qs qe icl ih m k) (he : (qs == qe) = true) :
    G1c n ind g trace imo imd iq qs qe icl ih m := by
  obtain ⟨s, P, q, hk, hrun, hq, hl, hR⟩ := h
  have hnil := hq.eq_nil (by simpa [castL] using hl) he
  have : q = [] := by simpa [castL] using hnil
  subst this
  exact ⟨s, hrun, hq, hR.done⟩

theorem GFl.pop (h : GFl n ind g trace imo imd iq qs qe icl ih m k) (he : ¬(qs == qe) = true) :
    GFlMid n nb ind g trace imo imd iq (fifoNextStart n qs) qe icl ih m (k + 1) iq[qs.toNat]! 0 := by
  obtain ⟨s, P, q, hk, hrun, hq, hl, hR⟩ := h
  obtain ⟨v, t, hvt⟩ := hq.eq_cons (by simpa [castL] using hl) he
  cases q with
  | nil => simp [castL] at hvt
  | cons a q' =>
    have hp := hq.pop
    exact ⟨s, P, a, q', hp.1, by omega, hrun, hp.2, hR.pop⟩

theorem GFlMid.closeG (C : Ctx n nb imi ind g) {ipp : Int}
    (h : GFlMid n nb ind g trace imo imd iq qs qe icl ih m k ipp (nb[(8 + 9 * ipp).toNat]!).toNat) :
    GFl n ind g (pushIf true trace (.closed ipp.toNat)) imo imd iq qs qe icl ih m k := by
  obtain ⟨s, P, v, q, rfl, hk, hrun, hq, hR⟩ := h
  obtain ⟨h1, h2⟩ := hR.close C (fun j hj => by omega)
  have hlen := hR.toRFl.len
  rw [Int.toNat_natCast]
  exact ⟨_, P ++ [v], q, by simp; omega, run_push hrun h1, hq, by simp at hlen; omega, h2⟩

theorem flood1c_specG (C : Ctx n nb imi ind g) (h : GFl n ind g trace imo imd iq qs qe icl ih m 0) :
    ⦃⌜True⌝⦄ flood1c n nb true icl imo iq qs qe trace
    ⦃⇓ r => ⌜r.2.2.2.2.2 = true ∧ G1c n ind g r.2.2.2.2.1 r.1 imd r.2.1 r.2.2.1 r.2.2.2.1 icl ih m⌝⦄ := by
  have s1 := fun (ipp : Int) (imo iq : Array Int) (qe : Int) (trace : Array Step) =>
    @nbr1c_specG' n nb imi ind g C ipp trace imo iq qe icl
  mvcgen -trivial -leave [flood1c, s1]
  case inv1 =>
    exact ⇓⟨xs, imo', iq', qs', qe', tr', brk⟩ => ⌜
      (brk = false ∧ GFl n ind g tr' imo' imd iq' qs' qe' icl ih m xs.prefix.length) ∨
      (brk = true ∧ xs.suffix = [] ∧ G1c n ind g tr' imo' imd iq' qs' qe' icl ih m)⌝
  all_goals clear s1; vcr; vcp
  all_goals try (grab hor : Or; rcases hor with ⟨hb, hQ⟩ | ⟨hb, hnil, hq'⟩ <;> try (simp at hnil; done))
  case vc1 => exact Or.inr ⟨trivial, trivial, hQ.empty ‹_›⟩
  case vc2 => exact hQ.facts.1
  case vc3 =>
    grab_all hall
    exact Or.inl ⟨hb, by simpa using (hall _ _ _ _ _ (hQ.pop ‹_›)).closeG C⟩
  case vc4 => exact Or.inl ⟨trivial, h⟩
  case vc5.post.success.inl =>
    -- the fuel `n + 2` is not used up: every iteration closes another pixel
    have := hQ.facts.2.2
    simp only [Std.Legacy.Range.toList, List.length_range', Nat.add_sub_cancel, Nat.div_one, Nat.sub_zero] at this
    omega
  case vc5.post.success.inr => exact ⟨hb, hq'⟩

/-- for all ghost data at once, as `nbr1b_specG'` -/
theorem flood1c_specG' (C : Ctx n nb imi ind g) {trace : Array Step} {imo iq : Array Int} {qs qe icl : Int} :
    ⦃⌜True⌝⦄ flood1c n nb true icl imo iq qs qe trace
    ⦃⇓ r => ⌜∀ imd ih m, GFl n ind g trace imo imd iq qs qe icl ih m 0 →
      r.2.2.2.2.2 = true ∧ G1c n ind g r.2.2.2.2.1 r.1 imd r.2.1 r.2.2.1 r.2.2.2.1 icl ih m⌝⦄ :=
  (triple_val_iff _ _ _).mpr fun _ o _ _ _ h => (triple_val_iff _ _ _).mp (flood1c_specG C h) trivial o

theorem G1c.facts (h : G1c n ind g trace imo imd iq qs qe icl ih m) :
    (0 ≤ qe ∧ qe.toNat < iq.size) ∧ imo.size = n ∧ imd.size = n := by
  obtain ⟨s, -, hq, hR⟩ := h
  have := hq.qe_range
  exact ⟨by omega, hR.base.so, hR.sd⟩

theorem G1c.exit_ne (C : Ctx n nb imi ind g) (h : G1c n ind g trace imo imd iq qs qe icl ih m) (hP : Pos n ind g ih m)
    (hl : (imi[(ind[m.toNat]!).toNat]! != (ih : Int)) = true) :
    G1cEnd n ind g trace imo imd iq qs qe icl ih m := by
  obtain ⟨s, hrun, hq, hR⟩ := h
  have hl' : g.level (ind[m.toNat]!).toNat ≠ ih := fun e => (hP.lev_eq C).mpr e hl
  exact ⟨s, m, hrun, hq, hR, fun k hk hlk => hP.exit_ne C hl' hk hlk, hP.next_ne C hl'⟩

theorem G1c.skipG (C : Ctx n nb imi ind g) (h : G1c n ind g trace imo imd iq qs qe icl ih m) (hP : Pos n ind g ih m)
    (hl : ¬(imi[(ind[m.toNat]!).toNat]! != (ih : Int)) = true)
    (hc : ¬(imo[(ind[m.toNat]!).toNat]! == -2) = true) :
    G1c n ind g trace imo (imd.set! (ind[m.toNat]!).toNat 0) iq qs qe icl ih (m + 1) := by
  obtain ⟨s, hrun, hq, hR⟩ := h
  have hpl := hP.pix C
  have hR' := hR.setd hpl.1
  have hd : (imd.set! (ind[m.toNat]!).toNat 0)[(ind[m.toNat]!).toNat]! = 0 := by
    rw [get_setP _ _ _ _ (by rw [hR.sd]; exact hpl.1), if_pos rfl]
  refine ⟨s, hrun, hq, { hR' with lc := hR'.lc.next hP.m0 hd ?_ }⟩
  rcases hR.lc.lvl _ hpl.1 ((hP.lev_eq C).mp hl) with h1 | h1
  · simp [h1.1] at hc
  · exact h1.1

theorem G1c.seedG (C : Ctx n nb imi ind g) (h : G1c n ind g trace imo imd iq qs qe icl ih m) (hn : 2 ≤ n)
    (hP : Pos n ind g ih m) (hc : (imo[(ind[m.toNat]!).toNat]! == -2) = true) :
    GFl n ind g (pushIf true trace (.seed (ind[m.toNat]!).toNat (icl + 1).toNat)) (imo.set! (ind[m.toNat]!).toNat (icl + 1))
      (imd.set! (ind[m.toNat]!).toNat 0) (iq.set! qe.toNat ind[m.toNat]!) qs (fifoNextEnd n qe) (icl + 1) ih (m + 1) 0 := by
  obtain ⟨s, hrun, hq, hR⟩ := h
  have hpl := hP.pix C
  have hR' := hR.setd hpl.1
  have hd : (imd.set! (ind[m.toNat]!).toNat 0)[(ind[m.toNat]!).toNat]! = 0 := by
    rw [get_setP _ _ _ _ (by rw [hR.sd]; exact hpl.1), if_pos rfl]
  obtain ⟨s', hs, hF⟩ := hR'.seed C hP.m0 hP.m1 hd (by simpa using hc)
  refine ⟨s', [], _, rfl, run_push hrun hs, ?_, by simpa using hn, hF⟩
  have := hq.add (by simp; omega) ind[m.toNat]!
  simpa [castL, Int.toNat_of_nonneg hpl.2] using this

theorem G1c.lastG (h : G1c n ind g trace imo imd iq qs qe icl ih (m + 1)) (hP : Pos n ind g ih m) (hm : m > (n : Int) - 2) :
    G1cEnd n ind g trace imo imd iq qs qe icl ih m := by
  obtain ⟨s, hrun, hq, hR⟩ := h
  exact ⟨s, m + 1, hrun, hq, hR, fun k hk _ => by omega, hP.next_last hm⟩

theorem step1c_specG (C : Ctx n nb imi ind g) (ihN : Nat) {imo imd iq : Array Int} {qs qe icl m : Int}
    (trace : Array Step) (hn : 2 ≤ n) (hP : Pos n ind g ihN m) (h : G1c n ind g trace imo imd iq qs qe icl ihN m) :
    ⦃⌜True⌝⦄ step1c n nb imi ind (ihN : Int) true imo imd iq qs qe icl m trace
    ⦃⇓ r => ⌜G1cEnd n ind g r.2.2.2.2.2.2.2.1 r.1 r.2.1 r.2.2.1 r.2.2.2.1 r.2.2.2.2.1 r.2.2.2.2.2.1 ihN r.2.2.2.2.2.2.1⌝⦄ := by
  have s1 := indAt_val C.indok
  have s2 := fun (icl : Int) (imo iq : Array Int) (qs qe : Int) (trace : Array Step) =>
    @flood1c_specG' n nb imi ind g C trace imo iq qs qe icl
  mvcgen -trivial -leave [step1c, s1, s2]
  case inv1 =>
    exact ⇓⟨xs, imo', imd', iq', qs', qe', icl', m', tr', fo, brk⟩ => ⌜
      (brk = false ∧ m' = m + xs.prefix.length ∧ Pos n ind g ihN m' ∧ G1c n ind g tr' imo' imd' iq' qs' qe' icl' ihN m') ∨
      (brk = true ∧ xs.suffix = [] ∧ G1cEnd n ind g tr' imo' imd' iq' qs' qe' icl' ihN m')⌝
  all_goals clear s1 s2; vcr; vcp
  all_goals try (grab hor : Or; rcases hor with ⟨hb, hm, hP', hQ⟩ | ⟨hb, hnil, hQ⟩ <;> try (simp at hnil; done))
  case vc1 => exact ⟨hP'.m0, hP'.m1⟩
  case vc2 => exact ‹Pix n _›.idx C.isz
  case vc3 => exact Or.inr ⟨trivial, trivial, hQ.exit_ne C hP' ‹_›⟩
  case vc4 => exact ‹Pix n _›.idx hQ.facts.2.2
  case vc5 | vc7 => exact ‹Pix n _›.idx hQ.facts.2.1
  case vc6 => exact hQ.facts.1
  case vc8 | vc9 =>
    -- the flood of the new seed never runs out of fuel
    grab_all hall
    have h3 := hall _ _ _ (hQ.seedG C hn hP' ‹_›)
    have h4 := ‹(!_) = true›
    simp [h3.1] at h4
  case vc10 =>
    grab_all hall
    exact Or.inr ⟨trivial, trivial, (hall _ _ _ (hQ.seedG C hn hP' ‹_›)).2.lastG hP' ‹_›⟩
  case vc11 =>
    grab_all hall
    exact Or.inl ⟨hb, by simp; omega, hP'.step C ((hP'.lev_eq C).mp ‹_›) ‹_›, (hall _ _ _ (hQ.seedG C hn hP' ‹_›)).2⟩
  case vc12 => exact Or.inr ⟨trivial, trivial, (hQ.skipG C hP' ‹_› ‹_›).lastG hP' ‹_›⟩
  case vc13 => exact Or.inl ⟨hb, by simp; omega, hP'.step C ((hP'.lev_eq C).mp ‹_›) ‹_›, hQ.skipG C hP' ‹_› ‹_›⟩
  case vc14 => exact Or.inl ⟨trivial, by simp, hP, h⟩
  case vc15.post.success.isTrue.inl | vc16.post.success.isFalse.inl =>
    -- the fuel `n + 1` is not used up: the cursor stays below `n`
    have := hP.m0; have := hP'.m1
    simp only [Std.Legacy.Range.toList, List.length_range', Nat.add_sub_cancel, Nat.div_one, Nat.sub_zero] at hm; omega
  case vc15.post.success.isTrue.inr | vc16.post.success.isFalse.inr => exact hQ
end

end WS.Fld
