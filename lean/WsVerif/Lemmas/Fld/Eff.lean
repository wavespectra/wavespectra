import WsVerif.Lemmas.Fld.Base
import WsVerif.Model.Flood
/-! The label effect of a ghost trace (`effRun`): what the abstract flooding machine does to `lab`, `K`, `snap` when
every guard holds (`run_eff`), the relation `TR` "label effect of the trace so far = concrete `imo`", and `Ghost`, the form
in which the triples of the loops (`Fld/S1a` … `Fld/Part`) carry `TR` next to their safety invariants. -/
namespace WS.Fld
open Std.Do WS.SP WS.Flood
set_option mvcgen.warning false

/-! ### a queue grows at its end -/

theorem nodup_concat {α} {l : List α} {y : α} (h : l.Nodup) (hy : y ∉ l) : (l ++ [y]).Nodup :=
  List.nodup_append.mpr ⟨h, List.pairwise_singleton _ _, fun _ ha _ hb e => hy (List.mem_singleton.mp hb ▸ e ▸ ha)⟩

theorem forall_mem_concat {α} {p : α → Prop} {l : List α} {y : α} (h : ∀ x ∈ l, p x) (hy : p y) : ∀ x ∈ l ++ [y], p x :=
  List.forall_mem_append.mpr ⟨h, fun _ hx => List.mem_singleton.mp hx ▸ hy⟩

/-! ### the label effect of a ghost trace -/

/-- abstract label of a concrete `imo` value: `-1 ↦ init`, `-2 ↦ mask`, `0 ↦ wshed`, `k ↦ basin k` -/
def labC (v : Int) : Lab :=
  if v = -1 then .init else if v = -2 then .mask else if v = 0 then .wshed else .basin v.toNat

/-- `(lab, K, snap)`: the part of the abstract state that carries labels -/
abbrev LState := Array Lab × Nat × Array Lab

/-- effect of a step on the labels, guards ignored (what `Flood.step` does to `lab`, `K`, `snap` when the guard holds) -/
def effStep (s : LState) : Step → LState
  | .mark p => (s.1.setIfInBounds p .mask, s.2.1, s.2.2)
  | .inherit p q => (s.1.setIfInBounds p (s.1.getD q .init), s.2.1, s.2.2)
  | .conflict p => (s.1.setIfInBounds p .wshed, s.2.1, s.2.2)
  | .seed p k => (s.1.setIfInBounds p (.basin k), k, s.2.2)
  | .flood p _ => (s.1.setIfInBounds p (.basin s.2.1), s.2.1, s.2.2)
  | .sweep => (s.1, s.2.1, s.1)
  | .resolve p q => (s.1.setIfInBounds p (s.2.2.getD q .init), s.2.1, s.2.2)
  | _ => s

/-- label effect of a whole trace from the initial state of `n` pixels -/
def effRun (n : Nat) (t : List Step) : LState := t.foldl effStep (Array.replicate n .init, 0, #[])

theorem effRun_push (n : Nat) (t : Array Step) (e : Step) :
    effRun n (t.push e).toList = effStep (effRun n t.toList) e := by
  simp [effRun, List.foldl_append]

theorem step_eff {g : Graph} {s s' : St} {e : Step} (h : step g s e = some s') :
    (s'.lab, s'.K, s'.snap) = effStep (s.lab, s.K, s.snap) e := by
  cases e <;> simp only [step] at h <;> split at h <;> simp at h <;> subst h <;> simp [effStep, St.labOf, St.snapOf]

theorem runFrom_eff {g : Graph} (t : List Step) : ∀ {s s' : St}, runFrom g s t = some s' →
    (s'.lab, s'.K, s'.snap) = t.foldl effStep (s.lab, s.K, s.snap) := by
  induction t with
  | nil => intro s s' h; simp [runFrom] at h; subst h; rfl
  | cons e t ih =>
    intro s s' h
    simp only [runFrom] at h
    split at h
    · next s1 h1 => rw [List.foldl_cons, ← step_eff h1]; exact ih h
    · simp at h

/-- on a valid trace the abstract machine's labels are the label effect of the trace -/
theorem run_eff {g : Graph} {t : List Step} {s : St} (h : run g t = some s) :
    (s.lab, s.K, s.snap) = effRun g.n t := by
  have := runFrom_eff t h
  simpa [effRun, St.init] using this

theorem map_set (a : Array Int) (i : Nat) (v : Int) :
    (a.set! i v).map labC = (a.map labC).setIfInBounds i (labC v) := by
  simp [Array.set!]

theorem getD_map (a : Array Int) (q : Nat) (h : q < a.size) : (a.map labC).getD q .init = labC a[q]! := by
  simp [Array.getD, h]

/-- the label effect of the trace so far is the concrete label array (and `K` the label counter) -/
def TR (n : Nat) (trace : Array Step) (imo : Array Int) (icl : Int) : Prop :=
  0 ≤ icl ∧ (effRun n trace.toList).1 = imo.map labC ∧ (effRun n trace.toList).2.1 = icl.toNat

/-- inside a sweep of step 2: working copy `imd` is the abstract `lab`, the snapshot `imo` is the abstract `snap` -/
def TR2 (n : Nat) (trace : Array Step) (imo imd : Array Int) (icl : Int) : Prop :=
  0 ≤ icl ∧ (effRun n trace.toList).1 = imd.map labC ∧ (effRun n trace.toList).2.1 = icl.toNat ∧
    (effRun n trace.toList).2.2 = imo.map labC

section
variable {n : Nat} {t : Array Step} {imo imd : Array Int} {icl : Int}

theorem TR.init (n : Nat) : TR n #[] (Array.replicate n (-1)) 0 := by
  refine ⟨by omega, ?_, rfl⟩
  simp [effRun, labC]

theorem TR.mark (h : TR n t imo icl) (p : Nat) :
    TR n (pushIf true t (.mark p)) (imo.set! p (-2)) icl := by
  obtain ⟨h0, h1, h2⟩ := h
  simp only [pushIf, if_true]
  rw [TR, effRun_push]
  exact ⟨h0, by simp [effStep, h1, labC], by simpa [effStep] using h2⟩

theorem TR.relabel (h : TR n t imo icl) {c l v : Int} {inh : Bool} (hr : WS.SP.relabel c l = some (v, inh))
    (p q : Nat) (hq : q < imo.size) (hl : l = imo[q]!) :
    TR n (pushIf true t (if inh then .inherit p q else .conflict p)) (imo.set! p v) icl := by
  obtain ⟨h0, h1, h2⟩ := h
  have hv : (inh = true ∧ v = l) ∨ (inh = false ∧ v = 0) := by
    unfold WS.SP.relabel at hr
    split at hr
    · split at hr
      · simp at hr; exact Or.inl ⟨hr.2, hr.1.symm⟩
      · split at hr
        · simp at hr; exact Or.inr ⟨hr.2, hr.1.symm⟩
        · simp at hr
    · split at hr
      · simp at hr; exact Or.inr ⟨hr.2, hr.1.symm⟩
      · simp at hr
  simp only [pushIf, if_true]
  rw [TR, effRun_push]
  rcases hv with ⟨rfl, rfl⟩ | ⟨rfl, rfl⟩
  · refine ⟨h0, ?_, by simpa [effStep] using h2⟩
    simp only [effStep, if_true, h1, map_set, getD_map _ _ hq, hl]
  · refine ⟨h0, ?_, by simpa [effStep] using h2⟩
    simp [effStep, h1, labC]

theorem labC_pos {v : Int} (h : 1 ≤ v) : labC v = .basin v.toNat := by
  unfold labC
  rw [if_neg (by omega), if_neg (by omega), if_neg (by omega)]

theorem TR.seed (h : TR n t imo icl) (p : Nat) :
    TR n (pushIf true t (.seed p (icl + 1).toNat)) (imo.set! p (icl + 1)) (icl + 1) := by
  obtain ⟨h0, h1, h2⟩ := h
  simp only [pushIf, if_true]
  rw [TR, effRun_push]
  exact ⟨by omega, by simp [effStep, h1, labC_pos (show 1 ≤ icl + 1 by omega)], by simp [effStep]⟩

theorem TR.flood (h : TR n t imo icl) (hi : 1 ≤ icl) (p q : Nat) :
    TR n (pushIf true t (.flood p q)) (imo.set! p icl) icl := by
  obtain ⟨h0, h1, h2⟩ := h
  simp only [pushIf, if_true]
  rw [TR, effRun_push]
  exact ⟨h0, by simp [effStep, h1, h2, labC_pos hi], by simpa [effStep] using h2⟩

/-- steps without label effect -/
def Step.quiet : Step → Bool
  | .level _ | .finalize _ | .endqueue | .closed _ | .endlevel => true
  | _ => false

theorem TR.quiet (h : TR n t imo icl) (e : Step) (he : Step.quiet e = true) : TR n (pushIf true t e) imo icl := by
  simp only [pushIf, if_true]
  rw [TR, effRun_push]
  cases e <;> simp [Step.quiet] at he <;> exact h

theorem TR2.sweep (h : TR n t imo icl) : TR2 n (pushIf true t .sweep) imo imo icl := by
  obtain ⟨h0, h1, h2⟩ := h
  simp only [pushIf, if_true]
  rw [TR2, effRun_push]
  exact ⟨h0, by simpa [effStep] using h1, by simpa [effStep] using h2, by simpa [effStep] using h1⟩

theorem TR2.resolve (h : TR2 n t imo imd icl) (p q : Nat) (hq : q < imo.size) :
    TR2 n (pushIf true t (.resolve p q)) imo (imd.set! p imo[q]!) icl := by
  obtain ⟨h0, h1, h2, h3⟩ := h
  simp only [pushIf, if_true]
  rw [TR2, effRun_push]
  refine ⟨h0, ?_, by simpa [effStep] using h2, by simpa [effStep] using h3⟩
  simp only [effStep, h1, h3, map_set, getD_map _ _ hq]

theorem TR2.done (h : TR2 n t imo imd icl) : TR n t imd icl := ⟨h.1, h.2.1, h.2.2.1⟩
end

/-- A fact `P` about the ghost trace, as the triples of the loops carry it: the loops are specified for runs with and
    without trace and from any state, so `P` is claimed only if the trace is recorded and the assumption `E` about the
    state at entry holds (`E := False` where nothing is known about the trace handed in, `E := True` for a run from
    the initial state). -/
def Ghost (tr : Bool) (E P : Prop) : Prop := tr = true → E → P

section
variable {tr : Bool} {E P : Prop}

theorem Ghost.vacuous : Ghost tr False P := fun _ h => h.elim

theorem Ghost.intro (h : P) : Ghost tr E P := fun _ _ => h

theorem Ghost.of_true (h : Ghost true True P) : P := h rfl trivial

theorem Ghost.and {Q : Prop} (h : Ghost tr E P) (h' : Ghost tr E Q) : Ghost tr E (P ∧ Q) := fun ht he => ⟨h ht he, h' ht he⟩

theorem Ghost.map {Q : Prop} (h : Ghost tr E P) (f : P → Q) : Ghost tr E Q := fun ht he => f (h ht he)

variable {n : Nat} {t : Array Step} {e : Step} {imo imd : Array Int} {icl : Int}

/-- across a `pushIf tr`: it is enough to follow a trace that is recorded -/
theorem Ghost.step (h : Ghost tr E P) (f : P → TR n (pushIf true t e) imo icl) :
    Ghost tr E (TR n (pushIf tr t e) imo icl) := fun ht he => ht ▸ f (h ht he)

theorem Ghost.step2 (h : Ghost tr E P) (f : P → TR2 n (pushIf true t e) imo imd icl) :
    Ghost tr E (TR2 n (pushIf tr t e) imo imd icl) := fun ht he => ht ▸ f (h ht he)
end

end WS.Fld
