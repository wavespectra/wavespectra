import WsVerif.Lemmas.Fld.Eff
/-! Step 1a of `pt_fld` (marking loop): invariants and Hoare triple. -/
namespace WS.Fld
open Std.Do WS.SP
set_option mvcgen.warning false
attribute [local spec high] rd_pre wr_pre

/-- the pixels waiting in the queue during 1a/1b: distinct, valid, still `MASK`, with a distance -/
structure PixQ (n : Nat) (imo imd : Array Int) (l : List Int) : Prop where
  nodup : l.Nodup
  pix : ∀ x ∈ l, Pix n x
  mask : ∀ x ∈ l, imo[x.toNat]! = -2
  dist : ∀ x ∈ l, imd[x.toNat]! ≠ 0

theorem PixQ.nil (n : Nat) (imo imd : Array Int) : PixQ n imo imd [] :=
  ⟨List.nodup_nil, by simp, by simp, by simp⟩

/-- queue state of step 1a at position `m`: entries are pixels `ind[k]`, `msave ≤ k < m`, and one slot is spare -/
def Q1a (n : Nat) (ind : Array Int) (msave m : Int) (imo imd iq : Array Int) (qs qe : Int) : Prop :=
  ∃ q, QRep n iq qs qe q ∧ PixQ n imo imd q ∧ q.length + 1 ≤ n ∧
    ∀ x ∈ q, ∃ k : Nat, msave ≤ (k : Int) ∧ (k : Int) < m ∧ x = ind[k]!

theorem Q1a.qe_ok {n ind msave m imo imd iq qs qe} (h : Q1a n ind msave m imo imd iq qs qe) :
    0 ≤ qe ∧ qe.toNat < iq.size := by
  obtain ⟨q, hq, -⟩ := h
  have := hq.qe_range; omega

section
variable {n : Nat} {ind imo imd iq : Array Int} {msave m qs qe : Int}

theorem Q1a.mono {m' : Int} (h : Q1a n ind msave m imo imd iq qs qe) (hle : m ≤ m') :
    Q1a n ind msave m' imo imd iq qs qe := by
  obtain ⟨q, a, b, c, d⟩ := h
  refine ⟨q, a, b, c, fun x hx => ?_⟩
  obtain ⟨k, e, f, g⟩ := d x hx
  exact ⟨k, e, by omega, g⟩

theorem Q1a.init (hq : QRep n iq qs qe []) : Q1a n ind m m imo imd iq qs qe :=
  ⟨[], hq, PixQ.nil _ _ _, by have := hq.npos; simp; omega, by simp⟩

/-- the pixel about to be marked is not in the queue -/
theorem Q1a.fresh (hind : IndOK n ind) (h0 : 0 ≤ msave) (h1 : msave ≤ m) (h2 : m < n)
    {q : List Int} (hk : ∀ x ∈ q, ∃ k : Nat, msave ≤ (k : Int) ∧ (k : Int) < m ∧ x = ind[k]!) :
    ind[m.toNat]! ∉ q := by
  intro hmem
  obtain ⟨k, hk0, hk1, hke⟩ := hk _ hmem
  have := hind.inj m.toNat k (by omega) (by omega) hke
  omega

/-- 1a, pixel not queued: mark `ind[m]` -/
theorem Q1a.mark (hind : IndOK n ind) (h2 : m < n) (hs : imo.size = n)
    (h : Q1a n ind msave m imo imd iq qs qe) :
    Q1a n ind msave (m + 1) (imo.set! (ind[m.toNat]!).toNat (-2)) imd iq qs qe := by
  obtain ⟨q, hq, hp, hl, hk⟩ := h
  have hpx := hind.rng m.toNat (by omega)
  refine ⟨q, hq, ⟨hp.nodup, hp.pix, ?_, hp.dist⟩, hl, ?_⟩
  · intro x hx
    have := hp.pix x hx
    rw [get_setI _ hpx.1 this.1 (by have := hpx.2; omega)]
    split
    · rfl
    · exact hp.mask x hx
  · intro x hx
    obtain ⟨k, a, b, c⟩ := hk x hx
    exact ⟨k, a, by omega, c⟩

/-- 1a, pixel queued: mark `ind[m]`, set its distance, append it -/
theorem Q1a.add (hind : IndOK n ind) (h0 : 0 ≤ msave) (h1 : msave ≤ m) (h2 : m < n) (hs : imo.size = n)
    (hd : imd.size = n) (h : Q1a n ind msave m imo imd iq qs qe)
    (hw : ∃ w : Int, Pix n w ∧ 0 ≤ (imo.set! (ind[m.toNat]!).toNat (-2))[w.toNat]!) :
    Q1a n ind msave (m + 1) (imo.set! (ind[m.toNat]!).toNat (-2)) (imd.set! (ind[m.toNat]!).toNat 1)
      (iq.set! qe.toNat ind[m.toNat]!) qs (fifoNextEnd n qe) := by
  have hfresh := fun q hk => Q1a.fresh (q := q) hind h0 h1 h2 hk
  obtain ⟨q, hq, hp, hl, hk⟩ := h
  have hfresh := hfresh q hk
  have hpx := hind.rng m.toNat (by omega)
  generalize hip : ind[m.toNat]! = ip at *
  obtain ⟨w, hw, hwl⟩ := hw
  have hipn : ip.toNat < imo.size := by have := hpx.2; omega
  have hmask : ∀ x ∈ q, (imo.set! ip.toNat (-2))[x.toNat]! = -2 := by
    intro x hx
    rw [get_setI _ hpx.1 (hp.pix x hx).1 hipn]
    split
    · rfl
    · exact hp.mask x hx
  have hwq : w ∉ q := fun hx => by have := hmask w hx; omega
  have hwip : w ≠ ip := by
    intro he; subst he
    rw [get_setI _ hpx.1 hpx.1 hipn, if_pos rfl] at hwl; omega
  -- the queue, the marked pixel and its labelled neighbour are distinct pixels: the queue has room for one more
  have hlen := pigeon n ((q ++ [ip]) ++ [w]) (nodup_concat (nodup_concat hp.nodup hfresh) (by simp [hwq, hwip]))
    (forall_mem_concat (forall_mem_concat hp.pix hpx) hw)
  simp at hlen
  refine ⟨q ++ [ip], hq.add (by omega) ip, ⟨nodup_concat hp.nodup hfresh, forall_mem_concat hp.pix hpx,
    forall_mem_concat hmask ?_, forall_mem_concat (fun x hx => ?_) ?_⟩, by simp; omega,
    forall_mem_concat (fun x hx => ?_) ⟨m.toNat, by omega, by omega, hip.symm⟩⟩
  · rw [get_setI _ hpx.1 hpx.1 hipn, if_pos rfl]
  · rw [get_setI _ hpx.1 (hp.pix x hx).1 (by have := hpx.2; omega)]
    split
    · omega
    · exact hp.dist x hx
  · rw [get_setI _ hpx.1 hpx.1 (by have := hpx.2; omega), if_pos rfl]; omega
  · obtain ⟨k, a, b, c⟩ := hk x hx
    exact ⟨k, a, by omega, c⟩
end

/-- queue state handed from 1a to 1b: pixel entries only, one slot spare for the fictitious pixel -/
def Post1a (n : Nat) (imo imd iq : Array Int) (qs qe : Int) : Prop :=
  imo.size = n ∧ imd.size = n ∧ ∃ q, QRep n iq qs qe q ∧ PixQ n imo imd q ∧ q.length + 1 ≤ n

theorem Q1a.post {n ind msave m imo imd iq qs qe} (h : Q1a n ind msave m imo imd iq qs qe)
    (hs : imo.size = n) (hd : imd.size = n) : Post1a n imo imd iq qs qe := by
  obtain ⟨q, a, b, c, -⟩ := h
  exact ⟨hs, hd, q, a, b, c⟩

theorem step1a_spec {n : Nat} {nb imi ind : Array Int} {E : Prop} (hnb : NbOK n nb) (hind : IndOK n ind)
    (hi : imi.size = n) (icl qs ih : Int) (tr : Bool) (imo imd iq : Array Int) (qe m : Int) (trace : Array Flood.Step) :
    ⦃fun o => ⌜o = false ∧ Ghost tr E (TR n trace imo icl) ∧ imo.size = n ∧ imd.size = n ∧ QRep n iq qs qe [] ∧
      0 ≤ m ∧ m < n⌝⦄
    step1a n nb imi ind ih tr imo imd iq qe m trace
    ⦃⇓ r o => ⌜o = false ∧ Ghost tr E (TR n r.2.2.2.2.2.1 r.1 icl) ∧ r.2.2.2.2.2.2 = true ∧
      Post1a n r.1 r.2.1 r.2.2.1 qs r.2.2.2.1⌝⦄ := by
  refine triple_pre ?_
  rintro ⟨hT, hs, hd, hq, hm0, hm1⟩
  have s1 := indAt_pre hind
  have s2 := scan1a_pre hnb
  mvcgen -trivial -leave [step1a, s1, s2, fifoAdd_pre]
  case inv1 =>
    exact ⇓⟨xs, imo', imd', iq', qe', m', tr', brk⟩ o => ⌜o = false ∧ Ghost tr E (TR n tr' imo' icl) ∧ imo'.size = n ∧
      imd'.size = n ∧ 0 ≤ m' ∧ m' < n ∧
      ((brk = false ∧ m' = m + xs.prefix.length ∧ Q1a n ind m m' imo' imd' iq' qs qe') ∨
       (brk = true ∧ xs.suffix = [] ∧ Q1a n ind m (m' + 1) imo' imd' iq' qs qe'))⌝
  all_goals clear s1 s2; vcr; vcp
  -- inside the loop the suffix is not empty: the invariant is its first alternative
  all_goals try (grab hor : Or; rcases hor with ⟨hb, hm, hQ⟩ | ⟨hb, hnil, hQ⟩ <;> try (simp at hnil; done))
  case vc1 => exact ⟨rfl, by assumption, by assumption⟩
  case vc2 => exact ⟨rfl, ‹Pix _ _›.idx rfl⟩
  case vc3 => exact ⟨rfl, ‹Ghost ..›, ‹_›, ‹_›, ‹_›, ‹_›, Or.inr ⟨trivial, trivial, hQ.mono (by omega)⟩⟩
  case vc4 | vc6 => exact ⟨rfl, ‹Pix _ _›.idx ‹_›⟩
  case vc5 => exact ⟨rfl, (size_set ..).trans ‹_›, ‹_›⟩
  case vc7 => exact ⟨rfl, hQ.qe_ok⟩
  case vc8 =>
    grab hT' : Ghost
    exact ⟨rfl, hT'.step (·.mark _), (size_set ..).trans ‹_›, (size_set ..).trans ‹_›, ‹_›, ‹_›, Or.inr ⟨trivial, trivial,
      hQ.add hind hm0 (by omega) ‹_› ‹_› ‹_› (‹true = true → _› rfl)⟩⟩
  case vc9 =>
    grab hT' : Ghost
    exact ⟨rfl, hT'.step (·.mark _), (size_set ..).trans ‹_›, (size_set ..).trans ‹_›, by omega, by omega,
      Or.inl ⟨hb, by simp; omega, hQ.add hind hm0 (by omega) ‹_› ‹_› ‹_› (‹true = true → _› rfl)⟩⟩
  case vc10 =>
    grab hT' : Ghost
    exact ⟨rfl, hT'.step (·.mark _), (size_set ..).trans ‹_›, ‹_›, ‹_›, ‹_›, Or.inr ⟨trivial, trivial,
      hQ.mark hind ‹_› ‹_›⟩⟩
  case vc11 =>
    grab hT' : Ghost
    exact ⟨rfl, hT'.step (·.mark _), (size_set ..).trans ‹_›, ‹_›, by omega, by omega,
      Or.inl ⟨hb, by simp; omega, hQ.mark hind ‹_› ‹_›⟩⟩
  case vc12 => exact ⟨rfl, hT, hs, hd, hm0, hm1, Or.inl ⟨trivial, by simp, Q1a.init hq⟩⟩
  case vc13.post.success.inl =>
    -- the fuel `n + 1` is not used up: the cursor stays below `n`
    simp [Std.Legacy.Range.toList] at hm; omega
  case vc13.post.success.inr => exact ⟨rfl, ‹Ghost ..›, hb, hQ.post ‹_› ‹_›⟩

end WS.Fld
