import WsVerif.Lemmas.Fld.S1a
/-! Step 1b of `pt_fld` (propagation in geodesic-distance order through the circular FIFO): invariants and Hoare triples. -/
namespace WS.Fld
open Std.Do WS.SP
set_option mvcgen.warning false
attribute [local spec high] rd_pre wr_pre

/-- geodesic propagation: `D` = pixels already dequeued at this level, `A`, `B` = pixels waiting before / after the
    fictitious pixel; all distinct, all with a distance, the waiting ones still `MASK` -/
structure QB (n : Nat) (imo imd : Array Int) (D A B : List Int) : Prop where
  nodup : (D ++ (A ++ B)).Nodup
  pix : ∀ x ∈ D ++ (A ++ B), Pix n x
  dist : ∀ x ∈ D ++ (A ++ B), imd[x.toNat]! ≠ 0
  mask : ∀ x ∈ A ++ B, imo[x.toNat]! = -2

theorem QB.len {n : Nat} {imo imd : Array Int} {D A B : List Int} (h : QB n imo imd D A B) :
    D.length + A.length + B.length ≤ n := by
  have := pigeon n _ h.nodup h.pix
  simp at this; omega

/-- loop head of 1b after `k` dequeued pixels: the queue is `A ++ fict :: B` -/
def Q1b (n : Nat) (imo imd iq : Array Int) (qs qe : Int) (k : Nat) : Prop :=
  ∃ D A B, D.length = k ∧ QRep n iq qs qe (A ++ (-100) :: B) ∧ QB n imo imd D A B

/-- inside an iteration of 1b: pixel `ip` has just been dequeued -/
def Q1bMid (n : Nat) (imo imd iq : Array Int) (qs qe : Int) (k : Nat) (ip : Int) : Prop :=
  ∃ D A B, D.length = k ∧ ip ∈ D ∧ QRep n iq qs qe (A ++ (-100) :: B) ∧ QB n imo imd D A B

section
variable {n : Nat} {imo imd iq : Array Int} {qs qe ip : Int} {k : Nat}

theorem Q1bMid.toQ1b (h : Q1bMid n imo imd iq qs qe k ip) : Q1b n imo imd iq qs qe k := by
  obtain ⟨D, A, B, a, -, b, c⟩ := h; exact ⟨D, A, B, a, b, c⟩

theorem Q1b.len (h : Q1b n imo imd iq qs qe k) : k ≤ n := by
  obtain ⟨D, A, B, a, -, c⟩ := h; have := c.len; omega

theorem Q1b.qs_ok (h : Q1b n imo imd iq qs qe k) : 0 ≤ qs ∧ qs.toNat < iq.size := by
  obtain ⟨D, A, B, -, b, -⟩ := h; exact b.qs_ok

theorem Q1bMid.qe_ok (h : Q1bMid n imo imd iq qs qe k ip) : 0 ≤ qe ∧ qe.toNat < iq.size := by
  obtain ⟨D, A, B, -, -, b, -⟩ := h; have := b.qe_range; omega

theorem Q1bMid.ip_pix (h : Q1bMid n imo imd iq qs qe k ip) : Pix n ip := by
  obtain ⟨D, A, B, -, hm, -, c⟩ := h; exact c.pix ip (by simp [hm])

/-- 1a → 1b: append the fictitious pixel to the pixels queued by 1a -/
theorem Q1b.init (h : Post1a n imo imd iq qs qe) :
    (0 ≤ qe ∧ qe.toNat < iq.size) ∧ Q1b n imo imd (iq.set! qe.toNat (-100)) qs (fifoNextEnd n qe) 0 := by
  obtain ⟨-, -, q, hq, hp, hl⟩ := h
  refine ⟨by have := hq.qe_range; omega, [], q, [], rfl, hq.add (by omega) _, ?_⟩
  exact ⟨by simpa using hp.nodup, by simpa using hp.pix, by simpa using hp.dist, by simpa using hp.mask⟩

/-- the head of the queue is a pixel: dequeue it -/
theorem Q1b.pop_pix (h : Q1b n imo imd iq qs qe k) (hne : ¬(iq[qs.toNat]! == -100) = true) :
    Q1bMid n imo imd iq (fifoNextStart n qs) qe (k + 1) iq[qs.toNat]! := by
  obtain ⟨D, A, B, hk, hq, hb⟩ := h
  have hne : iq[qs.toNat]! ≠ -100 := by simpa using hne
  cases A with
  | nil => exact absurd hq.pop.1 hne
  | cons a A =>
    have hp := hq.pop
    rw [hp.1]
    refine ⟨D ++ [a], A, B, by simp [hk], by simp, hp.2, ?_⟩
    have e : (D ++ [a]) ++ (A ++ B) = D ++ (a :: A ++ B) := by simp
    refine ⟨by rw [e]; exact hb.nodup, by rw [e]; exact hb.pix, by rw [e]; exact hb.dist, ?_⟩
    intro x hx; exact hb.mask x (by simp at hx ⊢; exact Or.inr hx)

theorem Q1b.head_fict (h : Q1b n imo imd iq qs qe k) (he : (iq[qs.toNat]! == -100) = true) :
    ∃ D B, D.length = k ∧ QRep n iq qs qe ((-100) :: B) ∧ QB n imo imd D [] B := by
  obtain ⟨D, A, B, hk, hq, hb⟩ := h
  have he : iq[qs.toNat]! = -100 := by simpa using he
  cases A with
  | nil => exact ⟨D, B, hk, hq, hb⟩
  | cons a A =>
    have := hq.pop.1
    have := (hb.pix a (by simp)).1
    omega

/-- the head is the fictitious pixel and nothing is behind it: the level's propagation is finished -/
theorem Q1b.pop_fict_done (h : Q1b n imo imd iq qs qe k) (he : (iq[qs.toNat]! == -100) = true)
    (hq : (fifoNextStart n qs == qe) = true) : QRep n iq (fifoNextStart n qs) qe [] := by
  obtain ⟨D, B, hk, hq', hb⟩ := h.head_fict he
  have hp := hq'.pop.2
  have hl := hq'.len
  simp at hl
  have := hp.eq_nil (by omega) hq
  subst this; exact hp

/-- the head is the fictitious pixel and pixels follow: re-append it, advance the distance, dequeue the next pixel -/
theorem Q1b.pop_fict_more (h : Q1b n imo imd iq qs qe k) (he : (iq[qs.toNat]! == -100) = true)
    (hq : ¬(fifoNextStart n qs == qe) = true) :
    (0 ≤ qe ∧ qe.toNat < iq.size) ∧
    (0 ≤ fifoNextStart n qs ∧ (fifoNextStart n qs).toNat < (iq.set! qe.toNat (-100)).size) ∧
    Q1bMid n imo imd (iq.set! qe.toNat (-100)) (fifoNextStart n (fifoNextStart n qs)) (fifoNextEnd n qe) (k + 1)
      (iq.set! qe.toNat (-100))[(fifoNextStart n qs).toNat]! := by
  obtain ⟨D, B, hk, hq', hb⟩ := h.head_fict he
  have hp := hq'.pop.2
  have hl := hq'.len
  simp at hl
  obtain ⟨b, B, rfl⟩ := hp.eq_cons (by omega) hq
  have hadd := hp.add (by simp at hl ⊢; omega) (-100)
  have hp2 := hadd.pop
  try simp only [List.cons_append] at hp2
  refine ⟨by have := hp.qe_range; omega, hadd.qs_ok, ?_⟩
  rw [hp2.1]
  refine ⟨D ++ [b], B, [], by simp [hk], by simp, hp2.2, ?_⟩
  have e : (D ++ [b]) ++ (B ++ []) = D ++ ([] ++ b :: B) := by simp
  refine ⟨by rw [e]; exact hb.nodup, by rw [e]; exact hb.pix, by rw [e]; exact hb.dist, ?_⟩
  intro x hx; exact hb.mask x (by simp at hx ⊢; exact Or.inr hx)

/-- relabelling the dequeued pixel does not disturb the waiting ones -/
theorem Q1bMid.relabel (h : Q1bMid n imo imd iq qs qe k ip) (hs : imo.size = n) (v : Int) :
    Q1bMid n (imo.set! ip.toNat v) imd iq qs qe k ip := by
  obtain ⟨D, A, B, hk, hm, hq, hb⟩ := h
  refine ⟨D, A, B, hk, hm, hq, hb.nodup, hb.pix, hb.dist, ?_⟩
  intro x hx
  have hpx := hb.pix x (by simp at hx ⊢; exact Or.inr hx)
  have hpi := hb.pix ip (by simp [hm])
  rw [get_setI _ hpi.1 hpx.1 (by have := hpi.1; have := hpi.2; omega), if_neg]
  · exact hb.mask x hx
  · rintro rfl
    have := hb.nodup
    rw [List.nodup_append] at this
    exact this.2.2 x hm x hx rfl

/-- a `MASK` neighbour without distance joins the queue behind the fictitious pixel -/
theorem Q1bMid.add {ipp d : Int} (h : Q1bMid n imo imd iq qs qe k ip) (hd : imd.size = n)
    (hp : Pix n ipp) (hm : imo[ipp.toNat]! = -2) (h0 : imd[ipp.toNat]! = 0) (hd1 : d ≠ 0) :
    Q1bMid n imo (imd.set! ipp.toNat d) (iq.set! qe.toNat ipp) qs (fifoNextEnd n qe) k ip := by
  obtain ⟨D, A, B, hk, hmem, hq, hb⟩ := h
  have hnot : ipp ∉ D ++ (A ++ B) := fun hx => hb.dist ipp hx h0
  have hipp : ipp.toNat < imd.size := by have := hp.1; have := hp.2; omega
  have e : D ++ (A ++ (B ++ [ipp])) = (D ++ (A ++ B)) ++ [ipp] := by simp
  have hb' : QB n imo (imd.set! ipp.toNat d) D A (B ++ [ipp]) := by
    refine ⟨e ▸ nodup_concat hb.nodup hnot, e ▸ forall_mem_concat hb.pix hp, e ▸ forall_mem_concat (fun x hx => ?_) ?_,
      List.append_assoc .. ▸ forall_mem_concat hb.mask hm⟩
    · rw [get_setI _ hp.1 (hb.pix x hx).1 hipp]
      split
      · exact hd1
      · exact hb.dist x hx
    · rw [get_setI _ hp.1 hp.1 hipp, if_pos rfl]; exact hd1
  have hlen := hb'.len
  have hD : 0 < D.length := List.length_pos_iff.mpr (List.ne_nil_of_mem hmem)
  simp at hlen
  have hadd := hq.add (by simp; omega) ipp
  rw [List.append_assoc, List.cons_append] at hadd
  exact ⟨D, A, B ++ [ipp], hk, hmem, hadd, hb'⟩
end

theorem nbr1b_spec {n : Nat} {nb : Array Int} {E : Prop} (icl : Int) (tr : Bool) {ip dist : Int} {imo imd iq : Array Int}
    {qs qe : Int} (trace : Array Flood.Step) (k : Nat) (hT : Ghost tr E (TR n trace imo icl))
    (hnb : NbOK n nb) (hs : imo.size = n) (hd : imd.size = n) (hdist : dist + 1 ≠ 0)
    (h : Q1bMid n imo imd iq qs qe k ip) :
    ⦃fun o => ⌜o = false⌝⦄ nbr1b n nb tr ip dist imo imd iq qe trace
    ⦃⇓ r o => ⌜o = false ∧ Ghost tr E (TR n r.2.2.2.2 r.1 icl) ∧ r.1.size = n ∧ r.2.1.size = n ∧
      Q1bMid n r.1 r.2.1 r.2.2.1 qs r.2.2.2.1 k ip⌝⦄ := by
  have s1 := nbCnt_pre hnb
  have s2 := nbAt_pre hnb
  have hip := h.ip_pix
  mvcgen -trivial -leave [nbr1b, s1, s2, fifoAdd_pre]
  case inv1 =>
    exact ⇓⟨_, imo', imd', iq', qe', tr'⟩ o => ⌜o = false ∧ Ghost tr E (TR n tr' imo' icl) ∧ imo'.size = n ∧
      imd'.size = n ∧ Q1bMid n imo' imd' iq' qs qe' k ip⌝
  all_goals clear s1 s2; vcr; vcp
  case vc1 => exact ⟨rfl, hip⟩
  case vc2 => exact ⟨rfl, hip, by omega⟩
  case vc3 | vc4 | vc9 => exact ⟨rfl, ‹Pix _ (nb[_]!)›.idx ‹_›⟩
  case vc5 | vc6 => exact ⟨rfl, hip.idx ‹_›⟩
  case vc7 =>
    grab hT' : Ghost
    exact ⟨rfl, hT'.step (·.relabel ‹WS.SP.relabel _ _ = some _› _ _ (‹Pix _ (nb[_]!)›.idx ‹_›).2 rfl), (size_set ..).trans ‹_›,
      ‹_›, ‹Q1bMid ..›.relabel ‹_› _⟩
  case vc8 | vc12 | vc14 => exact ⟨rfl, ‹_›, ‹_›, ‹_›, ‹_›⟩
  case vc10 => exact ⟨rfl, ‹Q1bMid ..›.qe_ok⟩
  case vc11 =>
    have hc := ‹(_ && _) = true›
    simp only [Bool.and_eq_true, beq_iff_eq] at hc
    exact ⟨rfl, ‹_›, ‹_›, (size_set ..).trans ‹_›, ‹Q1bMid ..›.add ‹_› ‹_› hc.1 hc.2 hdist⟩
  case vc13 => exact ⟨rfl, hT, rfl, hd, h⟩

/-- `nbr1b_spec` as the propagation loop uses it: the hypotheses in the precondition, for all ghost data (`qs`, `k`) at once -/
theorem nbr1b_pre {n : Nat} {nb : Array Int} {E : Prop} (icl : Int) (tr : Bool) {ip dist : Int} {imo imd iq : Array Int}
    {qe : Int} (trace : Array Flood.Step) (hnb : NbOK n nb) :
    ⦃fun o => ⌜o = false ∧ (Ghost tr E (TR n trace imo icl) ∧ imo.size = n ∧ imd.size = n ∧ dist + 1 ≠ 0) ∧
      ∃ g : Int × Nat, Q1bMid n imo imd iq g.1 qe g.2 ip⌝⦄
    nbr1b n nb tr ip dist imo imd iq qe trace
    ⦃⇓ r o => ⌜o = false ∧ ∀ g : Int × Nat, Q1bMid n imo imd iq g.1 qe g.2 ip →
      Ghost tr E (TR n r.2.2.2.2 r.1 icl) ∧ r.1.size = n ∧ r.2.1.size = n ∧
        Q1bMid n r.1 r.2.1 r.2.2.1 g.1 r.2.2.2.1 g.2 ip⌝⦄ :=
  triple_pre fun h => triple_forall _ _ _ (fun g hg =>
    nbr1b_spec icl tr trace g.2 h.1.1 hnb h.1.2.1 h.1.2.2.1 h.1.2.2.2 hg) h.2

theorem step1b_spec {n : Nat} {nb : Array Int} {E : Prop} (hnb : NbOK n nb) (icl : Int) (tr : Bool) (imo imd iq : Array Int)
    (qs qe : Int) (trace : Array Flood.Step) :
    ⦃fun o => ⌜o = false ∧ Ghost tr E (TR n trace imo icl) ∧ Post1a n imo imd iq qs qe⌝⦄
    step1b n nb tr imo imd iq qs qe trace
    ⦃⇓ r o => ⌜o = false ∧ Ghost tr E (TR n r.2.2.2.2.2.1 r.1 icl) ∧ r.2.2.2.2.2.2 = true ∧ r.1.size = n ∧
      r.2.1.size = n ∧ QRep n r.2.2.1 r.2.2.2.1 r.2.2.2.2.1 []⌝⦄ := by
  refine triple_pre ?_
  rintro ⟨hT, h⟩
  have s1 := fun (ip dist : Int) (imo imd iq : Array Int) (qe : Int) (trace : Array Flood.Step) =>
    @nbr1b_pre n nb E icl tr ip dist imo imd iq qe trace hnb
  have hs := h.1
  have hd := h.2.1
  mvcgen -trivial -leave [step1b, s1, fifoAdd_pre, fifoFirst_pre]
  case inv1 =>
    exact ⇓⟨xs, imo', imd', iq', qs', qe', tr', dist, brk⟩ o => ⌜o = false ∧ Ghost tr E (TR n tr' imo' icl) ∧
      imo'.size = n ∧ imd'.size = n ∧
      ((brk = false ∧ 1 ≤ dist ∧ Q1b n imo' imd' iq' qs' qe' xs.prefix.length) ∨
       (brk = true ∧ xs.suffix = [] ∧ QRep n iq' qs' qe' []))⌝
  all_goals clear s1; vcr; vcp
  case vc10 => exact ⟨rfl, hT, rfl, hd, Or.inl ⟨trivial, by omega, (Q1b.init h).2⟩⟩
  -- inside the loop the suffix is not empty: the invariant is its first alternative
  all_goals try (grab hor : Or; rcases hor with ⟨hb, hdist, hQ⟩ | ⟨hb, hnil, hq'⟩ <;> try (simp at hnil; done))
  case vc1 => exact ⟨rfl, (Q1b.init h).1⟩
  case vc2 => exact ⟨rfl, hQ.qs_ok⟩
  case vc3 => exact ⟨rfl, ‹_›, ‹_›, ‹_›, Or.inr ⟨trivial, trivial, hQ.pop_fict_done ‹_› ‹_›⟩⟩
  case vc4 => exact ⟨rfl, (hQ.pop_fict_more ‹_› ‹_›).1⟩
  case vc5 => exact ⟨rfl, (hQ.pop_fict_more ‹_› ‹_›).2.1⟩
  case vc6 => exact ⟨rfl, ⟨‹_›, ‹_›, ‹_›, by omega⟩, (_, _), (hQ.pop_fict_more ‹_› ‹_›).2.2⟩
  case vc7 =>
    grab_all hall
    obtain ⟨hT2, h1, h2, h3⟩ := hall (_, _) (hQ.pop_fict_more ‹_› ‹_›).2.2
    exact ⟨rfl, hT2.step (·.quiet _ rfl), h1, h2, Or.inl ⟨hb, by omega, List.length_append ▸ h3.toQ1b⟩⟩
  case vc8 => exact ⟨rfl, ⟨‹_›, ‹_›, ‹_›, by omega⟩, (_, _), hQ.pop_pix ‹_›⟩
  case vc9 =>
    grab_all hall
    obtain ⟨hT2, h1, h2, h3⟩ := hall (_, _) (hQ.pop_pix ‹_›)
    exact ⟨rfl, hT2.step (·.quiet _ rfl), h1, h2, Or.inl ⟨hb, hdist, List.length_append ▸ h3.toQ1b⟩⟩
  case vc11.post.success.post.success.inl =>
    -- the fuel `4n + 8` is not used up: every iteration dequeues another pixel
    have := hQ.len
    simp only [Std.Legacy.Range.toList, List.length_range', Nat.add_sub_cancel, Nat.div_one, Nat.sub_zero] at this
    omega
  case vc11.post.success.post.success.inr => exact ⟨rfl, ‹_›, hb, ‹_›, ‹_›, hq'⟩

end WS.Fld
