import WsVerif.Lemmas.Fld.Sim
/-! `Base`, the part of the simulation relation that all phases of a level share, and step 1a of `pt_fld` with the
simulation relation: the `level` and `mark` events satisfy their guards, and the state handed to step 1b (`R1a … n`)
records which pixels were queued and why.

Names, here and in `G1b` … `GTop`: a structure `R…` relates the concrete arrays at one program point to an abstract state
`s`; `G…` is the invariant made of it (see `G1a` below).  `foo_specG` is the triple of `foo` with these invariants
(`foo_spec`, in `S1a` … `Top`, being the one about the flag), a lemma `G….stepG` is `R….step` carried over to `G…`, and
`foo_specG'` is `foo_specG` for all ghost data at once. -/
namespace WS.Fld
open Std.Do WS.SP WS.Flood
set_option mvcgen.warning false
attribute [local spec high] rd_val wr_val fifoAdd_val fifoFirst_val

theorem pigeonN (n : Nat) (l : List Nat) (hn : l.Nodup) (h : ∀ x ∈ l, x < n) : l.length ≤ n := by
  have h2 : l ⊆ List.range n := fun x hx => List.mem_range.mpr (h x hx)
  have := hn.length_le_of_subset h2
  simpa using this

/-- cast of a list of pixels to the `int` entries of the queue -/
abbrev castL (l : List Nat) : List Int := l.map fun (x : Nat) => (x : Int)

theorem get_setN (a : Array Int) (i : Int) (v : Int) (h0 : 0 ≤ i) (hi : i.toNat < a.size) (p : Nat) :
    (a.set! i.toNat v)[p]! = if p = i.toNat then v else a[p]! :=
  get_setP a i.toNat p v hi

/-- the part of the simulation relation shared by all phases of level `ih`: `imo` is the abstract `lab`, the pixels of
    lower levels are final and labelled, those of higher levels untouched -/
structure Base (n : Nat) (g : Graph) (s : St) (imo : Array Int) (icl : Int) (ih : Nat) : Prop where
  so : imo.size = n
  lab : s.lab = imo.map labC
  fsz : s.fin.size = n
  K : s.K = icl.toNat
  icl0 : 0 ≤ icl
  lo : ∀ p, p < n → -2 ≤ imo[p]!
  h : s.h = ih
  old : ∀ p, p < n → g.level p < ih → s.finOf p = true ∧ 0 ≤ imo[p]!
  new : ∀ p, p < n → ih < g.level p → s.finOf p = false ∧ imo[p]! = -1

section
variable {n : Nat} {g : Graph} {s s' : St} {imo imo' : Array Int} {icl icl' : Int} {ih : Nat}

theorem Base.labOf (b : Base n g s imo icl ih) {p : Nat} (hp : p < n) : s.labOf p = labC imo[p]! :=
  labOf_map b.lab (by rw [b.so]; exact hp)

/-- while level `ih` is processed only pixels of that level change: `Base` survives every update that leaves the
    other levels alone -/
theorem Base.frame (b : Base n g s imo icl ih) (so : imo'.size = n) (lab : s'.lab = imo'.map labC) (fsz : s'.fin.size = n)
    (K : s'.K = icl'.toNat) (i0 : 0 ≤ icl') (lo : ∀ p, p < n → -2 ≤ imo'[p]!) (hh : s'.h = s.h)
    (same : ∀ p, p < n → g.level p ≠ ih → s'.finOf p = s.finOf p ∧ imo'[p]! = imo[p]!) :
    Base n g s' imo' icl' ih := by
  refine ⟨so, lab, fsz, K, i0, lo, hh ▸ b.h, fun p hp hl => ?_, fun p hp hl => ?_⟩ <;>
    rw [(same p hp (by omega)).1, (same p hp (by omega)).2]
  · exact b.old p hp hl
  · exact b.new p hp hl

/-- a pixel `y` of the level gets the value `v` (and may become final) -/
theorem Base.set (b : Base n g s imo icl ih) {y : Nat} {v : Int} (hy : y < n) (hl : g.level y = ih) (hv : -2 ≤ v)
    (lab : s'.lab = s.lab.setIfInBounds y (labC v)) (fin : ∀ x, x ≠ y → s'.finOf x = s.finOf x) (fsz : s'.fin.size = n)
    (K : s'.K = icl'.toNat) (i0 : 0 ≤ icl') (hh : s'.h = s.h) : Base n g s' (imo.set! y v) icl' ih := by
  have hget := fun j => get_setP imo y j v (b.so ▸ hy)
  refine b.frame (by simp [b.so]) (by rw [lab, b.lab, map_set]) fsz K i0 (fun p hp => ?_) hh (fun p hp hne => ?_)
  · rw [hget]; split
    · exact hv
    · exact b.lo p hp
  · have : p ≠ y := fun e => hne (e ▸ hl)
    exact ⟨fin p this, by rw [hget, if_neg this]⟩

/-- `Base` sees the abstract state through `lab`, `fin`, `K`, `h` only -/
theorem Base.congr (b : Base n g s imo icl ih) (hl : s'.lab = s.lab) (hf : s'.fin = s.fin) (hK : s'.K = s.K)
    (hh : s'.h = s.h) : Base n g s' imo icl ih :=
  b.frame b.so (hl ▸ b.lab) (hf ▸ b.fsz) (hK ▸ b.K) b.icl0 b.lo hh fun _ _ _ => ⟨by unfold St.finOf; rw [hf], rfl⟩

theorem Base.mask_lv (b : Base n g s imo icl ih) {y : Nat} (hy : y < n) (hm : imo[y]! = -2) : g.level y = ih := by
  rcases Nat.lt_trichotomy (g.level y) ih with h1 | h1 | h1
  · have := (b.old y hy h1).2; omega
  · exact h1
  · have := (b.new y hy h1).2; omega
end

/-- state between two levels -/
structure RIdle (n : Nat) (ind : Array Int) (g : Graph) (s : St) (imo imd : Array Int) (icl : Int) (ih : Nat) (m : Int) :
    Prop where
  base : Base n g s imo icl ih
  sd : imd.size = n
  ph : s.phase = .idle
  cur : ∀ p, p < n → g.level p = ih → s.finOf p = false ∧ imo[p]! = -1
  imd0 : ∀ p, p < n → imd[p]! = 0
  mi : MInv n ind g ih m

/-- step 1a at cursor `m`, queue `q` -/
structure R1a (n : Nat) (ind : Array Int) (g : Graph) (s : St) (q : List Nat) (imo imd : Array Int) (icl : Int) (ih : Nat)
    (m : Int) : Prop where
  base : Base n g s imo icl ih
  sd : imd.size = n
  ph : s.phase = .opn
  nf : ∀ p, p < n → g.level p = ih → s.finOf p = false
  lvl : ∀ k : Nat, k < n → g.level (ind[k]!).toNat = ih →
    ((k : Int) < m → imo[(ind[k]!).toNat]! = -2 ∧ (ind[k]!).toNat ∈ s.cur) ∧ (m ≤ (k : Int) → imo[(ind[k]!).toNat]! = -1)
  cur : ∀ x ∈ s.cur, x < n ∧ g.level x = ih
  qnd : q.Nodup
  qlv : ∀ x ∈ q, x < n ∧ g.level x = ih ∧ imo[x]! = -2 ∧ imd[x]! = 1 ∧ ∃ y ∈ g.adj x, g.level y < ih
  imd0 : ∀ p, p < n → p ∉ q → imd[p]! = 0
  compl : ∀ p, p < n → imo[p]! = -2 → p ∉ q → ∀ y ∈ g.adj p, ih ≤ g.level y

theorem step_level {g : Graph} {s : St} {h : Nat} (hp : s.phase = .idle) (hh : h = s.h) :
    step g s (.level h) = some { s with phase := .opn, cur := [] } := by
  simp [step, hp, hh]

theorem step_mark {g : Graph} {s : St} {p : Nat} (hp : s.phase = .opn) (hn : p < g.n) (hl : s.labOf p = .init)
    (hh : g.level p = s.h) :
    step g s (.mark p) = some { s with lab := s.lab.setIfInBounds p .mask, cur := p :: s.cur } := by
  simp [step, hp, hn, hl, hh]

section
variable {n : Nat} {nb imi ind : Array Int} {g : Graph} {s : St} {q : List Nat} {imo imd : Array Int} {icl : Int} {ih : Nat}
  {m : Int}

/-- the queue of 1a leaves a slot for the fictitious pixel -/
theorem R1a.qlen (C : Ctx n nb imi ind g) (h : R1a n ind g s q imo imd icl ih m) (hn : 1 ≤ n) : q.length + 1 ≤ n := by
  cases hq : q with
  | nil => simpa using hn
  | cons x t =>
    have hx := h.qlv x (by rw [hq]; simp)
    obtain ⟨y, hy, hly⟩ := hx.2.2.2.2
    have hnot : y ∉ q := fun hm => by have := (h.qlv y hm).2.1; omega
    have := pigeonN n (y :: q) (List.nodup_cons.mpr ⟨hnot, h.qnd⟩) (by
      intro z hz
      rcases List.mem_cons.mp hz with rfl | hz
      · exact C.adj_lt hx.1 hy
      · exact (h.qlv z hz).1)
    rw [hq] at this
    simpa using this

theorem R1a.lv_neg (C : Ctx n nb imi ind g) (h : R1a n ind g s q imo imd icl ih m) {p : Nat} (hp : p < n)
    (hl : g.level p = ih) : imo[p]! < 0 := by
  obtain ⟨k, hk, he⟩ := C.ind_surj hp
  have := h.lvl k hk (by rw [he, Int.toNat_natCast]; exact hl)
  rw [he, Int.toNat_natCast] at this
  by_cases hkm : (k : Int) < m
  · have := (this.1 hkm).1; omega
  · have := this.2 (by omega); omega

theorem R1a.lab_old (C : Ctx n nb imi ind g) (h : R1a n ind g s q imo imd icl ih m) {p : Nat} (hp : p < n)
    (hl : 0 ≤ imo[p]!) : g.level p < ih := by
  rcases Nat.lt_trichotomy (g.level p) ih with h1 | h1 | h1
  · exact h1
  · have := h.lv_neg C hp h1; omega
  · have := (h.base.new p hp h1).2; omega

/-- `level` event: idle → 1a -/
theorem RIdle.open (C : Ctx n nb imi ind g) (h : RIdle n ind g s imo imd icl ih m) :
    step g s (.level ih) = some { s with phase := .opn, cur := [] } ∧
    R1a n ind g { s with phase := .opn, cur := [] } [] imo imd icl ih m := by
  refine ⟨step_level h.ph h.base.h.symm, h.base.congr rfl rfl rfl rfl, h.sd, rfl, fun p hp hl => (h.cur p hp hl).1, ?_,
    by simp, List.nodup_nil, by simp, fun p hp _ => h.imd0 p hp, ?_⟩
  · intro k hk hl
    refine ⟨fun hkm => ?_, fun _ => (h.cur _ (C.ind_lt hk).1 hl).2⟩
    have := h.mi.lt k hk hkm; omega
  · intro p hp hm
    have hl := h.base.mask_lv hp hm
    have := (h.cur p hp hl).2; omega

/-- `mark` event; the pixel joins the queue iff it touches a labelled pixel -/
theorem R1a.mark (C : Ctx n nb imi ind g) (h : R1a n ind g s q imo imd icl ih m) (hP : Pos n ind g ih m)
    (hl : g.level (ind[m.toNat]!).toNat = ih) :
    let p := (ind[m.toNat]!).toNat
    let s' : St := { s with lab := s.lab.setIfInBounds p .mask, cur := p :: s.cur }
    let imo' := imo.set! p (-2)
    step g s (.mark p) = some s' ∧
    ((¬∃ y ∈ g.adj p, 0 ≤ imo'[y]!) → R1a n ind g s' q imo' imd icl ih (m + 1)) ∧
    ((∃ y ∈ g.adj p, 0 ≤ imo'[y]!) → R1a n ind g s' (q ++ [p]) imo' (imd.set! p 1) icl ih (m + 1)) := by
  intro p s' imo'
  have hm0 := hP.m0
  have hmn : m.toNat < n := by have := hP.m1; omega
  have hp : p < n := (hP.pix C).1
  have hl : g.level p = ih := hl
  have hget := fun j => get_setP imo p j (-2) (h.base.so ▸ hp)
  have hgd := fun j => get_setP imd p j 1 (h.sd ▸ hp)
  have hpm1 : imo[p]! = -1 := (h.lvl m.toNat hmn hl).2 (by omega)
  have hpq : p ∉ q := fun hm => by have := (h.qlv p hm).2.2.1; omega
  -- only the label of `p` changes, and `p` is not in the queue
  have keep : ∀ {x}, x ≠ p → imo'[x]! = imo[x]! := fun hne => by rw [hget, if_neg hne]
  have off : ∀ {x}, x ∈ q → x ≠ p := fun hx e => hpq (e ▸ hx)
  have hb : Base n g s' imo' icl ih :=
    h.base.set hp hl (by omega) rfl (fun _ _ => rfl) h.base.fsz h.base.K h.base.icl0 rfl
  have hlvl : ∀ k : Nat, k < n → g.level (ind[k]!).toNat = ih →
      ((k : Int) < m + 1 → imo'[(ind[k]!).toNat]! = -2 ∧ (ind[k]!).toNat ∈ s'.cur) ∧
      (m + 1 ≤ (k : Int) → imo'[(ind[k]!).toNat]! = -1) := by
    intro k hk hlk
    have hk' := h.lvl k hk hlk
    by_cases hkm : k = m.toNat
    · subst hkm
      exact ⟨fun _ => ⟨by rw [hget, if_pos rfl], List.mem_cons_self⟩, fun hh => by omega⟩
    · rw [keep fun e => hkm (C.ind_inj hk hmn e)]
      exact ⟨fun hh => ⟨(hk'.1 (by omega)).1, List.mem_cons_of_mem _ (hk'.1 (by omega)).2⟩, fun hh => hk'.2 (by omega)⟩
  have hcur : ∀ x ∈ s'.cur, x < n ∧ g.level x = ih := by
    intro x hx
    rcases List.mem_cons.mp hx with rfl | hx
    · exact ⟨hp, hl⟩
    · exact h.cur x hx
  have hqlv : ∀ x ∈ q, x < n ∧ g.level x = ih ∧ imo'[x]! = -2 ∧ imd[x]! = 1 ∧ ∃ y ∈ g.adj x, g.level y < ih :=
    fun x hx => by rw [keep (off hx)]; exact h.qlv x hx
  refine ⟨step_mark h.ph (by rw [C.gn]; exact hp) (by rw [h.base.labOf hp, hpm1]; rfl) (by rw [h.base.h]; exact hl),
    fun hnf => ?_, fun hf => ?_⟩
  · refine ⟨hb, h.sd, h.ph, h.nf, hlvl, hcur, h.qnd, hqlv, h.imd0, fun x hx hxm hxq y hy => ?_⟩
    by_cases hxp : x = p
    · -- a neighbour of a lower level would be labelled
      subst hxp
      apply Classical.byContradiction
      intro hlt
      have hlt : g.level y < ih := by omega
      exact hnf ⟨y, hy, by rw [keep fun e => by rw [e] at hlt; omega]; exact (h.base.old y (C.adj_lt hp hy) hlt).2⟩
    · rw [keep hxp] at hxm
      exact h.compl x hx hxm hxq y hy
  · obtain ⟨y, hy, hly⟩ := hf
    rw [keep fun e => by rw [e, hget, if_pos rfl] at hly; omega] at hly
    have hylv := h.lab_old C (C.adj_lt hp hy) hly
    refine ⟨hb, by simp [h.sd], h.ph, h.nf, hlvl, hcur, nodup_concat h.qnd hpq, fun x hx => ?_, fun x hx hxq => ?_,
      fun x hx hxm hxq => ?_⟩ <;> rw [List.mem_append, List.mem_singleton] at *
    · rcases hx with hx | rfl
      · rw [hgd, if_neg (off hx)]; exact hqlv x hx
      · exact ⟨hp, hl, by rw [hget, if_pos rfl], by rw [hgd, if_pos rfl], y, hy, hylv⟩
    · rw [not_or] at hxq
      rw [hgd, if_neg hxq.2]
      exact h.imd0 x hx hxq.1
    · rw [not_or] at hxq
      rw [keep hxq.2] at hxm
      exact h.compl x hx hxm hxq.1

/-- the loop leaves because `ind[m]` is of another level: all pixels of the level are marked -/
theorem R1a.exit_ne (C : Ctx n nb imi ind g) (h : R1a n ind g s q imo imd icl ih m) (hP : Pos n ind g ih m)
    (hl : g.level (ind[m.toNat]!).toNat ≠ ih) : R1a n ind g s q imo imd icl ih n :=
  { h with lvl := fun k hk hlk => ⟨fun _ => (h.lvl k hk hlk).1 (hP.exit_ne C hl hk hlk), fun hh => by omega⟩ }
end

section
variable {n : Nat} {nb imi ind : Array Int} {g : Graph}

theorem scan1a_specG (C : Ctx n nb imi ind g) {imo : Array Int} {ip : Int} (hs : imo.size = n) (hp : Pix n ip) :
    ⦃⌜True⌝⦄ scan1a nb imo ip ⦃⇓ r => ⌜r = true ↔ ∃ y ∈ g.adj ip.toNat, 0 ≤ imo[y]!⌝⦄ := by
  subst hs
  have s1 := nbCnt_val C.nbok
  have s2 := nbAt_val C.nbok
  mvcgen -trivial -leave [scan1a, s1, s2]
  case inv1 =>
    exact ⇓⟨xs, found⟩ => ⌜(found = true → ∃ y ∈ g.adj ip.toNat, 0 ≤ imo[y]!) ∧
      (found = false → ∀ j : Nat, j < xs.prefix.length → imo[(nb[((j : Int) + 9 * ip).toNat]!).toNat]! < 0)⌝
  all_goals clear s1 s2; vcr; vcp
  case vc1 => exact hp
  case vc2 => exact ⟨hp, by omega⟩
  case vc3 => exact ‹Pix _ (nb[_]!)›.idx rfl
  case vc4 =>
    rename_i pref _ _ _ _ _ _ _ _ _ _ _ _ hor
    simp at hor
    exact ⟨⟨_, C.adj_mem ip hp pref.length (by omega), by omega⟩, nofun⟩
  case vc5 =>
    rename_i pref _ _ _ _ _ h1 h2 _ _ _ _ _ hor
    simp at hor
    refine ⟨h1, fun hb j hj => ?_⟩
    by_cases hj' : j < pref.length
    · exact h2 hb j hj'
    · have : j = pref.length := by simp at hj; omega
      subst this; omega
  case vc6 => exact ⟨nofun, fun j hj => by simp at hj⟩
  case vc7 =>
    rename_i r _ h1 h2 _ _
    refine ⟨h1, fun ⟨y, hy, hl⟩ => ?_⟩
    obtain ⟨i, hi, he⟩ := C.adj_cov ip hp y hy
    cases r
    · have := h2 rfl i (by simp [Std.Legacy.Range.toList]; omega)
      rw [he, Int.toNat_natCast] at this; omega
    · rfl

/-- invariant of the loop of step 1a: the trace emitted so far runs to a state `s`, the FIFO holds `q`, and `R1a` relates
    both to the arrays.  The invariants of the other loops are packed in the same way. -/
def G1a (n : Nat) (ind : Array Int) (g : Graph) (trace : Array Step) (imo imd iq : Array Int) (qs qe icl : Int)
    (ih : Nat) (m : Int) : Prop :=
  ∃ s q, run g trace.toList = some s ∧ QRep n iq qs qe (castL q) ∧ R1a n ind g s q imo imd icl ih m

variable {trace : Array Step} {imo imd iq : Array Int} {qs qe icl : Int} {ih : Nat} {m : Int}

theorem G1a.qe_ok (h : G1a n ind g trace imo imd iq qs qe icl ih m) : 0 ≤ qe ∧ qe.toNat < iq.size := by
  obtain ⟨s, q, -, hq, -⟩ := h
  have := hq.qe_range; omega

theorem G1a.sizes (h : G1a n ind g trace imo imd iq qs qe icl ih m) : imo.size = n ∧ imd.size = n := by
  obtain ⟨s, q, -, -, hr⟩ := h
  exact ⟨hr.base.so, hr.sd⟩

theorem G1a.step_no (C : Ctx n nb imi ind g) (h : G1a n ind g trace imo imd iq qs qe icl ih m) (hP : Pos n ind g ih m)
    (hl : ¬(imi[(ind[m.toNat]!).toNat]! != (ih : Int)) = true)
    (hnf : ¬∃ y ∈ g.adj (ind[m.toNat]!).toNat, 0 ≤ (imo.set! (ind[m.toNat]!).toNat (-2))[y]!) :
    G1a n ind g (pushIf true trace (.mark (ind[m.toNat]!).toNat)) (imo.set! (ind[m.toNat]!).toNat (-2)) imd iq qs qe icl
      ih (m + 1) := by
  obtain ⟨s, q, hr, hq, hR⟩ := h
  obtain ⟨h1, h2, -⟩ := hR.mark C hP ((hP.lev_eq C).mp hl)
  exact ⟨_, q, run_push hr h1, hq, h2 hnf⟩

theorem G1a.step_add (C : Ctx n nb imi ind g) (h : G1a n ind g trace imo imd iq qs qe icl ih m) (hP : Pos n ind g ih m)
    (hl : ¬(imi[(ind[m.toNat]!).toNat]! != (ih : Int)) = true)
    (hf : ∃ y ∈ g.adj (ind[m.toNat]!).toNat, 0 ≤ (imo.set! (ind[m.toNat]!).toNat (-2))[y]!) :
    G1a n ind g (pushIf true trace (.mark (ind[m.toNat]!).toNat)) (imo.set! (ind[m.toNat]!).toNat (-2))
      (imd.set! (ind[m.toNat]!).toNat 1) (iq.set! qe.toNat ind[m.toNat]!) qs (fifoNextEnd n qe) icl ih (m + 1) := by
  obtain ⟨s, q, hr, hq, hR⟩ := h
  obtain ⟨h1, -, h3⟩ := hR.mark C hP ((hP.lev_eq C).mp hl)
  have hlen := hR.qlen C (by have := hP.m0; have := hP.m1; omega)
  refine ⟨_, _, run_push hr h1, ?_, h3 hf⟩
  have := hq.add (by simp; omega) ind[m.toNat]!
  simpa [castL, Int.toNat_of_nonneg (hP.pix C).2] using this

theorem G1a.exit_ne (C : Ctx n nb imi ind g) (h : G1a n ind g trace imo imd iq qs qe icl ih m) (hP : Pos n ind g ih m)
    (hl : (imi[(ind[m.toNat]!).toNat]! != (ih : Int)) = true) :
    G1a n ind g trace imo imd iq qs qe icl ih n := by
  obtain ⟨s, q, hr, hq, hR⟩ := h
  exact ⟨s, q, hr, hq, hR.exit_ne C hP fun e => (hP.lev_eq C).mpr e hl⟩

theorem G1a.last (h : G1a n ind g trace imo imd iq qs qe icl ih (m + 1)) (h1 : m < n) (h2 : m > (n : Int) - 2) :
    G1a n ind g trace imo imd iq qs qe icl ih n := by
  have : m + 1 = n := by omega
  rwa [this] at h

theorem step1a_specG (C : Ctx n nb imi ind g) (ihN : Nat) {imo imd iq : Array Int} {qs qe m icl : Int}
    (trace : Array Step) (hP : Pos n ind g ihN m) (h : G1a n ind g trace imo imd iq qs qe icl ihN m) :
    ⦃⌜True⌝⦄ step1a n nb imi ind (ihN : Int) true imo imd iq qe m trace
    ⦃⇓ r => ⌜r.2.2.2.2.2.2 = true ∧ G1a n ind g r.2.2.2.2.2.1 r.1 r.2.1 r.2.2.1 qs r.2.2.2.1 icl ihN n⌝⦄ := by
  have s1 := indAt_val C.indok
  have s2 := @scan1a_specG n nb imi ind g C
  mvcgen -trivial -leave [step1a, s1, s2]
  case inv1 =>
    exact ⇓⟨xs, imo', imd', iq', qe', m', tr', brk⟩ => ⌜
      (brk = false ∧ m' = m + xs.prefix.length ∧ Pos n ind g ihN m' ∧ G1a n ind g tr' imo' imd' iq' qs qe' icl ihN m') ∨
      (brk = true ∧ xs.suffix = [] ∧ G1a n ind g tr' imo' imd' iq' qs qe' icl ihN n)⌝
  all_goals clear s1 s2; vcr; vcp
  -- inside the loop the suffix is not empty: the invariant is its first alternative
  all_goals try (grab hor : Or; rcases hor with ⟨hb, hm, hP', hQ⟩ | ⟨hb, hnil, hQ⟩ <;> try (simp at hnil; done))
  case vc1 => exact ⟨hP'.m0, hP'.m1⟩
  case vc2 => exact ‹Pix n _›.idx C.isz
  case vc3 => exact Or.inr ⟨trivial, trivial, hQ.exit_ne C hP' ‹_›⟩
  case vc4 => exact ‹Pix n _›.idx hQ.sizes.1
  case vc5 => exact (size_set ..).trans hQ.sizes.1
  case vc6 => assumption
  case vc7 => exact ‹Pix n _›.idx hQ.sizes.2
  case vc8 => exact hQ.qe_ok
  case vc9 => exact Or.inr ⟨trivial, trivial, (hQ.step_add C hP' ‹_› (‹_ ↔ _›.mp rfl)).last hP'.m1 ‹_›⟩
  case vc10 => exact Or.inl ⟨hb, by simp; omega, hP'.step C ((hP'.lev_eq C).mp ‹_›) ‹_›, hQ.step_add C hP' ‹_› (‹_ ↔ _›.mp rfl)⟩
  case vc11 => exact Or.inr ⟨trivial, trivial, (hQ.step_no C hP' ‹_› (mt ‹_ ↔ _›.mpr ‹_›)).last hP'.m1 ‹_›⟩
  case vc12 => exact Or.inl ⟨hb, by simp; omega, hP'.step C ((hP'.lev_eq C).mp ‹_›) ‹_›, hQ.step_no C hP' ‹_› (mt ‹_ ↔ _›.mpr ‹_›)⟩
  case vc13 => exact Or.inl ⟨trivial, by simp, hP, h⟩
  case vc14.post.success.inl =>
    -- the fuel `n + 1` is not used up: the cursor stays below `n`
    have := hP.m0; have := hP'.m1
    simp [Std.Legacy.Range.toList] at hm; omega
  case vc14.post.success.inr => exact ⟨hb, hQ⟩
end

end WS.Fld
