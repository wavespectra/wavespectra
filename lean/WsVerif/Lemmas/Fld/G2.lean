import WsVerif.Lemmas.Fld.GTop
/-! Step 2 of `pt_fld` (clean-up sweeps) with the simulation relation: `sweep` / `resolve` satisfy their guards; then the
whole of `pt_fld`: the emitted ghost trace is a valid trace of the abstract machine. -/
namespace WS.Fld
open Std.Do WS.SP WS.Flood
set_option mvcgen.warning false
attribute [local spec high] rd_val wr_val

/-- after the levels / between two sweeps -/
structure R2i (n : Nat) (g : Graph) (s : St) (imo : Array Int) : Prop where
  so : imo.size = n
  hh : ∀ p, p < n → g.level p < s.h
  lab : s.lab = imo.map labC
  ph : s.phase = .idle ∨ s.phase = .sweeping
  fin : ∀ p, p < n → s.finOf p = true
  lo : ∀ p, p < n → 0 ≤ imo[p]!

/-- inside a sweep: snapshot `imo`, working copy `imd`, pixels `< j` visited -/
structure R2 (n : Nat) (g : Graph) (s : St) (imo imd : Array Int) (j : Nat) : Prop where
  so : imo.size = n
  hh : ∀ p, p < n → g.level p < s.h
  sd : imd.size = n
  lab : s.lab = imd.map labC
  snap : s.snap = imo.map labC
  ph : s.phase = .sweeping
  fin : ∀ p, p < n → s.finOf p = true
  lo : ∀ p, p < n → 0 ≤ imo[p]!
  lod : ∀ p, p < n → 0 ≤ imd[p]!
  rest : ∀ p, p < n → j ≤ p → imd[p]! = imo[p]!

section
variable {n : Nat} {nb imi ind : Array Int} {g : Graph}

theorem step_sweep {g : Graph} {s : St} (h : s.phase = .idle ∨ s.phase = .sweeping) :
    step g s .sweep = some { s with phase := .sweeping, snap := s.lab } := by
  simp only [step]
  rw [if_pos h]

theorem step_resolve {g : Graph} {s : St} {p q : Nat} (hph : s.phase = .sweeping) (hp : p < g.n) (hq : q < g.n)
    (h1 : s.snapOf p = .wshed) (h2 : s.labOf p = .wshed) (ha : q ∈ g.adj p) (h3 : (s.snapOf q).isBasin = true)
    (h4 : s.finOf p = true) (h5 : s.finOf q = true) :
    step g s (.resolve p q) = some { s with lab := s.lab.setIfInBounds p (s.snapOf q) } := by
  have hc : (g.adj p).contains q = true := by simpa using ha
  simp only [step]
  rw [if_pos ⟨hph, hp, hq, h1, h2, hc, h3, h4, h5⟩]

theorem RIdle.to2 {s : St} {imo imd : Array Int} {icl : Int} {ih : Nat} {m : Int}
    (h : RIdle n ind g s imo imd icl ih m) (hl : ∀ p, p < n → g.level p < ih) : R2i n g s imo :=
  ⟨h.base.so, fun p hp => by rw [h.base.h]; exact hl p hp, h.base.lab, Or.inl h.ph, fun p hp => (h.base.old p hp (hl p hp)).1, fun p hp => (h.base.old p hp (hl p hp)).2⟩

theorem R2i.sweep {s : St} {imo : Array Int} (h : R2i n g s imo) :
    step g s .sweep = some { s with phase := .sweeping, snap := s.lab } ∧
    R2 n g { s with phase := .sweeping, snap := s.lab } imo imo 0 :=
  ⟨step_sweep h.ph, h.so, h.hh, h.so, h.lab, h.lab, rfl, h.fin, h.lo, h.lo, fun _ _ _ => rfl⟩

theorem R2.skip {s : St} {imo imd : Array Int} {j : Nat} (h : R2 n g s imo imd j) : R2 n g s imo imd (j + 1) :=
  { h with rest := fun p hp hj => h.rest p hp (by omega) }

theorem R2.done {s : St} {imo imd : Array Int} {j : Nat} (h : R2 n g s imo imd j) : R2i n g s imd :=
  ⟨h.sd, h.hh, h.lab, Or.inr h.ph, h.fin, h.lod⟩

theorem snapOf_map {s : St} {imo : Array Int} (h : s.snap = imo.map labC) {p : Nat} (hp : p < imo.size) :
    s.snapOf p = labC imo[p]! := by
  unfold St.snapOf; rw [h]; exact getD_map _ _ hp

theorem R2.resolve (C : Ctx n nb imi ind g) {s : St} {imo imd : Array Int} {j q : Nat} (h : R2 n g s imo imd j)
    (hj : j < n) (hc : imo[j]! = 0) (hq : q ∈ g.adj j) (hl : imo[q]! ≠ 0) :
    step g s (.resolve j q) = some { s with lab := s.lab.setIfInBounds j (s.snapOf q) } ∧
    R2 n g { s with lab := s.lab.setIfInBounds j (s.snapOf q) } imo (imd.set! j imo[q]!) (j + 1) := by
  have hqn := C.adj_lt hj hq
  have hjs : j < imo.size := by rw [h.so]; exact hj
  have hqs : q < imo.size := by rw [h.so]; exact hqn
  have hjd : j < imd.size := by rw [h.sd]; exact hj
  have hlq := h.lo q hqn
  have hget : ∀ x, (imd.set! j imo[q]!)[x]! = if x = j then imo[q]! else imd[x]! := fun x => get_setP imd j x _ hjd
  constructor
  · refine step_resolve h.ph (by rw [C.gn]; exact hj) (by rw [C.gn]; exact hqn) ?_ ?_ hq ?_ (h.fin j hj) (h.fin q hqn)
    · rw [snapOf_map h.snap hjs, hc]; rfl
    · rw [labOf_map h.lab hjd, h.rest j hj (Nat.le_refl _), hc]; rfl
    · rw [snapOf_map h.snap hqs]; exact (labC_isBasin (by omega)).mpr (by omega)
  · refine ⟨h.so, h.hh, by simp [h.sd], ?_, h.snap, h.ph, fun p hp => h.fin p hp, h.lo, ?_, ?_⟩
    · show s.lab.setIfInBounds j (s.snapOf q) = _
      rw [snapOf_map h.snap hqs, h.lab, map_set]
    · intro p hp; rw [hget]; split
      · exact hlq
      · exact h.lod p hp
    · intro p hp hjp
      rw [hget, if_neg (by omega)]
      exact h.rest p hp (by omega)

def G2i (n : Nat) (g : Graph) (trace : Array Step) (imo : Array Int) : Prop :=
  ∃ s : St, run g trace.toList = some s ∧ R2i n g s imo

def G2 (n : Nat) (g : Graph) (trace : Array Step) (imo imd : Array Int) (j : Nat) : Prop :=
  ∃ s : St, run g trace.toList = some s ∧ R2 n g s imo imd j

variable {trace : Array Step} {imo imd : Array Int}

theorem G2i.sweepG (h : G2i n g trace imo) : G2 n g (pushIf true trace .sweep) imo imo 0 := by
  obtain ⟨s, hrun, hR⟩ := h
  obtain ⟨h1, h2⟩ := hR.sweep (g := g)
  exact ⟨_, run_push hrun h1, h2⟩

theorem G2.skipG {j : Nat} (h : G2 n g trace imo imd j) : G2 n g trace imo imd (j + 1) := by
  obtain ⟨s, hrun, hR⟩ := h
  exact ⟨s, hrun, hR.skip⟩

theorem G2.doneG {j : Nat} (h : G2 n g trace imo imd j) : G2i n g trace imd := by
  obtain ⟨s, hrun, hR⟩ := h
  exact ⟨s, hrun, hR.done⟩

theorem G2.sizes {j : Nat} (h : G2 n g trace imo imd j) : imo.size = n ∧ imd.size = n := by
  obtain ⟨s, hrun, hR⟩ := h
  exact ⟨hR.so, hR.sd⟩

theorem G2.resolveG (C : Ctx n nb imi ind g) {j : Nat} (h : G2 n g trace imo imd j) (hj : j < n)
    (hc : (imo[((j : Nat) : Int).toNat]! == 0) = true) {ipt : Int} (hgt : ipt > -1)
    (hor : ipt = -1 ∨ (0 ≤ ipt ∧ ipt < nb[(8 + 9 * (j : Int)).toNat]! ∧
      imo[(nb[(ipt + 9 * (j : Int)).toNat]!).toNat]! ≠ 0)) :
    G2 n g (pushIf true trace (.resolve j (nb[(ipt + 9 * (j : Int)).toNat]!).toNat)) imo
      (imd.set! ((j : Nat) : Int).toNat imo[(nb[(ipt + 9 * (j : Int)).toNat]!).toNat]!) (j + 1) := by
  obtain ⟨s, hrun, hR⟩ := h
  rw [Int.toNat_natCast] at hc ⊢
  have hor : 0 ≤ ipt ∧ ipt < nb[(8 + 9 * (j : Int)).toNat]! ∧ imo[(nb[(ipt + 9 * (j : Int)).toNat]!).toNat]! ≠ 0 := by
    rcases hor with h1 | h1
    · omega
    · exact h1
  have hadj := C.adj_mem j ⟨by omega, by omega⟩ ipt.toNat (by omega)
  rw [Int.toNat_of_nonneg hor.1, Int.toNat_natCast] at hadj
  obtain ⟨h1, h2⟩ := hR.resolve C hj (by simpa using hc) hadj hor.2.2
  exact ⟨_, run_push hrun h1, h2⟩

/-- the slot picked by the scan of a sweep is a slot of the row: it can be read, and holds a pixel -/
theorem NbOK.pick (hnb : NbOK n nb) {jl ipt : Int} {X : Prop} (hp : Pix n jl) (hgt : ipt > -1)
    (hor : ipt = -1 ∨ (0 ≤ ipt ∧ ipt < nb[(8 + 9 * jl).toNat]! ∧ X)) :
    (0 ≤ ipt + 9 * jl ∧ (ipt + 9 * jl).toNat < nb.size) ∧ Pix n nb[(ipt + 9 * jl).toNat]! := by
  have h0 : 0 ≤ ipt := by omega
  have h1 : ipt < nb[(8 + 9 * jl).toNat]! := by omega
  have hc := hnb.cnt jl hp
  have he := hnb.ent jl hp ipt.toNat (by omega)
  rw [Int.toNat_of_nonneg h0] at he
  have hs := hnb.size
  unfold Pix at hp
  exact ⟨by omega, he⟩

theorem sweepPix_specG (C : Ctx n nb imi ind g) {zp : Array Int} (zpmax : Int) {imo : Array Int} {jlN : Nat}
    {imd : Array Int} (trace : Array Step) (hz : zp.size = n) (hj : jlN < n) (h : G2 n g trace imo imd jlN) :
    ⦃⌜True⌝⦄ sweepPix nb zp zpmax true imo jlN imd trace ⦃⇓ r => ⌜G2 n g r.2 imo r.1 (jlN + 1)⌝⦄ := by
  subst hz
  have s1 := nbCnt_val C.nbok
  have s2 := nbAt_val C.nbok
  have hp : Pix zp.size (jlN : Int) := ⟨by omega, by omega⟩
  mvcgen -trivial -leave [sweepPix, s1, s2]
  case inv1 =>
    exact ⇓⟨_, ipt, _⟩ => ⌜ipt = -1 ∨ (0 ≤ ipt ∧ ipt < nb[(8 + 9 * (jlN : Int)).toNat]! ∧
      imo[(nb[(ipt + 9 * (jlN : Int)).toNat]!).toNat]! ≠ 0)⌝
  all_goals clear s1 s2; vcr; vcp
  case vc1 => exact hp.idx h.sizes.1
  case vc2 => exact hp
  case vc3 => exact ⟨hp, by omega⟩
  case vc4 => exact hp.idx rfl
  case vc5 => exact ‹Pix _ (nb[_]!)›.idx rfl
  case vc6 => exact ‹Pix _ (nb[_]!)›.idx h.sizes.1
  case vc7 =>
    have hc := ‹(_ && _) = true›
    simp only [Bool.and_eq_true, bne_iff_ne, ne_eq] at hc
    exact Or.inr ⟨by omega, by omega, hc.2⟩
  case vc8 => assumption
  case vc9 => exact Or.inl trivial
  case vc10 => exact (C.nbok.pick hp ‹_› ‹_ ∨ _›).1
  case vc11 => exact (C.nbok.pick hp ‹_› ‹_ ∨ _›).2.idx h.sizes.1
  case vc12 => exact hp.idx h.sizes.2
  case vc13 => exact h.resolveG C hj ‹_› ‹_› ‹_ ∨ _›
  case vc14 | vc15 => exact h.skipG

theorem G2i.size (h : G2i n g trace imo) : imo.size = n := by
  obtain ⟨s, -, hR⟩ := h; exact hR.so


theorem step2_specG (C : Ctx n nb imi ind g) {zp : Array Int} (zpmax : Int) {imo : Array Int}
    (trace : Array Step) (hz : zp.size = n) (h : G2i n g trace imo) :
    ⦃⌜True⌝⦄ step2 n nb zp zpmax true imo trace ⦃⇓ r => ⌜G2i n g r.2 r.1⌝⦄ := by
  have s1 := fun (zpmax : Int) (imo : Array Int) (jlN : Nat) (imd : Array Int) (trace : Array Step) =>
    @sweepPix_specG n nb imi ind g C zp zpmax imo jlN imd trace hz
  mvcgen -trivial -leave [step2, s1]
  case inv1 => exact ⇓⟨_, imo', tr'⟩ => ⌜G2i n g tr' imo'⌝
  case inv2 =>
    rename_i b _ _ _ _ _
    exact ⇓⟨xs, tr', imd'⟩ => ⌜G2 n g tr' b.1 imd' xs.prefix.length⌝
  all_goals clear s1; vcr; vcp
  case vc1 => assumption
  case vc2 | vc8 => assumption
  case vc3 => simpa using ‹G2 ..›
  case vc4 => exact G2i.sweepG ‹_›
  case vc5 | vc6 => exact G2.doneG ‹_›
  case vc7 => exact h

theorem GIdle.to2G {iq : Array Int} {qs qe icl : Int} {ih : Nat} {m : Int}
    (h : GIdle n ind g trace imo imd iq qs qe icl ih m) (hl : ∀ p, p < n → g.level p < ih) : G2i n g trace imo := by
  obtain ⟨s, hrun, -, hR⟩ := h
  exact ⟨s, hrun, hR.to2 hl⟩


theorem ptFld_simG (C : Ctx n nb imi ind g) {zp : Array Int} (ihmax : Nat) (iqFill : Int)
    (hz : zp.size = n) (hn : 2 ≤ n) (hl : ∀ p, p < n → g.level p < ihmax) :
    ⦃⌜True⌝⦄ ptFld n nb imi ind zp ihmax iqFill true ⦃⇓ r => ⌜G2i n g r.trace r.imo⌝⦄ := by
  have s1 := fun (ihN : Nat) (imo imd iq : Array Int) (qs qe icl m : Int) (trace : Array Step) =>
    @levelStep_specG n nb imi ind g C ihN imo imd iq qs qe icl m trace hn
  have s2 := fun (zpmax : Int) (imo : Array Int) (trace : Array Step) =>
    @step2_specG n nb imi ind g C zp zpmax imo trace hz
  have s3 := triple_val_true (zpMax n zp)
  mvcgen -trivial -leave [ptFld, s1, s2, s3]
  case inv1 =>
    exact ⇓⟨xs, imo', imd', iq', qs', qe', icl', trace', fo, m'⟩ =>
      ⌜GIdle n ind g trace' imo' imd' iq' qs' qe' icl' xs.prefix.length m'⌝
  all_goals clear s1 s2 s3; vcr; vcp
  case vc1 => assumption
  case vc2 | vc3 => simpa using ‹GIdle ..›
  case vc4 => exact GIdle.init C (by omega) iqFill
  case vc5 => exact GIdle.to2G ‹_› (by simpa [range_toList_length] using hl)

/-- **`pt_fld` emits a valid trace**: for a context `Ctx` (neighbour table = adjacency of `g`, symmetric; level map of `g` =
    `imi`, all levels `< ihmax`; `ind` a sorted listing of the pixels) the ghost trace runs through the abstract machine
    on `g` without any guard failing. -/
theorem ptFld_specG (C : Ctx n nb imi ind g) {zp : Array Int} (ihmax : Nat) (iqFill : Int)
    (hz : zp.size = n) (hn : 2 ≤ n) (hl : ∀ p, p < n → g.level p < ihmax) :
    ⦃fun o => ⌜o = false⌝⦄ ptFld n nb imi ind zp ihmax iqFill true
    ⦃⇓ r o => ⌜o = false ∧ G2i n g r.trace r.imo⌝⦄ :=
  (triple_iff _ _ _).mpr fun o ho =>
    ⟨((triple_iff _ _ _).mp (ptFld_spec ihmax iqFill true C.nbok C.indok C.isz hz hn) o ho).1,
      (triple_val_iff _ _ _).mp (ptFld_simG C ihmax iqFill hz hn hl) trivial o⟩
end

end WS.Fld
