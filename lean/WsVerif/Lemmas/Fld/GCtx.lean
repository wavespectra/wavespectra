import WsVerif.Lemmas.Fld.G2
import WsVerif.Lemmas.Fld.Part
/-! The context of the simulation (`Ctx`) for what `partition` hands to `pt_fld`: the cylinder neighbour table and the graph
`graphOf` built from the same rows, the discretised level map, the output of `ptsort`. -/
namespace WS.Fld
open Std.Do WS.SP WS.Flood WS.Neigh

theorem neighLin_symm (mk mth n m : Nat) (hn : n < mk * mth) (hm : m ∈ neighLin mk mth n) : n ∈ neighLin mk mth m := by
  obtain ⟨hi, hj, e⟩ := NeighL.decomp hn
  rw [NeighL.neighLin_eq hn] at hm
  obtain ⟨⟨a, b⟩, hp, rfl⟩ := List.mem_map.mp hm
  have hb := NeighL.neighIJ_bounds hi hj hp
  have hs := NeighL.neighIJ_symm hi hj hp
  show n ∈ neighLin mk mth (a + mk * b)
  rw [NeighL.neigh_spec mk mth a b hb.1 hb.2]
  exact List.mem_map.mpr ⟨(n % mk, n / mk), hs, e.symm⟩

theorem graphOf_adj (mk mth : Nat) (imi : Array Int) {p : Nat} (hp : p < mk * mth) :
    (graphOf mk mth (rows mk mth) imi).adj p = neighLin mk mth p := by
  simp [graphOf, rows, Array.getD, hp]

theorem spec_sorted (ihmax nspec : Nat) (lev : Nat → Nat) :
    (ptsortSpec ihmax nspec lev).Pairwise fun a b => lev a ≤ lev b := by
  unfold ptsortSpec
  rw [List.pairwise_flatMap]
  constructor
  · intro v _
    have : (List.range nspec).Pairwise (· < ·) := List.pairwise_lt_range
    refine (this.filter _).imp_of_mem ?_
    intro a b ha hb _
    simp only [List.mem_filter, beq_iff_eq] at ha hb
    rw [ha.2, hb.2]; exact Nat.le_refl _
  · have : (List.range ihmax).Pairwise (· < ·) := List.pairwise_lt_range
    refine this.imp ?_
    intro v1 v2 hv x hx y hy
    simp only [List.mem_filter, beq_iff_eq] at hx hy
    omega

/-- the context handed to `pt_fld` by `partition` -/
theorem ctx_partition (mk mth ihmax : Nat) {imi ind : Array Int} (hs : imi.size = mk * mth)
    (hl : ∀ i, i < mk * mth → 0 ≤ imi[i]! ∧ imi[i]! < ihmax) (hind : IndOK (mk * mth) ind)
    (he : ind.toList = (ptsortSpec ihmax (mk * mth) (levOf imi)).map (fun (x : Nat) => (x : Int))) :
    Ctx (mk * mth) (table mk mth) imi ind (graphOf mk mth (rows mk mth) imi) := by
  have hlev : ∀ p, p < mk * mth → (graphOf mk mth (rows mk mth) imi).level p = levOf imi p := by
    intro p hp
    simp [graphOf, levOf, Array.getD, hs, hp]
  refine ⟨table_ok mk mth, hind, hs, rfl, ?_, ?_, ?_, ?_, ?_⟩
  · intro ip hp i hi
    obtain ⟨p, rfl⟩ : ∃ p : Nat, ip = p := ⟨ip.toNat, by have := hp.1; omega⟩
    have hp' : p < mk * mth := by have := hp.2; omega
    rw [table_cnt mk mth hp'] at hi
    have hi' : i < (neighLin mk mth p).length := by omega
    rw [Int.toNat_natCast, graphOf_adj mk mth imi hp', table_ent mk mth hp' hi', Int.toNat_natCast]
    exact List.getElem_mem hi'
  · intro ip hp y hy
    obtain ⟨p, rfl⟩ : ∃ p : Nat, ip = p := ⟨ip.toNat, by have := hp.1; omega⟩
    have hp' : p < mk * mth := by have := hp.2; omega
    rw [Int.toNat_natCast, graphOf_adj mk mth imi hp'] at hy
    obtain ⟨i, hi, hget⟩ := List.mem_iff_getElem.mp hy
    refine ⟨i, ?_, ?_⟩
    · rw [table_cnt mk mth hp']; omega
    · rw [table_ent mk mth hp' hi, hget]
  · intro x y hx hy
    rw [graphOf_adj mk mth imi hx] at hy
    have hyn := NeighL.neighLin_lt hx y hy
    rw [graphOf_adj mk mth imi hyn]
    exact neighLin_symm mk mth x y hx hy
  · intro p hp
    rw [hlev p hp]
    unfold levOf
    have := (hl p hp).1
    omega
  · intro j k hjk hk
    have hlen := spec_length ihmax (mk * mth) (levOf imi) (fun i hi => by have := hl i hi; unfold levOf; omega)
    have hgetI : ∀ i, (hi : i < mk * mth) → ind[i]! = (((ptsortSpec ihmax (mk * mth) (levOf imi))[i]'(by rw [hlen]; exact hi) : Nat) : Int) := by
      intro i hi
      apply get_of_toList he
      rw [List.getElem?_map, List.getElem?_eq_getElem (by rw [hlen]; exact hi)]
      rfl
    have hj : j < mk * mth := by omega
    have hmem : ∀ i, (hi : i < mk * mth) → (ptsortSpec ihmax (mk * mth) (levOf imi))[i]'(by rw [hlen]; exact hi) < mk * mth := by
      intro i hi
      have := hind.rng i hi
      rw [hgetI i hi] at this
      have := this.2; omega
    rw [hgetI j hj, hgetI k hk, Int.toNat_natCast, Int.toNat_natCast, hlev _ (hmem j hj), hlev _ (hmem k hk)]
    rcases Nat.lt_or_eq_of_le hjk with h1 | h1
    · exact (List.pairwise_iff_getElem.mp (spec_sorted ihmax (mk * mth) (levOf imi))) j k _ _ h1
    · subst h1; exact Nat.le_refl _

theorem graphOf_level_lt (mk mth ihmax : Nat) {imi : Array Int} (hs : imi.size = mk * mth)
    (hl : ∀ i, i < mk * mth → 0 ≤ imi[i]! ∧ imi[i]! < ihmax) (p : Nat) (hp : p < mk * mth) :
    (graphOf mk mth (rows mk mth) imi).level p < ihmax := by
  have := hl p hp
  simp [graphOf, Array.getD, hs, hp]
  have e : imi[p]! = imi[p]'(by rw [hs]; exact hp) := by simp [hs, hp]
  rw [e] at this
  omega

theorem partitionM_specG (nk nth ihmax : Nat) (spec : Array Int) (iqFill : Int)
    (hk : 1 ≤ nk) (ht : 1 ≤ nth) (hi : 1 ≤ ihmax) (hs : spec.size = nk * nth) :
    ⦃fun o => ⌜o = false⌝⦄ partitionM nk nth ihmax (Neigh.table nk nth) spec iqFill true
    ⦃⇓ r o => ⌜o = false ∧ (r.const = false →
      ∃ s, run (graphOf nk nth (rows nk nth) r.imi) r.trace.toList = some s ∧
        (s.phase = .idle ∨ s.phase = .sweeping) ∧
        ∀ p, p < nk * nth → (graphOf nk nth (rows nk nth) r.imi).level p < s.h)⌝⦄ := by
  rw [triple_iff]
  intro o ho
  obtain ⟨ho', z, zmin, zmax, hz, -, -, -, hr⟩ :=
    (triple_iff _ _ _).mp (partitionM_run nk nth ihmax spec iqFill true hk ht (Or.inl hi) hs) o ho
  generalize partitionM nk nth ihmax (Neigh.table nk nth) spec iqFill true o = p at hr ho' ⊢
  refine ⟨ho', fun hc => ?_⟩
  split at hr
  · rw [hr] at hc; cases hc
  · obtain ⟨-, hn, himi, hind, hsort, F, hF, htr, -⟩ := hr
    have hlev := himi ▸ map_level_ok ihmax hi zmin zmax hz
    obtain ⟨s, hrun, hR⟩ := ((triple_iff _ _ _).mp (ptFld_specG (zp := z.map (zmax - ·))
      (ctx_partition nk nth ihmax hlev.1 hlev.2 hind hsort) ihmax iqFill (Array.size_map.trans hz) hn
      (graphOf_level_lt nk nth ihmax hlev.1 hlev.2)) false rfl).2
    rw [← hF, ← htr] at hrun
    exact ⟨s, hrun, hR.ph, hR.hh⟩

end WS.Fld
