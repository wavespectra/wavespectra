import WsVerif.Lemmas.Fld.Eff
import WsVerif.Lemmas.Fld.Sort
/-! Simulation between the concrete arrays of `pt_fld` and the abstract flooding machine (`Model/Flood.lean`): static
context (`Ctx`: graph = neighbour table + level map, symmetric; `ind` sorted), what `labC` makes of the values of `imo`,
how a valid trace is extended by one event (`run_push`), the cursor invariants of the two scanning loops (`MInv`, `Pos`). -/
namespace WS.Fld
open Std.Do WS.SP WS.Flood

/-- what the loops of `pt_fld` are given, and the graph on which the ghost trace is replayed -/
structure Ctx (n : Nat) (nb imi ind : Array Int) (g : Graph) : Prop where
  nbok : NbOK n nb
  indok : IndOK n ind
  isz : imi.size = n
  gn : g.n = n
  adj_mem : ∀ ip : Int, Pix n ip → ∀ i : Nat, (i : Int) < nb[(8 + 9 * ip).toNat]! →
    (nb[((i : Int) + 9 * ip).toNat]!).toNat ∈ g.adj ip.toNat
  adj_cov : ∀ ip : Int, Pix n ip → ∀ y ∈ g.adj ip.toNat,
    ∃ i : Nat, (i : Int) < nb[(8 + 9 * ip).toNat]! ∧ nb[((i : Int) + 9 * ip).toNat]! = (y : Int)
  adj_symm : ∀ x y, x < n → y ∈ g.adj x → x ∈ g.adj y
  lev : ∀ p, p < n → (g.level p : Int) = imi[p]!
  sorted : ∀ j k : Nat, j ≤ k → k < n → g.level (ind[j]!).toNat ≤ g.level (ind[k]!).toNat

section
variable {n : Nat} {nb imi ind : Array Int} {g : Graph}

theorem Ctx.adj_lt (C : Ctx n nb imi ind g) {p y : Nat} (hp : p < n) (hy : y ∈ g.adj p) : y < n := by
  have hpx : Pix n (p : Int) := ⟨by omega, by omega⟩
  obtain ⟨i, hi, he⟩ := C.adj_cov p hpx y (by rw [Int.toNat_natCast]; exact hy)
  have := C.nbok.ent p hpx i hi
  rw [he] at this
  have := this.2; omega

theorem Ctx.ind_lt (C : Ctx n nb imi ind g) {k : Nat} (hk : k < n) : (ind[k]!).toNat < n ∧ 0 ≤ ind[k]! := by
  have := C.indok.rng k hk
  simp only [Pix] at this; omega

theorem Ctx.ind_inj (C : Ctx n nb imi ind g) {j k : Nat} (hj : j < n) (hk : k < n)
    (h : (ind[j]!).toNat = (ind[k]!).toNat) : j = k := by
  have h1 := C.ind_lt hj; have h2 := C.ind_lt hk
  exact C.indok.inj j k hj hk (by omega)

theorem Ctx.lev_eq (C : Ctx n nb imi ind g) {p : Nat} (hp : p < n) (ih : Nat) :
    imi[p]! = (ih : Int) ↔ g.level p = ih := by
  have := C.lev p hp; omega

theorem Ctx.ind_surj (C : Ctx n nb imi ind g) {p : Nat} (hp : p < n) : ∃ k, k < n ∧ ind[k]! = (p : Int) := by
  obtain ⟨k, hk, he⟩ := inj_surj (n := n) (fun k => (ind[k]!).toNat) (fun i hi => (C.ind_lt hi).1)
    (fun i j hi hj h => C.ind_inj hi hj h) p hp
  exact ⟨k, hk, by have := (C.ind_lt hk).2; omega⟩
end

@[simp] theorem labC_m1 : labC (-1) = .init := rfl
@[simp] theorem labC_m2 : labC (-2) = .mask := rfl
@[simp] theorem labC_0 : labC 0 = .wshed := rfl

theorem labC_cases (v : Int) : (v = -1 ∧ labC v = .init) ∨ (v = -2 ∧ labC v = .mask) ∨ (v = 0 ∧ labC v = .wshed) ∨
    (v ≠ -1 ∧ v ≠ -2 ∧ v ≠ 0 ∧ labC v = .basin v.toNat) := by
  unfold labC
  split
  · exact Or.inl ⟨‹_›, rfl⟩
  split
  · exact Or.inr (Or.inl ⟨‹_›, rfl⟩)
  split
  · exact Or.inr (Or.inr (Or.inl ⟨‹_›, rfl⟩))
  · exact Or.inr (Or.inr (Or.inr ⟨‹_›, ‹_›, ‹_›, rfl⟩))

theorem labC_init (v : Int) : labC v = .init ↔ v = -1 := by
  rcases labC_cases v with ⟨a, b⟩ | ⟨a, b⟩ | ⟨a, b⟩ | ⟨_, _, _, b⟩ <;> rw [b] <;> simp <;> omega

theorem labC_mask (v : Int) : labC v = .mask ↔ v = -2 := by
  rcases labC_cases v with ⟨a, b⟩ | ⟨a, b⟩ | ⟨a, b⟩ | ⟨_, _, _, b⟩ <;> rw [b] <;> simp <;> omega

theorem labC_wshed_iff (v : Int) : labC v = .wshed ↔ v = 0 := by
  rcases labC_cases v with ⟨a, b⟩ | ⟨a, b⟩ | ⟨a, b⟩ | ⟨_, _, _, b⟩ <;> rw [b] <;> simp <;> omega

theorem labC_wshed {v : Int} (h : -2 ≤ v) : labC v = .wshed ↔ v = 0 := labC_wshed_iff v

theorem labC_basin {v : Int} {k : Nat} (h : labC v = .basin k) (hk : 1 ≤ k) : v = (k : Int) := by
  rcases labC_cases v with ⟨a, b⟩ | ⟨a, b⟩ | ⟨a, b⟩ | ⟨_, _, _, b⟩ <;> rw [b] at h <;> cases h
  omega

theorem labC_labelled {v : Int} (h : -2 ≤ v) : (labC v).labelled = true ↔ 0 ≤ v := by
  rcases labC_cases v with ⟨a, b⟩ | ⟨a, b⟩ | ⟨a, b⟩ | ⟨_, _, _, b⟩ <;> rw [b] <;> simp [Lab.labelled] <;> omega

theorem labC_unlabelled {v : Int} (h : -2 ≤ v) : (labC v).unlabelled = true ↔ v < 0 := by
  rcases labC_cases v with ⟨a, b⟩ | ⟨a, b⟩ | ⟨a, b⟩ | ⟨_, _, _, b⟩ <;> rw [b] <;> simp [Lab.unlabelled] <;> omega

theorem labC_isBasin {v : Int} (h : -2 ≤ v) : (labC v).isBasin = true ↔ 1 ≤ v := by
  rcases labC_cases v with ⟨a, b⟩ | ⟨a, b⟩ | ⟨a, b⟩ | ⟨_, _, _, b⟩ <;> rw [b] <;> simp [Lab.isBasin] <;> omega

theorem labC_inj {v w : Int} (hv : -2 ≤ v) (hw : -2 ≤ w) (h : labC v = labC w) : v = w := by
  rcases labC_cases v with ⟨a, b⟩ | ⟨a, b⟩ | ⟨a, b⟩ | ⟨_, _, _, b⟩ <;>
    rcases labC_cases w with ⟨c, d⟩ | ⟨c, d⟩ | ⟨c, d⟩ | ⟨_, _, _, d⟩ <;> rw [b, d] at h <;> simp at h <;> omega

theorem runFrom_append {g : Graph} (t1 t2 : List Step) : ∀ s : St,
    runFrom g s (t1 ++ t2) = (runFrom g s t1).bind fun s' => runFrom g s' t2 := by
  induction t1 with
  | nil => intro s; simp [runFrom]
  | cons e t ih =>
    intro s
    simp only [List.cons_append, runFrom]
    split
    · exact ih _
    · rfl

theorem run_push {g : Graph} {t : Array Step} {s s' : St} {e : Step} (h : run g t.toList = some s)
    (hs : step g s e = some s') : run g (pushIf true t e).toList = some s' := by
  unfold run at *
  simp only [pushIf, if_true, Array.toList_push]
  rw [runFrom_append, h]
  simp [runFrom, hs]

theorem labOf_map {s : St} {imo : Array Int} (h : s.lab = imo.map labC) {p : Nat} (hp : p < imo.size) :
    s.labOf p = labC imo[p]! := by
  unfold St.labOf; rw [h]; exact getD_map _ _ hp

theorem getD_setB (a : Array Bool) (i j : Nat) (v : Bool) :
    (a.setIfInBounds i v).getD j false = if j = i ∧ i < a.size then v else a.getD j false := by
  rw [Array.getD_eq_getD_getElem?, Array.getD_eq_getD_getElem?, Array.getElem?_setIfInBounds]
  by_cases hj : i = j
  · subst hj
    by_cases h : i < a.size <;> simp [h]
  · have : ¬ j = i := fun h => hj h.symm
    simp [hj, this]

theorem finOf_set {s s' : St} {p : Nat} (h : s'.fin = s.fin.setIfInBounds p true) (hp : p < s.fin.size) (x : Nat) :
    s'.finOf x = if x = p then true else s.finOf x := by
  unfold St.finOf
  rw [h, getD_setB]
  by_cases hx : x = p
  · rw [if_pos ⟨hx, hp⟩, if_pos hx]
  · rw [if_neg (fun hh => hx hh.1), if_neg hx]

/-- between levels: the cursor `m` points to the first pixel of level `≥ ih` (or is clamped at `n-1`) -/
structure MInv (n : Nat) (ind : Array Int) (g : Graph) (ih : Nat) (m : Int) : Prop where
  m0 : 0 ≤ m
  m1 : m < n
  lt : ∀ k : Nat, k < n → (k : Int) < m → g.level (ind[k]!).toNat < ih
  ge : ∀ k : Nat, k < n → m < (k : Int) → ih ≤ g.level (ind[k]!).toNat
  clamp : g.level (ind[m.toNat]!).toNat < ih → m = n - 1

/-- inside the scanning loops of level `ih`: positions before `m` hold levels `≤ ih`, positions after it levels `≥ ih` -/
structure Pos (n : Nat) (ind : Array Int) (g : Graph) (ih : Nat) (m : Int) : Prop where
  m0 : 0 ≤ m
  m1 : m < n
  le : ∀ k : Nat, k < n → (k : Int) < m → g.level (ind[k]!).toNat ≤ ih
  ge : ∀ k : Nat, k < n → m < (k : Int) → ih ≤ g.level (ind[k]!).toNat
  clamp : g.level (ind[m.toNat]!).toNat < ih → m = n - 1

section
variable {n : Nat} {nb imi ind : Array Int} {g : Graph} {ih : Nat} {m : Int}

theorem MInv.pos (h : MInv n ind g ih m) : Pos n ind g ih m :=
  ⟨h.m0, h.m1, fun k hk hm => Nat.le_of_lt (h.lt k hk hm), h.ge, h.clamp⟩

theorem MInv.zero (hn : 1 ≤ n) : MInv n ind g 0 0 :=
  ⟨by omega, by omega, fun k _ h => by omega, fun _ _ _ => Nat.zero_le _, fun h => by omega⟩

theorem Pos.pix (C : Ctx n nb imi ind g) (h : Pos n ind g ih m) : (ind[m.toNat]!).toNat < n ∧ 0 ≤ ind[m.toNat]! :=
  C.ind_lt (by have := h.m0; have := h.m1; omega)

/-- the test by which the scanning loops go on, in terms of the graph -/
theorem Pos.lev_eq (C : Ctx n nb imi ind g) (h : Pos n ind g ih m) :
    ¬(imi[(ind[m.toNat]!).toNat]! != (ih : Int)) = true ↔ g.level (ind[m.toNat]!).toNat = ih := by
  rw [← C.lev_eq (h.pix C).1]; simp

theorem Pos.step (C : Ctx n nb imi ind g) (h : Pos n ind g ih m) (hl : g.level (ind[m.toNat]!).toNat = ih)
    (hm : ¬ m > (n : Int) - 2) : Pos n ind g ih (m + 1) := by
  have h0 := h.m0
  refine ⟨by omega, by omega, fun k hk hkm => ?_, fun k hk hkm => h.ge k hk (by omega), fun hlt => ?_⟩
  · by_cases hk' : (k : Int) < m
    · exact h.le k hk hk'
    · have : k = m.toNat := by omega
      rw [this, hl]; exact Nat.le_refl _
  · have := C.sorted m.toNat (m + 1).toNat (by omega) (by omega)
    omega

theorem Pos.exit_ne (C : Ctx n nb imi ind g) (h : Pos n ind g ih m) (hl : g.level (ind[m.toNat]!).toNat ≠ ih)
    {k : Nat} (hk : k < n) (hlk : g.level (ind[k]!).toNat = ih) : (k : Int) < m := by
  have h0 := h.m0
  apply Classical.byContradiction
  intro hnot
  have hne : k ≠ m.toNat := fun e => hl (e ▸ hlk)
  have hgt : m < (k : Int) := by omega
  have hs := C.sorted m.toNat k (by omega) hk
  have hc := h.clamp (by omega)
  omega

theorem Pos.next_ne (C : Ctx n nb imi ind g) (h : Pos n ind g ih m) (hl : g.level (ind[m.toNat]!).toNat ≠ ih) :
    MInv n ind g (ih + 1) m := by
  have h0 := h.m0
  refine ⟨h.m0, h.m1, fun k hk hkm => Nat.lt_succ_of_le (h.le k hk hkm), fun k hk hkm => ?_, fun hlt => h.clamp (by omega)⟩
  have h1 := h.ge k hk hkm
  have hs := C.sorted m.toNat k (by omega) hk
  apply Classical.byContradiction
  intro hnot
  have hc := h.clamp (by omega)
  omega

theorem Pos.next_last (h : Pos n ind g ih m) (hm : m > (n : Int) - 2) : MInv n ind g (ih + 1) m := by
  have h0 := h.m0; have h1 := h.m1
  refine ⟨h.m0, h.m1, fun k hk hkm => Nat.lt_succ_of_le (h.le k hk hkm), fun k hk hkm => by omega, fun _ => by omega⟩

theorem MInv.le_of (h : MInv n ind g ih m) {k : Nat} (hk : k < n) (hlk : g.level (ind[k]!).toNat = ih) : m ≤ (k : Int) := by
  apply Classical.byContradiction
  intro hnot
  have := h.lt k hk (by omega)
  omega
end

end WS.Fld
