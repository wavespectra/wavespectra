import WsVerif.Lemmas.Fld.G1a
/-! Step 1b of `pt_fld` with the simulation relation: the queue holds the pixels of the current geodesic distance,
then the fictitious pixel, then those of the next distance; every dequeued pixel finds a final labelled neighbour of
smaller distance, so `inherit` / `conflict` / `finalize` satisfy their guards; when the queue is empty no `MASK` pixel
of the level touches a labelled pixel (`endqueue`), which leads to the relation of step 1c (`R1c`). -/
namespace WS.Fld
open Std.Do WS.SP WS.Flood
set_option mvcgen.warning false
attribute [local spec high] rd_val wr_val fifoAdd_val fifoFirst_val

/-- slot `j` of the neighbour row of pixel `ip`, as a pixel number -/
abbrev nbN (nb : Array Int) (ip : Int) (j : Nat) : Nat := (nb[((j : Int) + 9 * ip).toNat]!).toNat

/-- the slots of the row of pixel `p` hold neighbours of `p` … -/
theorem Ctx.slot_adj {n : Nat} {nb imi ind : Array Int} {g : Graph} (C : Ctx n nb imi ind g) {p i : Nat} (hp : p < n)
    (hi : (i : Int) < nb[(8 + 9 * (p : Int)).toNat]!) : nbN nb p i ∈ g.adj p ∧ nbN nb p i < n := by
  have := C.adj_mem p ⟨by omega, by omega⟩ i hi
  rw [Int.toNat_natCast] at this
  exact ⟨this, C.adj_lt hp this⟩

/-- … and every neighbour is in one of them -/
theorem Ctx.adj_slot {n : Nat} {nb imi ind : Array Int} {g : Graph} (C : Ctx n nb imi ind g) {p y : Nat} (hp : p < n)
    (hy : y ∈ g.adj p) : ∃ j : Nat, (j : Int) < nb[(8 + 9 * (p : Int)).toNat]! ∧ nbN nb p j = y := by
  obtain ⟨j, hj, he⟩ := C.adj_cov p ⟨by omega, by omega⟩ y (by rw [Int.toNat_natCast]; exact hy)
  exact ⟨j, hj, by unfold nbN; rw [he, Int.toNat_natCast]⟩

/-- 1b at the loop head: `D` processed, `A` waiting at distance `dist`, `B` waiting at distance `dist+1` -/
structure R1b (n : Nat) (g : Graph) (s : St) (D A B : List Nat) (imo imd : Array Int) (icl : Int) (ih : Nat)
    (dist : Int) : Prop where
  base : Base n g s imo icl ih
  sd : imd.size = n
  ph : s.phase = .opn
  d1 : 1 ≤ dist
  cur1 : ∀ x ∈ s.cur, x < n ∧ g.level x = ih
  cur2 : ∀ p, p < n → g.level p = ih → p ∈ s.cur
  nd : (D ++ (A ++ B)).Nodup
  lv : ∀ x ∈ D ++ (A ++ B), x < n ∧ g.level x = ih ∧ imd[x]! ≠ 0
  imd0 : ∀ p, p < n → p ∉ D ++ (A ++ B) → imd[p]! = 0
  dfin : ∀ x ∈ D, s.finOf x = true ∧ 0 ≤ imo[x]! ∧ imd[x]! ≤ dist
  nfin : ∀ p, p < n → g.level p = ih → p ∉ D → s.finOf p = false ∧ imo[p]! = -2
  adist : ∀ x ∈ A, imd[x]! = dist ∧ ∃ y ∈ g.adj x, s.finOf y = true ∧ 0 ≤ imo[y]! ∧ imd[y]! < dist
  bdist : ∀ x ∈ B, imd[x]! = dist + 1 ∧ ∃ y ∈ g.adj x, y ∈ D
  compl : ∀ p, p < n → imo[p]! = -2 → imd[p]! = 0 → ∀ y ∈ g.adj p, ih ≤ g.level y ∧ y ∉ D

/-- 1b inside an iteration: pixel `p` dequeued, the first `i` slots of its neighbour row examined -/
structure R1bMid (n : Nat) (nb : Array Int) (g : Graph) (s : St) (D A B : List Nat) (p : Nat) (imo imd : Array Int)
    (icl : Int) (ih : Nat) (dist : Int) (i : Nat) : Prop where
  base : Base n g s imo icl ih
  sd : imd.size = n
  ph : s.phase = .opn
  d1 : 1 ≤ dist
  cur1 : ∀ x ∈ s.cur, x < n ∧ g.level x = ih
  cur2 : ∀ x, x < n → g.level x = ih → x ∈ s.cur
  nd : (D ++ p :: (A ++ B)).Nodup
  lv : ∀ x ∈ D ++ p :: (A ++ B), x < n ∧ g.level x = ih ∧ imd[x]! ≠ 0
  imd0 : ∀ x, x < n → x ∉ D ++ p :: (A ++ B) → imd[x]! = 0
  dfin : ∀ x ∈ D, s.finOf x = true ∧ 0 ≤ imo[x]! ∧ imd[x]! ≤ dist
  nfin : ∀ x, x < n → g.level x = ih → x ∉ D → x ≠ p → s.finOf x = false ∧ imo[x]! = -2
  adist : ∀ x ∈ A, imd[x]! = dist ∧ ∃ y ∈ g.adj x, s.finOf y = true ∧ 0 ≤ imo[y]! ∧ imd[y]! < dist
  bdist : ∀ x ∈ B, imd[x]! = dist + 1 ∧ ∃ y ∈ g.adj x, y ∈ D ∨ y = p
  compl : ∀ x, x < n → imo[x]! = -2 → imd[x]! = 0 → ∀ y ∈ g.adj x, ih ≤ g.level y ∧ y ∉ D
  pf : s.finOf p = false
  pd : imd[p]! = dist
  pl : imo[p]! = -2 ∨ imo[p]! = 0 ∨ (0 < imo[p]! ∧ ∃ y ∈ g.adj p, s.finOf y = true ∧ imo[y]! = imo[p]!)
  pa : ∃ y ∈ g.adj p, s.finOf y = true ∧ 0 ≤ imo[y]! ∧ imd[y]! < dist
  pw : ∀ j : Nat, j < i → 0 ≤ imo[nbN nb p j]! → imd[nbN nb p j]! < dist → 0 ≤ imo[p]!
  pc : ∀ j : Nat, j < i → ¬(imo[nbN nb p j]! = -2 ∧ imd[nbN nb p j]! = 0)

section
variable {n : Nat} {nb imi ind : Array Int} {g : Graph} {s : St} {D A B : List Nat} {p : Nat} {imo imd : Array Int}
  {icl : Int} {ih : Nat} {dist : Int} {i : Nat}

theorem R1a.to1b (C : Ctx n nb imi ind g) {q : List Nat} (h : R1a n ind g s q imo imd icl ih n) :
    R1b n g s [] q [] imo imd icl ih 1 := by
  have hmask : ∀ p, p < n → g.level p = ih → imo[p]! = -2 ∧ p ∈ s.cur := by
    intro p hp hl
    obtain ⟨k, hk, he⟩ := C.ind_surj hp
    have := (h.lvl k hk (by rw [he, Int.toNat_natCast]; exact hl)).1 (by omega)
    rwa [he, Int.toNat_natCast] at this
  refine ⟨h.base, h.sd, h.ph, by omega, h.cur, fun p hp hl => (hmask p hp hl).2, by simpa using h.qnd, ?_, ?_, by simp,
    fun p hp hl _ => ⟨h.nf p hp hl, (hmask p hp hl).1⟩, ?_, by simp, ?_⟩
  · intro x hx
    simp at hx
    obtain ⟨a, b, c, d, e⟩ := h.qlv x hx
    exact ⟨a, b, by omega⟩
  · intro p hp hq
    simp at hq
    exact h.imd0 p hp hq
  · intro x hx
    obtain ⟨a, b, c, d, y, hy, hly⟩ := h.qlv x hx
    have hyn := C.adj_lt a hy
    have hyq : y ∉ q := fun hm => by have := (h.qlv y hm).2.1; omega
    have := h.base.old y hyn hly
    exact ⟨d, y, hy, this.1, this.2, by rw [h.imd0 y hyn hyq]; omega⟩
  · intro p hp hm hd y hy
    have hpq : p ∉ q := fun hm' => by have := (h.qlv p hm').2.2.2.1; omega
    exact ⟨h.compl p hp hm hpq y hy, by simp⟩

theorem R1b.len (h : R1b n g s D A B imo imd icl ih dist) : D.length + A.length + B.length ≤ n := by
  have := pigeonN n _ h.nd (fun x hx => (h.lv x hx).1)
  simp at this; omega

theorem R1bMid.len (h : R1bMid n nb g s D A B p imo imd icl ih dist i) : D.length + 1 + A.length + B.length ≤ n := by
  have := pigeonN n _ h.nd (fun x hx => (h.lv x hx).1)
  simp at this; omega

theorem R1b.pop {a : Nat} (h : R1b n g s D (a :: A) B imo imd icl ih dist) :
    R1bMid n nb g s D A B a imo imd icl ih dist 0 := by
  have hnd : (D ++ a :: (A ++ B)).Nodup := by simpa using h.nd
  have haD : a ∉ D := fun hm => (List.nodup_append.mp hnd).2.2 a hm a (by simp) rfl
  have ha := h.lv a (by simp)
  have hnf := h.nfin a ha.1 ha.2.1 haD
  exact ⟨h.base, h.sd, h.ph, h.d1, h.cur1, h.cur2, hnd, by simpa using h.lv, by simpa using h.imd0, h.dfin,
    fun x hx hl hD _ => h.nfin x hx hl hD, fun x hx => h.adist x (by simp [hx]),
    fun x hx => (h.bdist x hx).imp_right fun ⟨y, hy, hyD⟩ => ⟨y, hy, Or.inl hyD⟩, h.compl, hnf.1,
    (h.adist a (by simp)).1, Or.inl hnf.2, (h.adist a (by simp)).2, by intro j hj; omega, by intro j hj; omega⟩

/-- the fictitious pixel is at the head: the pixels waiting behind it are those of the next distance -/
theorem R1b.promote (h : R1b n g s D [] B imo imd icl ih dist) : R1b n g s D B [] imo imd icl ih (dist + 1) := by
  have hd1 := h.d1
  refine { h with d1 := by omega, nd := by simpa using h.nd, lv := by simpa using h.lv, imd0 := by simpa using h.imd0,
                  dfin := fun x hx => ?_, adist := fun x hx => ?_, bdist := by simp }
  · have := h.dfin x hx
    exact ⟨this.1, this.2.1, by omega⟩
  · obtain ⟨e, y, hy, hyD⟩ := h.bdist x hx
    have := h.dfin y hyD
    exact ⟨e, y, hy, this.1, this.2.1, by omega⟩

theorem relabel_some {c l v : Int} {inh : Bool} (hr : WS.SP.relabel c l = some (v, inh)) :
    (inh = true ∧ v = l ∧ 0 < l ∧ (c = -2 ∨ c = 0)) ∨ (inh = false ∧ v = 0) := by
  unfold WS.SP.relabel at hr
  split at hr <;> split at hr <;> try split at hr
  all_goals simp_all
  all_goals omega

theorem relabel_none {c l : Int} (hr : WS.SP.relabel c l = none) (hc : c = -2 ∨ c = 0 ∨ 0 < c) : 0 ≤ c := by
  rcases hc with rfl | rfl | h
  · unfold WS.SP.relabel at hr
    split at hr <;> simp at hr
  · omega
  · omega

theorem step_inherit {g : Graph} {s : St} {p q : Nat} (hph : s.phase = .opn) (hp : p < g.n) (hq : q < g.n)
    (hfp : s.finOf p = false) (ha : q ∈ g.adj p) (hfq : s.finOf q = true) (hb : (s.labOf q).isBasin = true)
    (hl : s.labOf p = .mask ∨ s.labOf p = .wshed) :
    step g s (.inherit p q) = some { s with lab := s.lab.setIfInBounds p (s.labOf q) } := by
  have hc : (g.adj p).contains q = true := by simpa using ha
  simp only [step]
  rw [if_pos ⟨hph, hp, hq, hfp, hc, hfq, hb, hl⟩]

theorem step_conflict {g : Graph} {s : St} {p q : Nat} (hph : s.phase = .opn) (hp : p < g.n)
    (hfp : s.finOf p = false) (hl : s.labOf p ≠ .init) (ha : q ∈ g.adj p) (hfq : s.finOf q = true)
    (hb : (s.labOf q).labelled = true) :
    step g s (.conflict p) = some { s with lab := s.lab.setIfInBounds p .wshed } := by
  have hc : ((g.adj p).any fun q => s.finOf q && (s.labOf q).labelled) = true :=
    List.any_eq_true.mpr ⟨q, ha, by simp [hfq, hb]⟩
  simp only [step]
  rw [if_pos ⟨hph, hp, hfp, hl, hc⟩]

theorem step_finalize {g : Graph} {s : St} {p : Nat} (hph : s.phase = .opn) (hp : p < g.n)
    (hfp : s.finOf p = false)
    (hl : s.labOf p = .wshed ∨ ((s.labOf p).isBasin = true ∧ ∃ q ∈ g.adj p, s.finOf q = true ∧ s.labOf q = s.labOf p)) :
    step g s (.finalize p) = some { s with fin := s.fin.setIfInBounds p true } := by
  have hc : s.labOf p = .wshed ∨ ((s.labOf p).isBasin = true ∧
      ((g.adj p).any fun q => s.finOf q && s.labOf q == s.labOf p) = true) := by
    rcases hl with hl | ⟨hb, q, hq, hf, he⟩
    · exact Or.inl hl
    · exact Or.inr ⟨hb, List.any_eq_true.mpr ⟨q, hq, by simp [hf, he]⟩⟩
  simp only [step]
  rw [if_pos ⟨hph, hp, hfp, hc⟩]

/-- a labelled neighbour of smaller distance is final (and is not the pixel being processed) -/
theorem R1bMid.nb_fin (h : R1bMid n nb g s D A B p imo imd icl ih dist i) {y : Nat} (hy : y < n) (hl : 0 ≤ imo[y]!)
    (hd : imd[y]! < dist) : s.finOf y = true ∧ y ≠ p := by
  have hne : y ≠ p := fun e => by have := h.pd; rw [e] at hd; omega
  refine ⟨?_, hne⟩
  rcases Nat.lt_trichotomy (g.level y) ih with h1 | h1 | h1
  · exact (h.base.old y hy h1).1
  · by_cases hD : y ∈ D
    · exact (h.dfin y hD).1
    · have := (h.nfin y hy h1 hD hne).2; omega
  · have := (h.base.new y hy h1).2; omega

theorem R1bMid.p_lt (h : R1bMid n nb g s D A B p imo imd icl ih dist i) : p < n ∧ g.level p = ih ∧ p ∉ D := by
  have := h.lv p (by simp)
  exact ⟨this.1, this.2.1, fun hm => (List.nodup_append.mp h.nd).2.2 p hm p (by simp) rfl⟩

end

section
variable {n : Nat} {nb imi ind : Array Int} {g : Graph}

/-- `inherit` / `conflict` -/
theorem R1bMid.relabel (C : Ctx n nb imi ind g) {s : St} {D A B : List Nat} {p : Nat} {imo imd : Array Int} {icl : Int}
    {ih : Nat} {dist : Int} {i : Nat} (h : R1bMid n nb g s D A B p imo imd icl ih dist i)
    (hi : (i : Int) < nb[(8 + 9 * (p : Int)).toNat]!)
    (hc : imd[nbN nb p i]! < dist ∧ 0 ≤ imo[nbN nb p i]!)
    {v : Int} {inh : Bool} (hr : WS.SP.relabel imo[p]! imo[nbN nb p i]! = some (v, inh)) :
    ∃ s', step g s (if inh then .inherit p (nbN nb p i) else .conflict p) = some s' ∧
      R1bMid n nb g s' D A B p (imo.set! p v) imd icl ih dist (i + 1) := by
  obtain ⟨hp, hpl, hpD⟩ := h.p_lt
  obtain ⟨hyadj, hy⟩ := C.slot_adj hp hi
  generalize hyd : nbN nb p i = y at *
  obtain ⟨hfy, hyp⟩ := h.nb_fin hy hc.2 hc.1
  have hget := fun j => get_setP imo p j v (h.base.so ▸ hp)
  have hlo := h.base.lo
  have hgn := C.gn
  have hpl3 : imo[p]! = -2 ∨ imo[p]! = 0 ∨ 0 < imo[p]! := by rcases h.pl with h1 | h1 | h1 <;> omega
  -- the event is enabled and writes `labC v`; `v` is `0` or the label of the neighbour
  have key : step g s (if inh then .inherit p y else .conflict p) = some { s with lab := s.lab.setIfInBounds p (labC v) } ∧
      (v = 0 ∨ (0 < v ∧ v = imo[y]!)) := by
    rcases relabel_some hr with ⟨rfl, rfl, h2, h3⟩ | ⟨rfl, rfl⟩
    · refine ⟨?_, Or.inr ⟨h2, rfl⟩⟩
      rw [← h.base.labOf hy]
      refine step_inherit h.ph (hgn ▸ hp) (hgn ▸ hy) h.pf hyadj hfy ?_ ?_
      · rw [h.base.labOf hy]; exact (labC_isBasin (hlo y hy)).mpr (by omega)
      · rw [h.base.labOf hp]
        rcases h3 with h3 | h3 <;> rw [h3] <;> simp
    · refine ⟨step_conflict h.ph (hgn ▸ hp) h.pf ?_ hyadj hfy ?_, Or.inl rfl⟩
      · rw [h.base.labOf hp]
        exact fun e => by have := (labC_init _).mp e; omega
      · rw [h.base.labOf hy]; exact (labC_labelled (hlo y hy)).mpr hc.2
  have hv : 0 ≤ v := by rcases key.2 with rfl | ⟨h1, -⟩ <;> omega
  -- labels only go up: a labelled pixel stays labelled and no pixel becomes `MASK`
  have up : ∀ x : Nat, 0 ≤ imo[x]! → 0 ≤ (imo.set! p v)[x]! := fun x hx => by rw [hget]; split <;> assumption
  have dn : ∀ x : Nat, (imo.set! p v)[x]! = -2 → imo[x]! = -2 := fun x hx => by
    rw [hget] at hx; split at hx
    · omega
    · exact hx
  refine ⟨_, key.1, { h with base := ?_, dfin := ?_, nfin := ?_, adist := ?_, compl := ?_, pl := ?_, pa := ?_, pw := ?_, pc := ?_ }⟩
  · exact h.base.set hp hpl (by omega) rfl (fun _ _ => rfl) h.base.fsz h.base.K h.base.icl0 rfl
  · exact fun x hx => ⟨(h.dfin x hx).1, up x (h.dfin x hx).2.1, (h.dfin x hx).2.2⟩
  · intro x hx hlx hxD hxp
    rw [hget, if_neg hxp]; exact h.nfin x hx hlx hxD hxp
  · intro x hx
    obtain ⟨e, w, hw, hfw, hlw, hdw⟩ := h.adist x hx
    exact ⟨e, w, hw, hfw, up w hlw, hdw⟩
  · exact fun x hx hxm => h.compl x hx (dn x hxm)
  · rw [hget, if_pos rfl]
    rcases key.2 with rfl | ⟨h1, h2⟩
    · exact Or.inr (Or.inl rfl)
    · exact Or.inr (Or.inr ⟨h1, y, hyadj, hfy, by rw [hget, if_neg hyp]; exact h2.symm⟩)
  · obtain ⟨w, hw, hfw, hlw, hdw⟩ := h.pa
    exact ⟨w, hw, hfw, up w hlw, hdw⟩
  · intro j _ _ _
    rw [hget, if_pos rfl]; exact hv
  · intro j hj hm
    have hm2 := dn _ hm.1
    rcases Nat.lt_succ_iff_lt_or_eq.mp hj with hj | rfl
    · exact h.pc j hj ⟨hm2, hm.2⟩
    · rw [hyd] at hm2; omega
end

section
variable {n : Nat} {nb imi ind : Array Int} {g : Graph} {s : St} {D A B : List Nat} {p : Nat} {imo imd : Array Int}
  {icl : Int} {ih : Nat} {dist : Int} {i : Nat}

/-- slot `i` changes nothing -/
theorem R1bMid.keep (h : R1bMid n nb g s D A B p imo imd icl ih dist i)
    (hc : (imd[nbN nb p i]! < dist ∧ 0 ≤ imo[nbN nb p i]! ∧ WS.SP.relabel imo[p]! imo[nbN nb p i]! = none) ∨
      (¬(imd[nbN nb p i]! < dist ∧ 0 ≤ imo[nbN nb p i]!) ∧ ¬(imo[nbN nb p i]! = -2 ∧ imd[nbN nb p i]! = 0))) :
    R1bMid n nb g s D A B p imo imd icl ih dist (i + 1) := by
  refine { h with pw := Nat.forall_lt_succ_right.mpr ⟨h.pw, fun h1 h2 => ?_⟩, pc := Nat.forall_lt_succ_right.mpr ⟨h.pc, ?_⟩ }
  · rcases hc with ⟨-, hl, hr⟩ | ⟨hn, -⟩
    · exact relabel_none hr (by rcases h.pl with a | a | a <;> omega)
    · exact absurd ⟨h2, h1⟩ hn
  · rcases hc with ⟨-, hl, -⟩ | ⟨-, hn⟩
    · omega
    · exact hn

/-- slot `i` holds a `MASK` pixel without distance: it joins the queue behind the fictitious pixel -/
theorem R1bMid.add (C : Ctx n nb imi ind g) (h : R1bMid n nb g s D A B p imo imd icl ih dist i)
    (hi : (i : Int) < nb[(8 + 9 * (p : Int)).toNat]!) (hc : imo[nbN nb p i]! = -2 ∧ imd[nbN nb p i]! = 0) :
    R1bMid n nb g s D A (B ++ [nbN nb p i]) p imo (imd.set! (nbN nb p i) (dist + 1)) icl ih dist (i + 1) := by
  obtain ⟨hp, hpl, hpD⟩ := h.p_lt
  have hd1 := h.d1
  obtain ⟨hyadj, hy⟩ := C.slot_adj hp hi
  have hpc := h.pc
  have hpw := h.pw
  generalize hyd : nbN nb p i = y at *
  have hget := fun j => get_setP imd y j (dist + 1) (h.sd ▸ hy)
  have hynot : y ∉ D ++ p :: (A ++ B) := fun hm => (h.lv y hm).2.2 hc.2
  have hylv := h.base.mask_lv hy hc.1
  have e : D ++ p :: (A ++ (B ++ [y])) = (D ++ p :: (A ++ B)) ++ [y] := by simp
  -- only the distance of `y` changes, and `y` is in none of the lists
  have keep : ∀ {x}, x ≠ y → (imd.set! y (dist + 1))[x]! = imd[x]! := fun hne => by rw [hget, if_neg hne]
  have off : ∀ {x}, x ∈ D ++ p :: (A ++ B) → x ≠ y := fun hx e => hynot (e ▸ hx)
  refine { h with sd := by simp [h.sd], nd := by rw [e]; exact nodup_concat h.nd hynot, lv := ?_, imd0 := ?_, dfin := ?_,
                  adist := ?_, bdist := ?_, compl := ?_, pd := ?_, pa := ?_, pw := ?_, pc := ?_ }
  · intro x hx
    rw [e, List.mem_append, List.mem_singleton] at hx
    rcases hx with hx | rfl
    · rw [keep (off hx)]; exact h.lv x hx
    · exact ⟨hy, hylv, by rw [hget, if_pos rfl]; omega⟩
  · intro x hx hxn
    rw [e, List.mem_append, List.mem_singleton, not_or] at hxn
    rw [keep hxn.2]; exact h.imd0 x hx hxn.1
  · intro x hx
    rw [keep (off (by simp [hx]))]; exact h.dfin x hx
  · intro x hx
    obtain ⟨e, w, hw, hfw, hlw, hdw⟩ := h.adist x hx
    have hnw : w ≠ y := fun e => by rw [e] at hlw; omega
    exact ⟨by rw [keep (off (by simp [hx]))]; exact e, w, hw, hfw, hlw, by rw [keep hnw]; exact hdw⟩
  · intro x hx
    rcases List.mem_append.mp hx with hx | hx
    · rw [keep (off (by simp [hx]))]; exact h.bdist x hx
    · simp at hx; subst hx
      exact ⟨by rw [hget, if_pos rfl], p, C.adj_symm p x hp hyadj, Or.inr rfl⟩
  · intro x hx hxm hxd
    have hne : x ≠ y := fun e => by rw [e, hget, if_pos rfl] at hxd; omega
    rw [keep hne] at hxd
    exact h.compl x hx hxm hxd
  · rw [keep (off (by simp))]; exact h.pd
  · obtain ⟨w, hw, hfw, hlw, hdw⟩ := h.pa
    have hnw : w ≠ y := fun e => by rw [e] at hlw; omega
    exact ⟨w, hw, hfw, hlw, by rw [keep hnw]; exact hdw⟩
  · refine Nat.forall_lt_succ_right.mpr ⟨fun j hj h1 h2 => ?_, fun h1 => ?_⟩
    · rw [keep fun e => by rw [e] at h1; omega] at h2
      exact hpw j hj h1 h2
    · rw [hyd] at h1; omega
  · refine Nat.forall_lt_succ_right.mpr ⟨fun j hj => ?_, ?_⟩ <;> rw [hget] <;> split
    · omega
    · exact hpc j hj
    · omega
    · rename_i hne
      exact absurd hyd hne
end

section
variable {n : Nat} {nb imi ind : Array Int} {g : Graph}

/-- `finalize` after the whole neighbour row -/
theorem R1bMid.finalize (C : Ctx n nb imi ind g) {s : St} {D A B : List Nat} {p : Nat} {imo imd : Array Int} {icl : Int}
    {ih : Nat} {dist : Int} {i : Nat} (h : R1bMid n nb g s D A B p imo imd icl ih dist i)
    (hi : ∀ j : Nat, (j : Int) < nb[(8 + 9 * (p : Int)).toNat]! → j < i) :
    step g s (.finalize p) = some { s with fin := s.fin.setIfInBounds p true } ∧
    R1b n g { s with fin := s.fin.setIfInBounds p true } (D ++ [p]) A B imo imd icl ih dist := by
  obtain ⟨hp, hpl, hpD⟩ := h.p_lt
  have hlo := h.base.lo
  have hcov : ∀ y ∈ g.adj p, ∃ j, j < i ∧ nbN nb p j = y := fun y hy =>
    (C.adj_slot hp hy).imp fun j hj => ⟨hi j hj.1, hj.2⟩
  have hlab : 0 ≤ imo[p]! := by
    obtain ⟨w, hw, hfw, hlw, hdw⟩ := h.pa
    obtain ⟨j, hj, he⟩ := hcov w hw
    exact h.pw j hj (by rw [he]; exact hlw) (by rw [he]; exact hdw)
  have hfe := finOf_set (s' := { s with fin := s.fin.setIfInBounds p true }) rfl (h.base.fsz ▸ hp)
  have hmono : ∀ x, s.finOf x = true → ({ s with fin := s.fin.setIfInBounds p true } : St).finOf x = true := by
    intro x hx; rw [hfe]; split <;> simp [hx]
  constructor
  · refine step_finalize h.ph (by rw [C.gn]; exact hp) h.pf ?_
    rw [h.base.labOf hp]
    rcases h.pl with h1 | h1 | ⟨h1, y, hy, hfy, hey⟩
    · omega
    · exact Or.inl (by rw [h1]; rfl)
    · exact Or.inr ⟨(labC_isBasin (hlo p hp)).mpr (by omega), y, hy, hfy, by
        rw [h.base.labOf (C.adj_lt hp hy), hey]⟩
  · have e : (D ++ [p]) ++ (A ++ B) = D ++ p :: (A ++ B) := by simp
    refine ⟨h.base.frame h.base.so h.base.lab (by simpa using h.base.fsz) h.base.K h.base.icl0 hlo rfl
        fun x _ hl => ⟨by rw [hfe, if_neg fun (e : x = p) => hl (e ▸ hpl)], rfl⟩, h.sd, h.ph,
      h.d1, h.cur1, h.cur2, e ▸ h.nd, e ▸ h.lv, e ▸ h.imd0, ?_, ?_, ?_, ?_, ?_⟩
    · intro x hx
      rcases List.mem_append.mp hx with hx | hx
      · have := h.dfin x hx
        exact ⟨hmono x this.1, this.2⟩
      · simp at hx; subst hx
        exact ⟨by rw [hfe, if_pos rfl], hlab, by rw [h.pd]; omega⟩
    · intro x hx hlx hxD
      have h1 : x ∉ D := fun hm => hxD (by simp [hm])
      have h2 : x ≠ p := fun e => hxD (by simp [e])
      rw [hfe, if_neg h2]; exact h.nfin x hx hlx h1 h2
    · intro x hx
      obtain ⟨e, w, hw, hfw, r⟩ := h.adist x hx
      exact ⟨e, w, hw, hmono w hfw, r⟩
    · intro x hx
      obtain ⟨e, w, hw, hD⟩ := h.bdist x hx
      exact ⟨e, w, hw, by simpa using hD⟩
    · intro x hx hxm hxd y hy
      obtain ⟨h1, h2⟩ := h.compl x hx hxm hxd y hy
      refine ⟨h1, ?_⟩
      intro hm
      rcases List.mem_append.mp hm with hm | hm
      · exact h2 hm
      · simp at hm; subst hm
        obtain ⟨j, hj, he⟩ := hcov x (C.adj_symm x y hx hy)
        exact h.pc j hj (by rw [he]; exact ⟨hxm, hxd⟩)

/-- the level's pixels during step 1c: still `MASK` or labelled and final; processed positions have their distance reset -/
structure LvC (n : Nat) (ind : Array Int) (g : Graph) (s : St) (imo imd : Array Int) (ih : Nat) (m : Int) : Prop where
  lvl : ∀ p, p < n → g.level p = ih → (imo[p]! = -2 ∧ s.finOf p = false) ∨ (0 ≤ imo[p]! ∧ s.finOf p = true)
  pos : ∀ k : Nat, k < n → g.level (ind[k]!).toNat = ih → (k : Int) < m →
    0 ≤ imo[(ind[k]!).toNat]! ∧ imd[(ind[k]!).toNat]! = 0
  imdl : ∀ p, p < n → g.level p ≠ ih → imd[p]! = 0

/-- step 1c at the head of the seeding loop, cursor `m` -/
structure R1c (n : Nat) (ind : Array Int) (g : Graph) (s : St) (imo imd : Array Int) (icl : Int) (ih : Nat) (m : Int) :
    Prop where
  base : Base n g s imo icl ih
  sd : imd.size = n
  ph : s.phase = .seeding
  fr : s.frontier = []
  lc : LvC n ind g s imo imd ih m

theorem step_endqueue {g : Graph} {s : St} (hph : s.phase = .opn)
    (h1 : ∀ x, x < g.n → g.level x ≤ s.h → s.labOf x ≠ .init)
    (h2 : ∀ x ∈ s.cur, s.labOf x = .mask ∨ s.finOf x = true)
    (h3 : ∀ x ∈ s.cur, s.labOf x = .mask → ∀ y ∈ g.adj x, (s.labOf y).unlabelled = true) :
    step g s .endqueue = some { s with phase := .seeding, frontier := [] } := by
  have hok : endqueueOk g s = true := by
    simp only [endqueueOk, Bool.and_eq_true, List.all_eq_true, List.mem_range, Bool.or_eq_true, Bool.not_eq_true',
      decide_eq_false_iff_not, bne_iff_ne, ne_eq, beq_iff_eq]
    exact ⟨⟨fun x hx => (Decidable.em (g.level x ≤ s.h)).symm.imp_right (h1 x hx), h2⟩,
      fun x hx => (Decidable.em (s.labOf x = .mask)).symm.imp_right (h3 x hx)⟩
  simp only [step]
  rw [if_pos ⟨hph, hok⟩]

/-- the queue is empty: `endqueue` -/
theorem R1b.done (C : Ctx n nb imi ind g) {s : St} {D : List Nat} {imo imd : Array Int} {icl : Int} {ih : Nat} {dist m : Int}
    (h : R1b n g s D [] [] imo imd icl ih dist) (hm : MInv n ind g ih m) :
    step g s .endqueue = some { s with phase := .seeding, frontier := [] } ∧
    R1c n ind g { s with phase := .seeding, frontier := [] } imo imd icl ih m := by
  have hlo := h.base.lo
  have hlab : ∀ x, x < n → g.level x = ih → (imo[x]! = -2 ∧ s.finOf x = false) ∨ (0 ≤ imo[x]! ∧ s.finOf x = true) := by
    intro x hx hl
    by_cases hD : x ∈ D
    · have := h.dfin x hD; exact Or.inr ⟨this.2.1, this.1⟩
    · have := h.nfin x hx hl hD; exact Or.inl ⟨this.2, this.1⟩
  constructor
  · refine step_endqueue h.ph (fun x hx hl => ?_) (fun x hx => ?_) (fun x hx hm y hy => ?_)
    · rw [C.gn] at hx
      rw [h.base.h] at hl
      rw [h.base.labOf hx, Ne, labC_init]
      rcases Nat.lt_or_eq_of_le hl with h1 | h1
      · have := (h.base.old x hx h1).2; omega
      · rcases hlab x hx h1 with h2 | h2 <;> omega
    · obtain ⟨hxn, hxl⟩ := h.cur1 x hx
      rw [h.base.labOf hxn, labC_mask]
      exact (hlab x hxn hxl).imp And.left And.right
    · obtain ⟨hxn, hxl⟩ := h.cur1 x hx
      rw [h.base.labOf hxn, labC_mask] at hm
      have hyn := C.adj_lt hxn hy
      have hxD : x ∉ D := fun hD => by have := (h.dfin x hD).2.1; omega
      obtain ⟨h1, h2⟩ := h.compl x hxn hm (h.imd0 x hxn (by simpa using hxD)) y hy
      rw [h.base.labOf hyn, labC_unlabelled (hlo y hyn)]
      rcases Nat.lt_or_eq_of_le h1 with h3 | h3
      · have := (h.base.new y hyn h3).2; omega
      · have := (h.nfin y hyn h3.symm h2).2; omega
  · refine ⟨h.base.congr rfl rfl rfl rfl, h.sd, rfl, rfl, hlab, ?_, ?_⟩
    · intro k hk hl hkm
      have := hm.lt k hk hkm; omega
    · intro p hp hl
      refine h.imd0 p hp (fun hm => ?_)
      have := (h.lv p hm).2.1
      exact hl this
end

section
variable {n : Nat} {nb imi ind : Array Int} {g : Graph}

def G1b (n : Nat) (g : Graph) (trace : Array Step) (imo imd iq : Array Int) (qs qe icl : Int) (ih : Nat) (dist : Int)
    (k : Nat) : Prop :=
  ∃ s D A B, D.length = k ∧ run g trace.toList = some s ∧ QRep n iq qs qe (castL A ++ (-100) :: castL B) ∧
    R1b n g s D A B imo imd icl ih dist

def G1bMid (n : Nat) (nb : Array Int) (g : Graph) (trace : Array Step) (imo imd iq : Array Int) (qs qe icl : Int) (ih : Nat)
    (dist : Int) (k : Nat) (ip : Int) (i : Nat) : Prop :=
  ∃ (s : St) (D A B : List Nat) (p : Nat), ip = (p : Int) ∧ D.length + 1 = k ∧ run g trace.toList = some s ∧
    QRep n iq qs qe (castL A ++ (-100) :: castL B) ∧ R1bMid n nb g s D A B p imo imd icl ih dist i

/-- state handed to step 1c -/
def G1bDone (n : Nat) (g : Graph) (trace : Array Step) (imo imd iq : Array Int) (qs qe icl : Int) (ih : Nat) : Prop :=
  ∃ s D dist, run g trace.toList = some s ∧ QRep n iq qs qe [] ∧ R1b n g s D [] [] imo imd icl ih dist

theorem G1a.to1b (C : Ctx n nb imi ind g) {trace : Array Step} {imo imd iq : Array Int} {qs qe icl : Int} {ih : Nat}
    (h : G1a n ind g trace imo imd iq qs qe icl ih n) (hn : 1 ≤ n) :
    (0 ≤ qe ∧ qe.toNat < iq.size) ∧ G1b n g trace imo imd (iq.set! qe.toNat (-100)) qs (fifoNextEnd n qe) icl ih 1 0 := by
  obtain ⟨s, q, hr, hq, hR⟩ := h
  have hl := hR.qlen C hn
  refine ⟨by have := hq.qe_range; omega, s, [], q, [], rfl, hr, ?_, hR.to1b C⟩
  have := hq.add (by simp; omega) (-100)
  simpa [castL] using this

variable {trace : Array Step} {imo imd iq : Array Int} {qs qe icl : Int} {ih : Nat} {dist : Int} {k : Nat}

theorem G1b.qs_ok (h : G1b n g trace imo imd iq qs qe icl ih dist k) : 0 ≤ qs ∧ qs.toNat < iq.size := by
  obtain ⟨s, D, A, B, -, -, hq, -⟩ := h; exact hq.qs_ok

theorem G1b.len (h : G1b n g trace imo imd iq qs qe icl ih dist k) : k ≤ n := by
  obtain ⟨s, D, A, B, hk, -, -, hR⟩ := h; have := hR.len; omega

theorem G1b.sizes (h : G1b n g trace imo imd iq qs qe icl ih dist k) : imo.size = n ∧ imd.size = n ∧ 1 ≤ dist := by
  obtain ⟨s, D, A, B, -, -, -, hR⟩ := h; exact ⟨hR.base.so, hR.sd, hR.d1⟩

theorem castL_head_ne {A : List Nat} {B : List Int} {iq : Array Int} {qs qe : Int}
    (hq : QRep n iq qs qe (castL A ++ (-100) :: B)) (hne : iq[qs.toNat]! ≠ -100) :
    ∃ a A', A = a :: A' ∧ iq[qs.toNat]! = (a : Int) := by
  cases A with
  | nil => exact absurd hq.pop.1 hne
  | cons a A' => exact ⟨a, A', rfl, hq.pop.1⟩

theorem castL_head_eq {A : List Nat} {B : List Int} {iq : Array Int} {qs qe : Int}
    (hq : QRep n iq qs qe (castL A ++ (-100) :: B)) (he : iq[qs.toNat]! = -100) : A = [] := by
  cases A with
  | nil => rfl
  | cons a A' => have : iq[qs.toNat]! = (a : Int) := hq.pop.1; omega

theorem G1b.pop_pix (h : G1b n g trace imo imd iq qs qe icl ih dist k) (hne : ¬(iq[qs.toNat]! == -100) = true) :
    G1bMid n nb g trace imo imd iq (fifoNextStart n qs) qe icl ih dist (k + 1) iq[qs.toNat]! 0 := by
  obtain ⟨s, D, A, B, hk, hr, hq, hR⟩ := h
  obtain ⟨a, A', rfl, he⟩ := castL_head_ne hq (by simpa using hne)
  exact ⟨s, D, A', B, a, he, by omega, hr, hq.pop.2, hR.pop⟩

theorem G1b.pop_fict_done (h : G1b n g trace imo imd iq qs qe icl ih dist k) (he : (iq[qs.toNat]! == -100) = true)
    (hqe : (fifoNextStart n qs == qe) = true) :
    G1bDone n g trace imo imd iq (fifoNextStart n qs) qe icl ih := by
  obtain ⟨s, D, A, B, hk, hr, hq, hR⟩ := h
  have := castL_head_eq hq (beq_iff_eq.mp he)
  subst this
  have hp := hq.pop.2
  have hl := hq.len
  simp at hl
  have hnil := hp.eq_nil (by simp; omega) hqe
  have : B = [] := by simpa [castL] using hnil
  subst this
  exact ⟨s, D, dist, hr, hp, hR⟩

theorem G1b.pop_fict_more (h : G1b n g trace imo imd iq qs qe icl ih dist k) (he : (iq[qs.toNat]! == -100) = true)
    (hqe : ¬(fifoNextStart n qs == qe) = true) :
    (0 ≤ qe ∧ qe.toNat < iq.size) ∧
    (0 ≤ fifoNextStart n qs ∧ (fifoNextStart n qs).toNat < (iq.set! qe.toNat (-100)).size) ∧
    G1bMid n nb g trace imo imd (iq.set! qe.toNat (-100)) (fifoNextStart n (fifoNextStart n qs)) (fifoNextEnd n qe) icl ih
      (dist + 1) (k + 1) (iq.set! qe.toNat (-100))[(fifoNextStart n qs).toNat]! 0 := by
  obtain ⟨s, D, A, B, hk, hr, hq, hR⟩ := h
  have := castL_head_eq hq (beq_iff_eq.mp he)
  subst this
  have hp := hq.pop.2
  have hl := hq.len
  simp at hl
  obtain ⟨b, B', hB⟩ := hp.eq_cons (by simp; omega) hqe
  cases B with
  | nil => simp [castL] at hB
  | cons b0 B0 =>
    have hadd := hp.add (by simp at hl ⊢; omega) (-100)
    have hp2 := hadd.pop
    refine ⟨by have := hp.qe_range; omega, hadd.qs_ok, s, D, B0, [], b0, ?_, by omega, hr, ?_, hR.promote.pop⟩
    · exact hp2.1
    · simpa [castL] using hp2.2

theorem G1bMid.qe_ok {ip : Int} {i : Nat} (h : G1bMid n nb g trace imo imd iq qs qe icl ih dist k ip i) :
    0 ≤ qe ∧ qe.toNat < iq.size := by
  obtain ⟨s, D, A, B, p, -, -, -, hq, -⟩ := h; have := hq.qe_range; omega

theorem G1bMid.facts {ip : Int} {i : Nat} (h : G1bMid n nb g trace imo imd iq qs qe icl ih dist k ip i) :
    Pix n ip ∧ imo.size = n ∧ imd.size = n ∧ 1 ≤ dist := by
  obtain ⟨s, D, A, B, p, rfl, -, -, -, hR⟩ := h
  have := hR.p_lt.1
  exact ⟨⟨by omega, by omega⟩, hR.base.so, hR.sd, hR.d1⟩


theorem G1bMid.relabelG (C : Ctx n nb imi ind g) {ip : Int} {i : Nat}
    (h : G1bMid n nb g trace imo imd iq qs qe icl ih dist k ip i) (hi : i < (nb[(8 + 9 * ip).toNat]!).toNat)
    (hc : (decide (imd[nbN nb ip i]! < dist) && (decide (imo[nbN nb ip i]! > 0) || imo[nbN nb ip i]! == 0)) = true)
    {v : Int} {inh : Bool} (hr : WS.SP.relabel imo[ip.toNat]! imo[nbN nb ip i]! = some (v, inh)) :
    G1bMid n nb g (pushIf true trace (if inh then .inherit ip.toNat (nbN nb ip i) else .conflict ip.toNat))
      (imo.set! ip.toNat v) imd iq qs qe icl ih dist k ip (i + 1) := by
  obtain ⟨s, D, A, B, p, rfl, hk, hrun, hq, hR⟩ := h
  simp only [Int.toNat_natCast] at hr ⊢
  have hc' : imd[nbN nb p i]! < dist ∧ 0 ≤ imo[nbN nb p i]! := by
    simp only [Bool.and_eq_true, Bool.or_eq_true, decide_eq_true_eq, beq_iff_eq] at hc
    omega
  obtain ⟨s', hs, hR'⟩ := hR.relabel C (by omega) hc' hr
  exact ⟨s', D, A, B, p, rfl, hk, run_push hrun hs, hq, hR'⟩

theorem G1bMid.keepG {ip : Int} {i : Nat}
    (h : G1bMid n nb g trace imo imd iq qs qe icl ih dist k ip i)
    (hc : ((decide (imd[nbN nb ip i]! < dist) && (decide (imo[nbN nb ip i]! > 0) || imo[nbN nb ip i]! == 0)) = true ∧
        WS.SP.relabel imo[ip.toNat]! imo[nbN nb ip i]! = none) ∨
      (¬(decide (imd[nbN nb ip i]! < dist) && (decide (imo[nbN nb ip i]! > 0) || imo[nbN nb ip i]! == 0)) = true ∧
        ¬(imo[nbN nb ip i]! == -2 && imd[nbN nb ip i]! == 0) = true)) :
    G1bMid n nb g trace imo imd iq qs qe icl ih dist k ip (i + 1) := by
  obtain ⟨s, D, A, B, p, rfl, hk, hrun, hq, hR⟩ := h
  simp only [Int.toNat_natCast] at hc
  refine ⟨s, D, A, B, p, rfl, hk, hrun, hq, hR.keep ?_⟩
  simp only [Bool.and_eq_true, Bool.or_eq_true, decide_eq_true_eq, beq_iff_eq] at hc
  rcases hc with ⟨h1, h2⟩ | ⟨h1, h2⟩
  · exact Or.inl ⟨h1.1, by omega, h2⟩
  · exact Or.inr ⟨fun hh => h1 ⟨hh.1, by omega⟩, h2⟩

theorem G1bMid.addG (C : Ctx n nb imi ind g) {ip : Int} {i : Nat}
    (h : G1bMid n nb g trace imo imd iq qs qe icl ih dist k ip i) (hi : i < (nb[(8 + 9 * ip).toNat]!).toNat)
    (hc : (imo[nbN nb ip i]! == -2 && imd[nbN nb ip i]! == 0) = true) :
    G1bMid n nb g trace imo (imd.set! (nbN nb ip i) (dist + 1)) (iq.set! qe.toNat nb[((i : Int) + 9 * ip).toNat]!) qs
      (fifoNextEnd n qe) icl ih dist k ip (i + 1) := by
  obtain ⟨s, D, A, B, p, rfl, hk, hrun, hq, hR⟩ := h
  simp only [Bool.and_eq_true, beq_iff_eq] at hc
  have hR' := hR.add C (by omega) hc
  have hlen := hR'.len
  simp at hlen
  have hpx := C.nbok.ent p ⟨by omega, by have := hR.p_lt.1; omega⟩ i (by omega)
  refine ⟨s, D, A, B ++ [nbN nb p i], p, rfl, hk, hrun, ?_, hR'⟩
  have := hq.add (by simp; omega) nb[((i : Int) + 9 * (p : Int)).toNat]!
  have e : ((nbN nb (p : Int) i : Nat) : Int) = nb[((i : Int) + 9 * (p : Int)).toNat]! := by
    unfold nbN; have := hpx.1; omega
  simpa [castL, e] using this

theorem G1bMid.cast {ip : Int} {i j : Nat} (h : G1bMid n nb g trace imo imd iq qs qe icl ih dist k ip i) (e : i = j) :
    G1bMid n nb g trace imo imd iq qs qe icl ih dist k ip j := e ▸ h

theorem nbr1b_specG (C : Ctx n nb imi ind g) {ip : Int}
    (h : G1bMid n nb g trace imo imd iq qs qe icl ih dist k ip 0) :
    ⦃⌜True⌝⦄ nbr1b n nb true ip dist imo imd iq qe trace
    ⦃⇓ r => ⌜G1bMid n nb g r.2.2.2.2 r.1 r.2.1 r.2.2.1 qs r.2.2.2.1 icl ih dist k ip (nb[(8 + 9 * ip).toNat]!).toNat⌝⦄ := by
  have s1 := nbCnt_val C.nbok
  have s2 := nbAt_val C.nbok
  have hip := h.facts.1
  mvcgen -trivial -leave [nbr1b, s1, s2]
  case inv1 =>
    exact ⇓⟨xs, imo', imd', iq', qe', tr'⟩ => ⌜G1bMid n nb g tr' imo' imd' iq' qs qe' icl ih dist k ip xs.prefix.length⌝
  all_goals clear s1 s2; vcr; vcp
  case vc13 => exact h
  all_goals try grab hQ : G1bMid
  case vc1 => exact hip
  case vc2 => exact ⟨hip, by omega⟩
  case vc3 => exact ‹Pix n _›.idx hQ.facts.2.1
  case vc4 | vc9 => exact ‹Pix n _›.idx hQ.facts.2.2.1
  case vc5 | vc6 => exact hip.idx hQ.facts.2.1
  case vc7 => exact (hQ.relabelG C ‹_› ‹_› ‹_›).cast (by simp)
  case vc8 => exact (hQ.keepG (Or.inl ⟨‹_›, ‹_›⟩)).cast (by simp)
  case vc10 => exact hQ.qe_ok
  case vc11 => exact (hQ.addG C ‹_› ‹_›).cast (by simp)
  case vc12 => exact (hQ.keepG (Or.inr ⟨‹_›, ‹_›⟩)).cast (by simp)
  case vc14 => exact hQ.cast (by simp [Std.Legacy.Range.toList])

theorem G1bMid.finalizeG (C : Ctx n nb imi ind g) {ip : Int}
    (h : G1bMid n nb g trace imo imd iq qs qe icl ih dist k ip (nb[(8 + 9 * ip).toNat]!).toNat) :
    G1b n g (pushIf true trace (.finalize ip.toNat)) imo imd iq qs qe icl ih dist k := by
  obtain ⟨s, D, A, B, p, rfl, hk, hrun, hq, hR⟩ := h
  obtain ⟨h1, h2⟩ := hR.finalize C (fun j hj => by omega)
  rw [Int.toNat_natCast]
  exact ⟨_, D ++ [p], A, B, by simp; omega, run_push hrun h1, hq, h2⟩

/-- the same for all ghost data at once (`qs` and the count `k` are no arguments of `nbr1b`): the form `mvcgen` can use
    at a call -/
theorem nbr1b_specG' (C : Ctx n nb imi ind g) {ip : Int} {trace : Array Step} {imo imd iq : Array Int} {qe icl : Int}
    {ih : Nat} {dist : Int} :
    ⦃⌜True⌝⦄ nbr1b n nb true ip dist imo imd iq qe trace
    ⦃⇓ r => ⌜∀ qs k, G1bMid n nb g trace imo imd iq qs qe icl ih dist k ip 0 →
      G1bMid n nb g r.2.2.2.2 r.1 r.2.1 r.2.2.1 qs r.2.2.2.1 icl ih dist k ip (nb[(8 + 9 * ip).toNat]!).toNat⌝⦄ :=
  (triple_val_iff _ _ _).mpr fun _ o _ _ hk => (triple_val_iff _ _ _).mp (nbr1b_specG C hk) trivial o

theorem step1b_specG (C : Ctx n nb imi ind g) {trace : Array Step} {imo imd iq : Array Int} {qs qe icl : Int} {ih : Nat}
    (hn : 2 ≤ n) (h : G1a n ind g trace imo imd iq qs qe icl ih n) :
    ⦃⌜True⌝⦄ step1b n nb true imo imd iq qs qe trace
    ⦃⇓ r => ⌜r.2.2.2.2.2.2 = true ∧ G1bDone n g r.2.2.2.2.2.1 r.1 r.2.1 r.2.2.1 r.2.2.2.1 r.2.2.2.2.1 icl ih⌝⦄ := by
  have s1 := fun (ip dist : Int) (imo imd iq : Array Int) (qe : Int) (trace : Array Step) =>
    @nbr1b_specG' n nb imi ind g C ip trace imo imd iq qe icl ih dist
  mvcgen -trivial -leave [step1b, s1]
  case inv1 =>
    exact ⇓⟨xs, imo', imd', iq', qs', qe', tr', dist, brk⟩ => ⌜
      (brk = false ∧ G1b n g tr' imo' imd' iq' qs' qe' icl ih dist xs.prefix.length) ∨
      (brk = true ∧ xs.suffix = [] ∧ G1bDone n g tr' imo' imd' iq' qs' qe' icl ih)⌝
  all_goals clear s1; vcr; vcp
  all_goals try (grab hor : Or; rcases hor with ⟨hb, hQ⟩ | ⟨hb, hnil, hq'⟩ <;> try (simp at hnil; done))
  case vc1 => exact (h.to1b C (by omega)).1
  case vc2 => exact hQ.qs_ok
  case vc3 => exact Or.inr ⟨trivial, trivial, hQ.pop_fict_done ‹_› ‹_›⟩
  case vc4 => exact (hQ.pop_fict_more (nb := nb) ‹_› ‹_›).1
  case vc5 => exact (hQ.pop_fict_more (nb := nb) ‹_› ‹_›).2.1
  case vc6 =>
    grab_all hall
    exact Or.inl ⟨hb, by simpa using (hall _ _ (hQ.pop_fict_more ‹_› ‹_›).2.2).finalizeG C⟩
  case vc7 =>
    grab_all hall
    exact Or.inl ⟨hb, by simpa using (hall _ _ (hQ.pop_pix ‹_›)).finalizeG C⟩
  case vc8 => exact Or.inl ⟨trivial, (h.to1b C (by omega)).2⟩
  case vc9.post.success.post.success.inl =>
    -- the fuel `4n + 8` is not used up: every iteration finalizes another pixel
    have := hQ.len
    simp only [Std.Legacy.Range.toList, List.length_range', Nat.add_sub_cancel, Nat.div_one, Nat.sub_zero] at this
    omega
  case vc9.post.success.post.success.inr => exact ⟨hb, hq'⟩
end

end WS.Fld
