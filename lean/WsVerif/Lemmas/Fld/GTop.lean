import WsVerif.Lemmas.Fld.G1c
import WsVerif.Lemmas.Fld.Top
/-! One level of step 1 and the level loop of `pt_fld` with the simulation relation. -/
namespace WS.Fld
open Std.Do WS.SP WS.Flood
set_option mvcgen.warning false

section
variable {n : Nat} {nb imi ind : Array Int} {g : Graph}
variable {trace : Array Step} {imo imd iq : Array Int} {qs qe icl : Int} {ih : Nat} {m : Int}

theorem GIdle.openG (C : Ctx n nb imi ind g) (h : GIdle n ind g trace imo imd iq qs qe icl ih m) :
    Pos n ind g ih m ∧ G1a n ind g (pushIf true trace (.level ih)) imo imd iq qs qe icl ih m := by
  obtain ⟨s, hrun, hq, hR⟩ := h
  obtain ⟨h1, h2⟩ := hR.open C
  exact ⟨hR.mi.pos, _, [], run_push hrun h1, by simpa [castL] using hq, h2⟩

theorem GIdle.facts (h : GIdle n ind g trace imo imd iq qs qe icl ih m) :
    MInv n ind g ih m ∧ imo.size = n ∧ imd.size = n ∧ QRep n iq qs qe [] := by
  obtain ⟨s, hrun, hq, hR⟩ := h
  exact ⟨hR.mi, hR.base.so, hR.sd, hq⟩

theorem G1bDone.endqueueG (C : Ctx n nb imi ind g) (h : G1bDone n g trace imo imd iq qs qe icl ih)
    (hm : MInv n ind g ih m) : G1c n ind g (pushIf true trace .endqueue) imo imd iq qs qe icl ih m := by
  obtain ⟨s, D, dist, hrun, hq, hR⟩ := h
  obtain ⟨h1, h2⟩ := hR.done C hm
  exact ⟨_, run_push hrun h1, hq, h2⟩

theorem G1cEnd.endlevelG (C : Ctx n nb imi ind g) (h : G1cEnd n ind g trace imo imd iq qs qe icl ih m) :
    GIdle n ind g (pushIf true trace .endlevel) imo imd iq qs qe icl (ih + 1) m := by
  obtain ⟨s, mm, hrun, hq, hR, hall, hmi⟩ := h
  obtain ⟨h1, h2⟩ := hR.endlevel C hall hmi
  exact ⟨_, run_push hrun h1, hq, h2⟩

-- at a call `mvcgen` first tries to unify the callee's postcondition with the rest of the program; kept from unfolding
-- the three loops, that attempt fails at once
attribute [local irreducible] step1a step1b step1c in
theorem levelStep_specG (C : Ctx n nb imi ind g) (ihN : Nat) {imo imd iq : Array Int} {qs qe icl m : Int}
    (trace : Array Step) (hn : 2 ≤ n) (h : GIdle n ind g trace imo imd iq qs qe icl ihN m) :
    ⦃⌜True⌝⦄ levelStep n nb imi ind ihN true imo imd iq qs qe icl m trace
    ⦃⇓ r => ⌜GIdle n ind g r.2.2.2.2.2.2.2.1 r.1 r.2.1 r.2.2.1 r.2.2.2.1 r.2.2.2.2.1 r.2.2.2.2.2.1 (ihN + 1) r.2.2.2.2.2.2.1⌝⦄ := by
  have s1 := fun (imo imd iq : Array Int) (qe m : Int) (trace : Array Step) =>
    @step1a_specG n nb imi ind g C ihN imo imd iq qs qe m icl trace
  have s2 := fun (imo imd iq : Array Int) (qs qe : Int) (trace : Array Step) =>
    @step1b_specG n nb imi ind g C trace imo imd iq qs qe icl ihN hn
  have s3 := fun (imo imd iq : Array Int) (qs qe icl m : Int) (trace : Array Step) =>
    @step1c_specG n nb imi ind g C ihN imo imd iq qs qe icl m trace hn
  mvcgen -trivial -leave [levelStep, s1, s2, s3]
  all_goals clear s1 s2 s3; vcp
  case vc1 | vc4 => exact (h.openG C).1
  case vc2 => exact (h.openG C).2
  case vc3 => assumption
  case vc5 => exact G1bDone.endqueueG C ‹_› h.facts.1
  case vc6 => exact G1cEnd.endlevelG C ‹_›

/-- before the first level -/
theorem GIdle.init (C : Ctx n nb imi ind g) (hn : 1 ≤ n) (iqFill : Int) :
    GIdle n ind g #[] (Array.replicate n (-1)) (Array.replicate n 0) (Array.replicate n iqFill) 0 0 0 0 0 := by
  refine ⟨St.init g.n, rfl, QRep.empty (by simp) (by omega) (by omega), ?_⟩
  have hget : ∀ p, p < n → (Array.replicate n (-1 : Int))[p]! = -1 := by
    intro p hp; simp [hp]
  have hfin : ∀ p, (St.init g.n).finOf p = false := by
    intro p
    simp only [St.finOf, St.init]
    rw [Array.getD_eq_getD_getElem?, Array.getElem?_replicate]
    split <;> rfl
  refine ⟨⟨by simp, ?_, by simp [St.init, C.gn], rfl, by omega, ?_, rfl, ?_, ?_⟩, by simp, rfl, ?_, ?_, MInv.zero hn⟩
  · simp [St.init, C.gn]
  · intro p hp; rw [hget p hp]; omega
  · intro p hp hl; omega
  · intro p hp hl; exact ⟨hfin p, hget p hp⟩
  · intro p hp hl; exact ⟨hfin p, hget p hp⟩
  · intro p hp; simp [hp]
end

end WS.Fld
