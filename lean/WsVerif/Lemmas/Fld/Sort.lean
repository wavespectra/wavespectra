import WsVerif.Lemmas.Fld.Base
/-! The executable counting sort `ptsort` makes no out-of-range access and returns the list `ptsortSpec`: `ind[slot i] = i`
with `slot` (the pixels of lower level, then the earlier pixels of the same level) a bijection of `[0, n)`, which is also
the position of `i` in `ptsortSpec`. -/
namespace WS.Fld
open Std.Do WS.SP
set_option mvcgen.warning false
attribute [local spec high] rd_pre wr_pre

/-- number of pixels `< n` whose level is below `v` -/
def below (n : Nat) (lev : Nat → Nat) (v : Nat) : Nat := ((List.range n).filter fun x => lev x < v).length
/-- number of pixels `< k` at level `v` -/
def eqUpTo (k : Nat) (lev : Nat → Nat) (v : Nat) : Nat := ((List.range k).filter fun x => lev x == v).length

theorem slot_eq (n : Nat) (lev : Nat → Nat) (i : Nat) : slot n lev i = below n lev (lev i) + eqUpTo i lev (lev i) := rfl

theorem eqUpTo_succ (k : Nat) (lev : Nat → Nat) (v : Nat) :
    eqUpTo (k + 1) lev v = eqUpTo k lev v + if lev k = v then 1 else 0 := by
  unfold eqUpTo
  rw [List.range_succ, List.filter_append, List.length_append]
  by_cases h : lev k = v <;> simp [h]

theorem eqUpTo_mono (lev : Nat → Nat) (v : Nat) {k k' : Nat} (h : k ≤ k') : eqUpTo k lev v ≤ eqUpTo k' lev v := by
  induction h with
  | refl => exact Nat.le_refl _
  | step _ ih => rw [eqUpTo_succ]; omega

theorem below_succ (n : Nat) (lev : Nat → Nat) (v : Nat) :
    below n lev (v + 1) = below n lev v + eqUpTo n lev v := by
  unfold below eqUpTo
  induction n with
  | zero => simp
  | succ n ih =>
    rw [List.range_succ, List.filter_append, List.filter_append, List.filter_append, List.length_append,
      List.length_append, List.length_append, ih]
    by_cases h1 : lev n < v
    · have h3 : ¬ lev n = v := by omega
      have h4 : lev n < v + 1 := by omega
      simp [h1, h3, h4]; omega
    · by_cases h2 : lev n = v
      · simp [h2]; omega
      · have : ¬ lev n < v + 1 := by omega
        simp [h1, h2, this]

theorem below_zero (n : Nat) (lev : Nat → Nat) : below n lev 0 = 0 := by simp [below]

theorem below_mono (n : Nat) (lev : Nat → Nat) {v v' : Nat} (h : v ≤ v') : below n lev v ≤ below n lev v' := by
  induction h with
  | refl => exact Nat.le_refl _
  | step _ ih => rw [below_succ]; omega

theorem below_le (n : Nat) (lev : Nat → Nat) (v : Nat) : below n lev v ≤ n := by
  unfold below
  have := List.length_filter_le (fun x => decide (lev x < v)) (List.range n)
  simpa using this

theorem slot_lt_next {n : Nat} {lev : Nat → Nat} {i : Nat} (hi : i < n) :
    slot n lev i < below n lev (lev i + 1) := by
  rw [slot_eq, below_succ]
  have h1 := eqUpTo_succ i lev (lev i)
  have h2 := eqUpTo_mono lev (lev i) (show i + 1 ≤ n by omega)
  simp at h1; omega

theorem slot_lt' {n : Nat} {lev : Nat → Nat} {i : Nat} (hi : i < n) : slot n lev i < n := by
  have := slot_lt_next (lev := lev) hi
  have := below_le n lev (lev i + 1)
  omega

theorem slot_lt_of_lt {n : Nat} {lev : Nat → Nat} {i j : Nat} (hi : i < n) (hj : j < n) (hij : i < j) :
    slot n lev i ≠ slot n lev j := by
  rcases Nat.lt_trichotomy (lev i) (lev j) with h | h | h
  · have h1 := slot_lt_next (lev := lev) hi
    have h2 := below_mono n lev (show lev i + 1 ≤ lev j by omega)
    rw [slot_eq n lev j]; omega
  · rw [slot_eq, slot_eq, h]
    have h1 := eqUpTo_succ i lev (lev j)
    have h2 := eqUpTo_mono lev (lev j) (show i + 1 ≤ j by omega)
    simp [h] at h1; omega
  · have h1 := slot_lt_next (lev := lev) hj
    have h2 := below_mono n lev (show lev j + 1 ≤ lev i by omega)
    rw [slot_eq n lev i]; omega

theorem slot_inj {n : Nat} {lev : Nat → Nat} {i j : Nat} (hi : i < n) (hj : j < n)
    (h : slot n lev i = slot n lev j) : i = j := by
  rcases Nat.lt_trichotomy i j with hlt | heq | hgt
  · exact absurd h (slot_lt_of_lt hi hj hlt)
  · exact heq
  · exact absurd h.symm (slot_lt_of_lt hj hi hgt)

/-- an injective map of `[0,n)` into itself hits every value -/
theorem inj_surj {n : Nat} (f : Nat → Nat) (hr : ∀ i, i < n → f i < n)
    (hinj : ∀ i j, i < n → j < n → f i = f j → i = j) (k : Nat) (hk : k < n) : ∃ i, i < n ∧ f i = k := by
  apply Classical.byContradiction
  intro hne
  have hnot : ∀ i, i < n → f i ≠ k := fun i hi he => hne ⟨i, hi, he⟩
  let l : List Int := ((k :: (List.range n).map f)).map (fun (x : Nat) => (x : Int))
  have hnd : l.Nodup := by
    have h1 : ((List.range n).map f).Nodup := by
      rw [List.Nodup, List.pairwise_map]
      exact List.Pairwise.imp_of_mem (fun {a b} ha hb hne heq => hne
        (hinj a b (List.mem_range.mp ha) (List.mem_range.mp hb) heq)) List.nodup_range
    have h2 : (k :: (List.range n).map f).Nodup := by
      rw [List.nodup_cons]
      refine ⟨?_, h1⟩
      intro hm
      obtain ⟨i, hi, he⟩ := List.mem_map.mp hm
      exact hnot i (List.mem_range.mp hi) he
    show (List.map _ _).Nodup
    rw [List.Nodup, List.pairwise_map]
    exact List.Pairwise.imp (fun hne heq => hne (by omega)) h2
  have hlen := pigeon n l hnd (by
    intro x hx
    obtain ⟨y, hy, rfl⟩ := List.mem_map.mp hx
    simp at hy
    rcases hy with rfl | ⟨i, hi, rfl⟩
    · omega
    · have := hr i hi; omega)
  simp [l] at hlen
  omega

section
variable {ihmax n : Nat} {imi : Array Int}

def levOf (imi : Array Int) (x : Nat) : Nat := (imi[x]!).toNat

/-- after `k` pixels, `numv` holds the histogram of the levels of the first `k` pixels -/
def C1 (ihmax : Nat) (imi : Array Int) (k : Nat) (numv : Array Int) : Prop :=
  numv.size = ihmax ∧ ∀ v, v < ihmax → numv[v]! = (eqUpTo k (levOf imi) v : Int)

/-- `iaddr[v]` = number of pixels below level `v`, for `v ≤ k` -/
def C2 (ihmax n : Nat) (imi : Array Int) (k : Nat) (iaddr : Array Int) : Prop :=
  iaddr.size = ihmax ∧ ∀ v, v ≤ k → v < ihmax → iaddr[v]! = (below n (levOf imi) v : Int)

/-- third loop: `iaddr[v]` = next free position of level `v`; `iorder[i]` = final position of pixel `i < k` -/
def C3 (ihmax n : Nat) (imi : Array Int) (k : Nat) (iaddr iorder : Array Int) : Prop :=
  iaddr.size = ihmax ∧ iorder.size = n ∧
  (∀ v, v < ihmax → iaddr[v]! = ((below n (levOf imi) v + eqUpTo k (levOf imi) v : Nat) : Int)) ∧
  ∀ i, i < k → iorder[i]! = (slot n (levOf imi) i : Int)

/-- fourth loop: pixels `i < k` have been stored at their positions -/
def C4 (n : Nat) (imi : Array Int) (k : Nat) (ind : Array Int) : Prop :=
  ind.size = n ∧ ∀ i, i < k → ind[slot n (levOf imi) i]! = (i : Int)

theorem C1.init : C1 ihmax imi 0 (Array.replicate ihmax 0) := by
  refine ⟨by simp, fun v hv => ?_⟩
  simp [eqUpTo, hv]

theorem C1.step {k : Nat} {numv : Array Int} (h : C1 ihmax imi k numv) :
    C1 ihmax imi (k + 1) (numv.set! (imi[k]!).toNat (numv[(imi[k]!).toNat]! + 1)) := by
  obtain ⟨hs, hv⟩ := h
  refine ⟨by simp [hs], fun v hvlt => ?_⟩
  rw [get_set, eqUpTo_succ]
  have hl : levOf imi k = (imi[k]!).toNat := rfl
  by_cases hc : v = (imi[k]!).toNat
  · subst hc
    rw [if_pos ⟨rfl, by omega⟩, hv _ hvlt, if_pos hl]; omega
  · rw [if_neg (fun hh => hc hh.1), hv _ hvlt, if_neg (by rw [hl]; exact fun e => hc e.symm)]; omega

theorem C2.init : C2 ihmax n imi 0 ((Array.replicate ihmax (0 : Int)).set! 0 0) := by
  refine ⟨by simp, fun v hv hvlt => ?_⟩
  have : v = 0 := by omega
  subst this
  rw [get_set, if_pos ⟨rfl, by simp; omega⟩, below_zero]; rfl

theorem C2.step {k : Nat} {iaddr numv : Array Int} (h : C2 ihmax n imi k iaddr) (hn : C1 ihmax imi n numv)
    (hk : k + 1 < ihmax) : C2 ihmax n imi (k + 1) (iaddr.set! (k + 1) (iaddr[k]! + numv[k]!)) := by
  obtain ⟨hs, hv⟩ := h
  refine ⟨by simp [hs], fun v hvk hvlt => ?_⟩
  rw [get_set]
  by_cases hc : v = k + 1
  · subst hc
    rw [if_pos ⟨rfl, by omega⟩, hv k (by omega) (by omega), hn.2 k (by omega), below_succ]; omega
  · rw [if_neg (fun hh => hc hh.1)]; exact hv v (by omega) hvlt

theorem C3.init {iaddr : Array Int} (h : C2 ihmax n imi (ihmax - 1) iaddr) :
    C3 ihmax n imi 0 iaddr (Array.replicate n 0) := by
  refine ⟨h.1, by simp, fun v hv => ?_, fun i hi => by omega⟩
  rw [h.2 v (by omega) hv]; simp [eqUpTo]

theorem C3.step {k : Nat} {iaddr iorder : Array Int} (h : C3 ihmax n imi k iaddr iorder) (hk : k < n)
    (h0 : 0 ≤ imi[k]!) (h1 : imi[k]! < ihmax) :
    C3 ihmax n imi (k + 1) (iaddr.set! (imi[k]!).toNat (iaddr[(imi[k]!).toNat]! + 1))
      (iorder.set! k iaddr[(imi[k]!).toNat]!) := by
  obtain ⟨hs, ho, hv, hi⟩ := h
  have hl : levOf imi k = (imi[k]!).toNat := rfl
  refine ⟨by simp [hs], by simp [ho], fun v hvlt => ?_, fun i hik => ?_⟩
  · rw [get_set, eqUpTo_succ]
    by_cases hc : v = (imi[k]!).toNat
    · subst hc
      rw [if_pos ⟨rfl, by omega⟩, hv _ hvlt, if_pos hl]; omega
    · rw [if_neg (fun hh => hc hh.1), hv _ hvlt, if_neg (by rw [hl]; exact fun e => hc e.symm)]; omega
  · rw [get_set]
    by_cases hc : i = k
    · subst hc
      rw [if_pos ⟨rfl, by omega⟩, hv _ (by omega), slot_eq, hl]
    · rw [if_neg (fun hh => hc hh.1)]; exact hi i (by omega)

theorem C4.init : C4 n imi 0 (Array.replicate n 0) := ⟨by simp, fun i hi => by omega⟩

theorem C4.step {k : Nat} {iaddr iorder ind : Array Int} (h3 : C3 ihmax n imi n iaddr iorder) (h : C4 n imi k ind)
    (hk : k < n) :
    (0 ≤ iorder[k]! ∧ (iorder[k]!).toNat < ind.size) ∧ C4 n imi (k + 1) (ind.set! (iorder[k]!).toNat k) := by
  obtain ⟨hs, hv⟩ := h
  have hio := h3.2.2.2 k hk
  have hlt := slot_lt' (lev := levOf imi) hk
  refine ⟨by omega, by simp [hs], fun i hik => ?_⟩
  rw [get_set, hio, Int.toNat_natCast]
  by_cases hc : i = k
  · subst hc; rw [if_pos ⟨rfl, by omega⟩]
  · rw [if_neg (fun hh => hc (slot_inj (by omega) hk hh.1))]
    exact hv i (by omega)

theorem C4.final {ind : Array Int} (h : C4 n imi n ind) : IndOK n ind := by
  obtain ⟨hs, hv⟩ := h
  have hsur := inj_surj (n := n) (slot n (levOf imi)) (fun i hi => slot_lt' hi) (fun i j hi hj => slot_inj hi hj)
  refine ⟨hs, fun k hk => ?_, fun j k hj hk he => ?_⟩
  · obtain ⟨i, hi, rfl⟩ := hsur k hk
    rw [hv i hi]; exact ⟨by omega, by omega⟩
  · obtain ⟨a, ha, rfl⟩ := hsur j hj
    obtain ⟨b, hb, rfl⟩ := hsur k hk
    rw [hv a ha, hv b hb] at he
    have : a = b := by omega
    rw [this]
end

/-- position `i` inside the pixels of its own level -/
theorem filter_get (n : Nat) (lev : Nat → Nat) (i : Nat) (hi : i < n) :
    ((List.range n).filter fun x => lev x == lev i)[eqUpTo i lev (lev i)]? = some i := by
  obtain ⟨m, rfl⟩ : ∃ m, n = i + (m + 1) := ⟨n - i - 1, by omega⟩
  rw [List.range_add, List.filter_append, List.range_succ_eq_map, List.map_cons, List.filter_cons]
  have : (lev (i + 0) == lev i) = true := by simp
  rw [this]
  simp only [if_true]
  rw [List.getElem?_append_right (by unfold eqUpTo; exact Nat.le_refl _)]
  unfold eqUpTo
  simp

/-- number of entries of `ptsortSpec` before level `v` -/
theorem spec_prefix_len (n : Nat) (lev : Nat → Nat) (v : Nat) :
    ((List.range v).flatMap fun u => (List.range n).filter fun p => lev p == u).length = below n lev v := by
  induction v with
  | zero => simp [below_zero]
  | succ v ih =>
    rw [List.range_succ, List.flatMap_append, List.length_append, ih, below_succ]
    simp [eqUpTo]

theorem spec_get (ihmax n : Nat) (lev : Nat → Nat) (i : Nat) (hi : i < n) (hl : lev i < ihmax) :
    (ptsortSpec ihmax n lev)[slot n lev i]? = some i := by
  unfold ptsortSpec
  obtain ⟨m, rfl⟩ : ∃ m, ihmax = lev i + (m + 1) := ⟨ihmax - lev i - 1, by omega⟩
  rw [List.range_add, List.flatMap_append, List.range_succ_eq_map, List.map_cons, List.flatMap_cons]
  have hlen := spec_prefix_len n lev (lev i)
  rw [slot_eq, List.getElem?_append_right (by rw [hlen]; omega), hlen, Nat.add_sub_cancel_left,
    Nat.add_zero, List.getElem?_append_left]
  · exact filter_get n lev i hi
  · have := filter_get n lev i hi
    exact (List.getElem?_eq_some_iff.mp this).1

theorem spec_length (ihmax n : Nat) (lev : Nat → Nat) (hl : ∀ i, i < n → lev i < ihmax) :
    (ptsortSpec ihmax n lev).length = n := by
  unfold ptsortSpec
  rw [spec_prefix_len]
  unfold below
  rw [List.filter_eq_self.mpr, List.length_range]
  intro x hx
  simpa using hl x (List.mem_range.mp hx)

/-- a complete fourth loop yields exactly the specification list -/
theorem C4.eq_spec {ihmax n : Nat} {imi ind : Array Int} (h : C4 n imi n ind)
    (hl : ∀ i, i < n → levOf imi i < ihmax) :
    ind.toList = (ptsortSpec ihmax n (levOf imi)).map (fun (x : Nat) => (x : Int)) := by
  obtain ⟨hs, hv⟩ := h
  have hsur := inj_surj (n := n) (slot n (levOf imi)) (fun i hi => slot_lt' hi) (fun i j hi hj => slot_inj hi hj)
  apply List.ext_getElem?
  intro k
  by_cases hk : k < n
  · obtain ⟨i, hi, rfl⟩ := hsur k hk
    rw [List.getElem?_map, spec_get ihmax n _ i hi (hl i hi)]
    have := hv i hi
    rw [getElem!_def] at this
    rw [Array.getElem?_toList]
    have hlt : slot n (levOf imi) i < ind.size := by rw [hs]; exact slot_lt' hi
    rw [Array.getElem?_eq_getElem hlt] at this ⊢
    simp at this ⊢
    exact this
  · rw [List.getElem?_eq_none (by simp [hs]; omega), List.getElem?_eq_none (by simp [spec_length ihmax n _ hl]; omega)]

theorem range_toList_length (a b : Nat) : [a:b].toList.length = b - a := by
  simp [Std.Legacy.Range.toList]

theorem ptsort_spec {ihmax n : Nat} {imi : Array Int} (hi : 1 ≤ ihmax) (hs : imi.size = n)
    (hl : ∀ i, i < n → 0 ≤ imi[i]! ∧ imi[i]! < ihmax) :
    ⦃fun o => ⌜o = false⌝⦄ ptsort ihmax n imi
    ⦃⇓ r o => ⌜o = false ∧ IndOK n r ∧
      r.toList = (ptsortSpec ihmax n (levOf imi)).map (fun (x : Nat) => (x : Int))⌝⦄ := by
  mvcgen -trivial -leave [ptsort]
  case inv1 => exact ⇓⟨xs, numv⟩ o => ⌜o = false ∧ C1 ihmax imi xs.prefix.length numv⌝
  case inv2 => exact ⇓⟨xs, iaddr⟩ o => ⌜o = false ∧ C2 ihmax n imi xs.prefix.length iaddr⌝
  case inv3 => exact ⇓⟨xs, iaddr, iorder⟩ o => ⌜o = false ∧ C3 ihmax n imi xs.prefix.length iaddr iorder⌝
  case inv4 => exact ⇓⟨xs, ind⟩ o => ⌜o = false ∧ C4 n imi xs.prefix.length ind⌝
  all_goals vcr; vcp
  case vc1 | vc12 => exact ⟨rfl, by omega, by omega⟩
  case vc2 | vc3 =>
    have := hl _ ‹_ < imi.size›; have := ‹C1 ..›.1
    rw [Int.toNat_natCast]; exact ⟨rfl, by omega, by omega⟩
  case vc4 => rw [Int.toNat_natCast]; exact ⟨rfl, List.length_append ▸ ‹C1 ..›.step⟩
  case vc5 => exact ⟨rfl, C1.init⟩
  case vc6 => exact ⟨rfl, Int.le_refl 0, by simp; omega⟩
  case vc7 | vc9 => have := ‹C2 ..›.1; exact ⟨rfl, by omega, by omega⟩
  case vc8 => have := ‹C1 ..›.1; exact ⟨rfl, by omega, by omega⟩
  case vc10 =>
    simp only [range_toList_length, Nat.sub_zero] at *
    rw [show ∀ k : Nat, ((k : Int) + 1).toNat = k + 1 from fun k => by omega, Int.toNat_natCast]
    exact ⟨trivial, List.length_append ▸ ‹C2 ..›.step ‹C1 ..› (by omega)⟩
  case vc11 => exact ⟨rfl, C2.init⟩
  case vc13 | vc15 =>
    have := hl _ ‹_ < imi.size›; have := ‹C3 ..›.1
    rw [Int.toNat_natCast]; exact ⟨rfl, by omega, by omega⟩
  case vc14 => have := ‹C3 ..›.2.1; exact ⟨rfl, by omega, by omega⟩
  case vc16 =>
    have := hl _ ‹_ < imi.size›
    rw [Int.toNat_natCast]; exact ⟨rfl, List.length_append ▸ ‹C3 ..›.step ‹_› this.1 this.2⟩
  case vc17 =>
    simp only [range_toList_length, Nat.sub_zero] at *
    exact ⟨trivial, C3.init ‹C2 ..›⟩
  case vc18 => have := ‹C3 ..›.2.1; exact ⟨rfl, by omega, by omega⟩
  case vc19 =>
    simp only [range_toList_length, Nat.sub_zero] at *
    rw [Int.toNat_natCast]; exact ⟨trivial, (C4.step ‹C3 ..› ‹C4 ..› ‹_›).1⟩
  case vc20 =>
    simp only [range_toList_length, Nat.sub_zero] at *
    rw [Int.toNat_natCast]; exact ⟨trivial, List.length_append ▸ (C4.step ‹C3 ..› ‹C4 ..› ‹_›).2⟩
  case vc21 => exact ⟨rfl, C4.init⟩
  case vc22 =>
    simp only [range_toList_length, Nat.sub_zero] at *
    exact ⟨trivial, ‹C4 ..›.final, ‹C4 ..›.eq_spec fun i hi => by have := hl i hi; unfold levOf; omega⟩

end WS.Fld
