import WsVerif.Lemmas.Select
import WsVerif.Model.SelRt
/-!
Helper lemmas for `Props/C14sel.lean`: the numpy vocabulary of `Model/SelRt.lean` (what `Gen/SelKernels.lean` is
generated into) against the recursive / `zipIdx`-`filter` forms of the hand model `Model/Select.lean`.
Nothing here mentions a generated definition.
-/
namespace WS.SelBridge
open WS WS.Select WS.Sel

/-- the model's oracle for a generated kernel called with `sqrt` -/
def absSq (sqrt : ℚ → ℚ) : ℚ → ℚ := fun x => absR (sqrt x)

/-- every distance the generated code computes is non-negative (it ends with `np.abs`) -/
theorem absSq_row_nonneg (sqrt : ℚ → ℚ) (dl dla : Vec) (lon lat : ℚ) :
    ∀ x ∈ distRow (absSq sqrt) ldShort dl dla lon lat, 0 ≤ x :=
  List.forall_mem_map.mpr fun _ _ => absR_nonneg _

theorem amin_eq (l : Vec) : amin l = arrMin l := by cases l <;> rfl
theorem amax_eq (l : Vec) : amax l = arrMax l := by cases l <;> rfl

/-! ### `argmin`: the left-to-right scan is the model's first argmin -/

theorem argminGo_spec : ∀ (ys : Vec) (best : ℚ) (bi i : Nat),
    argminGo best bi i ys =
      if ys ≠ [] ∧ ys.getD (argminFirst ys) 0 < best then i + argminFirst ys else bi
  | [], best, bi, i => (if_neg fun h => h.1 rfl).symm
  | [y], best, bi, i => by
    show (if y < best then i else bi) = if [y] ≠ [] ∧ y < best then i + 0 else bi
    simp only [and_iff_right (List.cons_ne_nil _ _)]; rfl
  | y :: z :: zs, best, bi, i => by
    rw [argminGo, argminGo_spec (z :: zs), argminGo_spec (z :: zs), argminFirst_cons_cons]
    simp only [and_iff_right (List.cons_ne_nil _ _)]
    -- the tail's minimum against `y`, then the smaller of the two against `best`
    by_cases h2 : (z :: zs).getD (argminFirst (z :: zs)) 0 < y
    · rw [if_pos h2, if_pos h2, List.getD_cons_succ, Nat.add_assoc, Nat.add_comm 1]
      by_cases h1 : y < best
      · rw [if_pos h1, if_pos (lt_trans h2 h1)]
      · rw [if_neg h1]
    · rw [if_neg h2, if_neg h2, List.getD_cons_zero]
      by_cases h1 : y < best
      · rw [if_pos h1, if_pos h1]; rfl
      · rw [if_neg h1, if_neg h1, if_neg fun h => h1 (lt_of_le_of_lt (not_lt.mp h2) h)]

theorem argmin_eq : ∀ l : Vec, argmin l = argminFirst l
  | [] | [_] => rfl
  | x :: y :: ys => by
    rw [argminFirst_cons_cons, argmin, argminGo_spec, Nat.add_comm]
    simp only [and_iff_right (List.cons_ne_nil _ _)]

theorem maskGet_nil {α : Type} (m : List Bool) : maskGet ([] : List α) m = [] := by simp [maskGet]

theorem maskGet_cons {α : Type} (x : α) (xs : List α) (b : Bool) (m : List Bool) :
    maskGet (x :: xs) (b :: m) = if b then x :: maskGet xs m else maskGet xs m := by
  cases b <;> simp [maskGet]

/-- `a[m]` with the mask computed from `a` itself is a filter -/
theorem maskGet_map_self {α : Type} (p : α → Bool) : ∀ a : List α, maskGet a (a.map p) = a.filter p
  | [] => by simp [maskGet]
  | x :: xs => by
    rw [List.map_cons, maskGet_cons, maskGet_map_self p xs, List.filter_cons]

/-- `g(l)[p(l)]` for two arrays computed elementwise from one list -/
theorem maskGet_map_map {α β : Type} (g : α → β) (p : α → Bool) : ∀ l : List α,
    maskGet (l.map g) (l.map p) = (l.filter p).map g
  | [] => by simp [maskGet]
  | x :: xs => by
    rw [List.map_cons, List.map_cons, maskGet_cons, maskGet_map_map g p xs, List.filter_cons]
    cases p x <;> simp

/-- `a[p(a)] = f(a[p(a)])` (masked in-place update, `p`, `f` elementwise) is an elementwise conditional -/
theorem maskSet_map (p : ℚ → Bool) (f : ℚ → ℚ) : ∀ a : Vec,
    maskSet a (a.map p) ((maskGet a (a.map p)).map f) = a.map fun x => if p x then f x else x
  | [] => by simp [maskSet]
  | x :: xs => by
    rw [List.map_cons, maskGet_cons]
    cases h : p x
    · simp only [Bool.false_eq_true, if_false, List.map_cons, h, maskSet]
      rw [maskSet_map p f xs]
    · simp only [if_true, List.map_cons, h, maskSet]
      rw [maskSet_map p f xs]

/-- `np.where(m)[0]` for a mask computed elementwise from two zipped arrays -/
theorem whereTrue_zipWith (p : ℚ → ℚ → Bool) (dl dla : Vec) :
    whereTrue (List.zipWith p dl dla) = whereIdx dl dla p := by
  unfold whereTrue whereIdx
  rw [← List.map_uncurry_zip_eq_zipWith, List.zipIdx_map, List.filter_map, List.map_map]
  rfl

/-- `(m1 & m2) & m3` with `m1` computed from the first array and `m2`, `m3` from the second -/
theorem band3 (pa pb pc : ℚ → Bool) : ∀ (dl dla : Vec),
    band (band (dl.map pa) (dla.map pb)) (dla.map pc) = List.zipWith (fun a b => pa a && pb b && pc b) dl dla
  | [], _ => by simp [band]
  | _ :: _, [] => by simp [band]
  | a :: dl, b :: dla => by
    have ih := band3 pa pb pc dl dla
    unfold band at ih ⊢
    simp only [List.map_cons, List.zipWith_cons_cons, ih]

/-- the mask of `sel_bbox` (`((lons - lo) % 360 <= w) & (lats >= a) & (lats <= b)`) through `np.where(·)[0]` -/
theorem bbox_where (dl dla : Vec) (lo w a b : ℚ) :
    whereTrue (band (band (vleS (vmodS (vsubS dl lo) 360) w) (vgeS dla a)) (vleS dla b)) =
      whereIdx dl dla fun lon lat => decide (mod360 (lon - lo) ≤ w) && decide (lat ≥ a) && decide (lat ≤ b) := by
  have h : vleS (vmodS (vsubS dl lo) 360) w = dl.map fun x => decide (mod360 (x - lo) ≤ w) := by
    unfold vleS vmodS vsubS mod360
    rw [List.map_map, List.map_map]
    rfl
  rw [h]
  show whereTrue (band (band _ (dla.map fun x => decide (x ≥ a))) (dla.map fun x => decide (x ≤ b))) = _
  rw [band3, whereTrue_zipWith]

/-! ### `nearer`: argsort, fancy indexing, mask, slice -/

theorem pySlice_eq_pyTake {α : Type} (xs : List α) (ms : Option Int) : pySlice xs ms = pyTake xs ms := by
  cases ms <;> rfl

theorem pyTake_map {α β : Type} (f : α → β) (xs : List α) (ms : Option Int) :
    pyTake (xs.map f) ms = (pyTake xs ms).map f := by
  cases ms with
  | none => rfl
  | some m => simp only [pyTake, List.length_map, List.map_take, apply_ite (List.map f)]

/-- the (value, index) pairs of the stably sorted array -/
def sortedPairs (d : Vec) : List (ℚ × Nat) := d.zipIdx.mergeSort fun p q => decide (p.1 ≤ q.1)

theorem sortedPairs_mem {d : Vec} {p : ℚ × Nat} (h : p ∈ sortedPairs d) : d.getD p.2 0 = p.1 := by
  unfold sortedPairs at h
  rw [List.mem_mergeSort, List.mem_zipIdx_iff_getElem?] at h
  exact (getD_of_getElem? h).2

/-- fancy indexing by the index column of pairs taken from the array gives back the value column -/
theorem take_pairs (d : Vec) (l : List (ℚ × Nat)) (h : ∀ p ∈ l, d.getD p.2 0 = p.1) :
    Sel.take d (l.map fun p => p.2) = l.map fun p => p.1 := by
  unfold Sel.take
  rw [List.map_map]
  exact List.map_congr_left fun p hp => h p hp

/-- **`Coordinates.nearer` in numpy vocabulary = the model's `nearer`** (indices and distances of the kept pairs) -/
theorem nearer_vocab (d : Vec) (tol : ℚ) (ms : Option Int) :
    (pySlice (maskGet (argsort d) (vleS (Sel.take d (argsort d)) tol)) ms,
      Sel.take d (pySlice (maskGet (argsort d) (vleS (Sel.take d (argsort d)) tol)) ms)) =
    ((nearer d tol ms).map (fun p => p.2), (nearer d tol ms).map (fun p => p.1)) := by
  have h1 : argsort d = (sortedPairs d).map fun p => p.2 := rfl
  have h2 : Sel.take d (argsort d) = (sortedPairs d).map fun p => p.1 := by rw [h1]; exact take_pairs d _ fun p => sortedPairs_mem
  have h3 : vleS (Sel.take d (argsort d)) tol = (sortedPairs d).map fun p => decide (p.1 ≤ tol) := by
    rw [h2]; unfold vleS; rw [List.map_map]; rfl
  have h4 : pySlice (maskGet (argsort d) (vleS (Sel.take d (argsort d)) tol)) ms = (nearer d tol ms).map fun p => p.2 := by
    rw [h3, h1, maskGet_map_map, pySlice_eq_pyTake, pyTake_map]
    rfl
  rw [h4]
  exact congrArg _ (take_pairs d _ fun p hp => (inRangeSorted_getD (nearer_subset hp)).2)

/-! ### the loop of `sel_nearest` as a monadic fold -/

/-- the string argument `missing` of `sel_nearest` as the model's three-way case -/
def missingOf (s : String) : Missing :=
  if s = "raise" then .raise else if s = "ignore" then .ignore else .other

theorem missingOf_eq_raise (s : String) : missingOf s = .raise ↔ s = "raise" := by
  unfold missingOf; split_ifs <;> simp [*]

theorem missingOf_eq_ignore (s : String) : missingOf s = .ignore ↔ s = "ignore" := by
  unfold missingOf; split_ifs <;> simp [*]

/-- one iteration of `Select.nearestLoop` on the distance row `d` of the query -/
def nearestStep (tol : ℚ) (unique exact : Bool) (missing : Missing) (acc : List Nat) (d : Vec) : Except Err (List Nat) :=
  if d.getD (argminFirst d) 0 > tol ∧ missing = .raise then .error .assertionError
  else if d.getD (argminFirst d) 0 > tol ∧ missing = .ignore then .ok acc
  else if exact = true ∧ d.getD (argminFirst d) 0 > 0 then .error .assertionError
  else if unique = true ∧ argminFirst d ∈ acc then .ok acc
  else .ok (acc ++ [argminFirst d])

theorem nearestLoop_cons_bind (tol : ℚ) (unique exact : Bool) (missing : Missing) (d : Vec) (rest : List Vec) (acc : List Nat) :
    nearestLoop tol unique exact missing (d :: rest) acc =
      (nearestStep tol unique exact missing acc d).bind (nearestLoop tol unique exact missing rest) := by
  rw [nearestLoop_cons, nearestStep]
  repeat rw [apply_ite (Except.bind · (nearestLoop tol unique exact missing rest))]
  rfl

theorem nearestLoop_eq_foldlM (tol : ℚ) (unique exact : Bool) (missing : Missing) :
    ∀ (rows : List Vec) (acc : List Nat),
      nearestLoop tol unique exact missing rows acc = rows.foldlM (nearestStep tol unique exact missing) acc
  | [], acc => rfl
  | d :: rest, acc => by
    rw [List.foldlM_cons, nearestLoop_cons_bind]
    exact congrArg _ (funext (nearestLoop_eq_foldlM tol unique exact missing rest))

/-! ### the loops of `sel_idw` -/

/-- the collection loop of `sel_idw` as generated (`Gen.selIdw_loop2`, tied by `rfl` in `Props/C14sel.lean`):
    state = (indices, factors, dist, done), element = (ind, dist) -/
def cStep (st : List Nat × List ℚ × ℚ × Bool) (el : Nat × ℚ) : List Nat × List ℚ × ℚ × Bool :=
  if st.2.2.2 then st else
  if decide (el.2 = 0) then (st.1 ++ [el.1], st.2.1 ++ [1], el.2, true)
  else (st.1 ++ [el.1], st.2.1 ++ [1 / el.2], el.2, false)

/-- the accumulation loop of `sel_idw` as generated (`Gen.selIdw_loop3`) -/
def wStep (w : LC) (el : Nat × ℚ) : LC := lcAdd w (lcTerm el.2 el.1)

/-- the value of the loop variable `dist` after the collection loop (unchanged if the loop did not run) -/
def lastDist : List (Nat × ℚ × ℚ) → ℚ → ℚ
  | [], x => x
  | t :: cr, _ => lastDist cr t.2.2

theorem cStep_done (I : List Nat) (F : List ℚ) (x : ℚ) : ∀ l : List (Nat × ℚ),
    List.foldl cStep (I, F, x, true) l = (I, F, x, true)
  | [] => rfl
  | _ :: l => by rw [List.foldl_cons]; exact cStep_done I F x l

/-- the collection loop computes the model's `collect` (indices, factors, last distance) -/
theorem cStep_collect : ∀ (N : List (ℚ × Nat)) (I : List Nat) (F : List ℚ) (x : ℚ),
    ∃ b, List.foldl cStep (I, F, x, false) (N.map fun p => (p.2, p.1)) =
      (I ++ (collect N).map (fun t => t.1), F ++ (collect N).map (fun t => t.2.1), lastDist (collect N) x, b)
  | [], I, F, x => ⟨false, by simp [collect, lastDist]⟩
  | (dd, i) :: rest, I, F, x => by
    rw [List.map_cons, List.foldl_cons]
    by_cases h : dd = 0
    · refine ⟨true, ?_⟩
      have hs : cStep (I, F, x, false) (i, dd) = (I ++ [i], F ++ [1], dd, true) := by simp [cStep, h]
      rw [hs, cStep_done]
      simp [collect, h, lastDist]
    · obtain ⟨b, hb⟩ := cStep_collect rest (I ++ [i]) (F ++ [1 / dd]) dd
      refine ⟨b, ?_⟩
      have hs : cStep (I, F, x, false) (i, dd) = (I ++ [i], F ++ [1 / dd], dd, false) := by simp [cStep, h]
      rw [hs, hb]
      simp [collect, h, lastDist]

theorem wStep_fold : ∀ (l : List (Nat × ℚ)) (w : LC), List.foldl wStep w l = w ++ l.map fun p => (p.1, p.2)
  | [], w => by simp
  | p :: l, w => by
    rw [List.foldl_cons, wStep_fold l]
    simp [wStep, lcAdd, lcTerm]

/-- what `sel_idw` appends for one query, as generated, from the collected (indices, factors) and the last distance -/
def rowOf (I : List Nat) (F : List ℚ) (x : ℚ) : Option LC :=
  if (decide (I.length = 0) || (decide (I.length = 1) && decide (x > 0))) then none
  else if decide (I.tail.length > 0) then
    some (lcScale (List.foldl wStep (lcTerm (headR F) (headN I)) (List.zip I.tail F.tail)) (1 / F.sum))
  else some (List.foldl wStep (lcTerm (headR F) (headN I)) (List.zip I.tail F.tail))

/-- the model's `idwRow` on the collected neighbours -/
def rowM (c : List (Nat × ℚ × ℚ)) : Option (List (Nat × ℚ)) :=
  match c with
  | [] => none
  | [(i, f, dist)] => if dist > 0 then none else some [(i, f)]
  | _ => if (c.map fun p => p.2.1).sum = 0 then none else some (c.map fun p => (p.1, p.2.1 * (1 / (c.map fun p => p.2.1).sum)))

theorem idwRow_eq_rowM (d : Vec) (tol : ℚ) (ms : Option Int) : idwRow d tol ms = rowM (collect (nearer d tol ms)) := rfl

theorem collect_factor_pos : ∀ (N : List (ℚ × Nat)), (∀ p ∈ N, 0 ≤ p.1) → ∀ t ∈ collect N, 0 < t.2.1
  | [], _, t, ht => by simp [collect] at ht
  | (dd, i) :: rest, h, t, ht => by
    by_cases h0 : dd = 0
    · simp [collect, h0] at ht
      subst ht; norm_num
    · simp only [collect, h0, if_false, List.mem_cons] at ht
      rcases ht with rfl | ht
      · have : 0 ≤ dd := h (dd, i) List.mem_cons_self
        exact one_div_pos.mpr (lt_of_le_of_ne this (Ne.symm h0))
      · exact collect_factor_pos rest (fun p hp => h p (List.mem_cons_of_mem _ hp)) t ht

/-- **the generated row = the model's row** when no distance is negative (then `Σ factors ≠ 0`) -/
theorem rowOf_collect (N : List (ℚ × Nat)) (h : ∀ p ∈ N, 0 ≤ p.1) (x : ℚ) :
    rowOf ((collect N).map fun t => t.1) ((collect N).map fun t => t.2.1) (lastDist (collect N) x) = rowM (collect N) := by
  have hpos := collect_factor_pos N h
  generalize collect N = c at hpos
  match c, hpos with
  | [], _ => rfl
  | [(i, f, dd)], _ =>
    show (if (false || (true && decide (dd > 0))) = true then none else some [(i, f)]) = if dd > 0 then none else some [(i, f)]
    simp only [Bool.false_or, Bool.true_and, decide_eq_true_eq]
  | t1 :: t2 :: cr, hpos =>
    have hs : 0 < ((t1 :: t2 :: cr).map fun p => p.2.1).sum :=
      List.sum_pos _ (fun y hy => by obtain ⟨r, hr, rfl⟩ := List.mem_map.mp hy; exact hpos r hr) (List.cons_ne_nil _ _)
    -- both sides reduce on a list of two or more: the generated guards by evaluation, `rowM` to its last branch
    show some (lcScale (List.foldl wStep _ _) _) = if _ = 0 then none else some _
    rw [if_neg hs.ne', wStep_fold]
    simp only [List.map_cons, List.tail_cons, headR, headN, List.headD_cons, List.zip_cons_cons, List.zip_map', lcScale,
      lcTerm, List.map_map, List.cons_append, List.nil_append, Function.comp_def]
end WS.SelBridge
