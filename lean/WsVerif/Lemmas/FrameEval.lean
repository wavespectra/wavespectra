import WsVerif.Model.FrameIR
/-!
# A second evaluator for `FrameIR.writes`, cheap for the kernel

The kernel pays for every step of every walk into a list.  `writes` keeps one flat table: a lookup of cell `c` of `x`
walks `7·x + c.idx` cells, `gather` scans the sources once for each of the seven target cells, an assignment makes seven
passes of `modAt`, and membership compares pairs through `DecidableEq`.  `writesFast` is the same algorithm on a table of
rows (`Row`: the seven cells of one variable, a structure, so that a cell is a projection): a lookup walks `x` rows,
`gatherRow` sorts the sources into the seven cells in one scan, an assignment rewrites one row, membership compares
numbers.  Every list it builds is the list `writes` builds, element for element, and `flat` of the row table IS the flat
table; so `writes_eq_fast` is an equation, and a concrete write-set is evaluated on its right-hand side.
-/
namespace WS.FrameIR

structure Row where
  (values coords attrs encoding dims name held : List PC)

def Row.get (r : Row) : Cell → List PC
  | .values => r.values | .coords => r.coords | .attrs => r.attrs | .encoding => r.encoding | .dims => r.dims
  | .name => r.name | .held => r.held

def Row.of (f : Cell → List PC) : Row := ⟨f .values, f .coords, f .attrs, f .encoding, f .dims, f .name, f .held⟩

/-- `l` put in front of cell `c` -/
def Row.add (r : Row) (l : List PC) : Cell → Row
  | .values => { r with values := l ++ r.values } | .coords => { r with coords := l ++ r.coords }
  | .attrs => { r with attrs := l ++ r.attrs } | .encoding => { r with encoding := l ++ r.encoding }
  | .dims => { r with dims := l ++ r.dims } | .name => { r with name := l ++ r.name }
  | .held => { r with held := l ++ r.held }

abbrev Tab := List Row

/-- the flat table a row table stands for -/
def flat (T : Tab) : AEnv := T.flatMap fun r => Cell.all.map r.get

def eqPC (a b : PC) : Bool := Nat.beq a.1 b.1 && Nat.beq a.2.idx b.2.idx

def memPC (t : PC) : List PC → Bool
  | [] => false
  | a :: l => eqPC t a || memPC t l

def unionF (a b : List PC) : List PC := b.foldl (fun acc t => if memPC t acc then acc else acc ++ [t]) a

/-- all seven `gather`s of an assignment in one scan of its sources -/
def gatherRow (f : Var → Cell → List PC) (srcs : List Src) : Row :=
  srcs.foldr (fun s r => r.add (f s.1 s.2.1) s.2.2) (.of fun _ => [])

def closedF (p : Prog) (A : Var → Cell → List PC) : Bool :=
  p.all fun s => match s with
    | .assign x srcs => Cell.all.all fun c => ((gatherRow A srcs).get c).all fun t => memPC t (A x c)
    | .store _ _ => true

def rowAt : Tab → Var → Row
  | [], _ => .of fun _ => []
  | r :: _, 0 => r
  | _ :: T, x + 1 => rowAt T x

def lookF (T : Tab) (x : Var) (c : Cell) : List PC := (rowAt T x).get c

def modRow (f : Row → Row) : Nat → Tab → Tab
  | _, [] => []
  | 0, r :: T => f r :: T
  | x + 1, r :: T => r :: modRow f x T

def astepF (T : Tab) : Stmt → Tab
  | .assign x srcs => modRow (fun r => .of fun c => unionF (r.get c) ((gatherRow (lookF T) srcs).get c)) x T
  | .store _ _ => T

def solveF : Nat → Prog → Tab → Tab
  | 0, _, T => T
  | n + 1, p, T => if closedF p (lookF T) then T else solveF n p (p.foldl astepF T)

def tableF (ps : List Var) (n : Nat) : Tab :=
  (List.range (n + 1)).map fun x => .of fun c => if x ∈ ps then [(x, c)] else []

def writesFast (ps : List Var) (p : Prog) : List PC :=
  let A := lookF (tableF ps (max (maxVar p) (ps.foldl max 0)) |> solveF (p.length + 1) p)
  if initB ps A && closedF p A then dedup (readout p A) else top ps

theorem memPC_eq (t : PC) (l : List PC) : memPC t l = l.contains t := by
  induction l with
  | nil => rfl
  | cons a l ih =>
    have : eqPC t a = (t == a) := by
      obtain ⟨x, c⟩ := t
      obtain ⟨y, d⟩ := a
      rw [Bool.eq_iff_iff]
      cases c <;> cases d <;> simp [eqPC, Cell.idx]
    rw [memPC, List.contains_cons, ih, this]

theorem unionF_eq (a b : List PC) : unionF a b = union a b := by
  simp only [unionF, union, memPC_eq]

theorem Row.get_add (r : Row) (l : List PC) (c d : Cell) :
    (r.add l c).get d = if c = d then l ++ r.get d else r.get d := by
  cases c <;> cases d <;> rfl

theorem gatherRow_get (f : Var → Cell → List PC) (srcs : List Src) (c : Cell) :
    (gatherRow f srcs).get c = gather f srcs c := by
  induction srcs with
  | nil => cases c <;> rfl
  | cons s srcs ih =>
    rw [gatherRow, List.foldr_cons, Row.get_add, ← gatherRow, ih, gather, gather, List.flatMap_cons]
    split <;> rfl

theorem closedF_eq (p : Prog) (A : Var → Cell → List PC) : closedF p A = closedB p A := by
  unfold closedF closedB
  congr
  funext s
  cases s <;> simp only [gatherRow_get, memPC_eq]

theorem look_flat (T : Tab) : look (flat T) = lookF T := by
  funext x c
  induction T generalizing x with
  | nil => simp [look, flat, lookF, rowAt]; cases c <;> rfl
  | cons r T ih =>
    cases x with
    | zero => cases c <;> rfl
    | succ x =>
      change look _ _ _ = lookF T x c
      rw [← ih x, look, Nat.mul_succ, Nat.add_right_comm]
      rfl

theorem foldl_modAt_append (g : Cell → List PC → List PC) (k : Cell → Nat) (pre : AEnv) (cs : List Cell) (A : AEnv) :
    cs.foldl (fun B c => modAt (g c) (pre.length + k c) B) (pre ++ A)
      = pre ++ cs.foldl (fun B c => modAt (g c) (k c) B) A := by
  have one (f : List PC → List PC) (n : Nat) (A : AEnv) : modAt f (pre.length + n) (pre ++ A) = pre ++ modAt f n A := by
    induction pre with
    | nil => simp
    | cons a pre ih => simp [Nat.succ_add, modAt, ih]
  induction cs generalizing A with
  | nil => rfl
  | cons c cs ih => rw [List.foldl_cons, one, ih, List.foldl_cons]

theorem modAt_flat (g : Cell → List PC → List PC) (x : Var) (T : Tab) :
    Cell.all.foldl (fun B c => modAt (g c) (7 * x + c.idx) B) (flat T)
      = flat (modRow (fun r => .of fun c => g c (r.get c)) x T) := by
  induction T generalizing x with
  | nil => simp [flat, modRow, modAt, Cell.all]
  | cons r T ih =>
    cases x with
    | zero => rfl
    | succ x =>
      have : ∀ c : Cell, 7 * (x + 1) + c.idx = (Cell.all.map r.get).length + (7 * x + c.idx) := fun c => by
        rw [Nat.mul_succ, Nat.add_right_comm, Nat.add_comm]; rfl
      simp only [this]
      exact (foldl_modAt_append g _ _ _ _).trans (congrArg _ (ih x))

theorem astep_flat (T : Tab) (s : Stmt) : astep (flat T) s = flat (astepF T s) := by
  cases s with
  | store => rfl
  | assign x srcs =>
    simp only [astep, astepF, look_flat, unionF_eq, gatherRow_get]
    exact modAt_flat _ x T

theorem solve_flat (n : Nat) (p : Prog) (T : Tab) : solve n p (flat T) = flat (solveF n p T) := by
  induction n generalizing T with
  | zero => rfl
  | succ n ih =>
    have pass (q : Prog) (T : Tab) : q.foldl astep (flat T) = flat (q.foldl astepF T) := by
      induction q generalizing T with
      | nil => rfl
      | cons s q ih => rw [List.foldl_cons, astep_flat, ih, List.foldl_cons]
    rw [solve, solveF, look_flat, closedF_eq, pass, ih]
    split <;> rfl

theorem map_range_seven {α : Type} (g : Nat → α) (m : Nat) :
    (List.range (7 * m)).map g = (List.range m).flatMap fun x => Cell.all.map fun c => g (7 * x + c.idx) := by
  induction m with
  | zero => rfl
  | succ m ih => simp [Nat.mul_succ, List.range_succ, ih, Cell.all, Cell.idx]

theorem table0_flat (ps : List Var) (n : Nat) : table0 ps n = flat (tableF ps n) := by
  rw [table0, map_range_seven, tableF, flat, List.flatMap_map]
  congr
  funext x
  by_cases h : x ∈ ps <;> simp [Cell.all, Cell.idx, Row.get, Row.of, Nat.mul_add_div, h]

theorem writes_eq_fast (ps : List Var) (p : Prog) : writes ps p = writesFast ps p := by
  simp only [writes, writesFast, table0_flat, solve_flat, look_flat, closedF_eq]

end WS.FrameIR
