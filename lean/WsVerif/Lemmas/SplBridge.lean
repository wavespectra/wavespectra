import WsVerif.Model.Split
import WsVerif.Model.SplRt
/-!
Helper lemmas for `Props/C09spl.lean`: the vocabulary of the split translator (`Model/SplRt.lean`) against the
hand-written model (`Model/Split.lean`), the encoding of a model box as a Python dictionary, and the loop forms
(`combinations`, fold with `partitions`/`masks`) against the model's recursive forms.  Mathlib-free.
-/
namespace WS.SplBridge
open WS WS.Split

/-! ### encoding of the model's boxes / rectangles as the Python values the generated code works on -/

/-- one limit as dictionary entries: absent key, key with `None`, key with a number -/
def entry (key : String) : Lim → Spl.Dict
  | .omitted => []
  | .none => [(key, none)]
  | .val v => [(key, some v)]

/-- the dictionary of a box (keys in the order `fmin, fmax, dmin, dmax`; `dictGet` does not depend on the order) -/
def toDict (bx : Box) : Spl.Dict :=
  entry "fmin" bx.fmin ++ entry "fmax" bx.fmax ++ entry "dmin" bx.dmin ++ entry "dmax" bx.dmax

/-- `[fmin, dmin, fmax, dmax]` -/
def rectList (r : Rect) : List Rat := [r.l, r.b, r.r, r.t]

/-! ### vocabulary twins -/

theorem amin_eq (v : Vec) : Spl.amin v = vmin v := by cases v <;> rfl
theorem amax_eq (v : Vec) : Spl.amax v = vmax v := by cases v <;> rfl
theorem truthy_eq (o : Option Rat) : Spl.truthy o = truthy o := by cases o <;> rfl
theorem inSlice_eq (lo hi : Option Rat) (x : Rat) : Spl.inSlice lo hi x = inBand lo hi x := rfl

theorem insIdx_eq (d : Vec) (a : Nat) (l : List Nat) : Spl.insIdx d a l = insIdx d a l := by
  induction l with
  | nil => rfl
  | cons b l ih => simp only [Spl.insIdx, insIdx, ih]

theorem sortIdx_eq (d : Vec) : Spl.sortIdx d = sortIdx d := by
  unfold Spl.sortIdx sortIdx
  congr 1
  funext a l
  exact insIdx_eq d a l

theorem find_entry_ne (key k : String) (l : Lim) (h : (key == k) = false) :
    (entry key l).find? (fun p => p.1 == k) = none := by
  cases l <;> simp [entry, h]

/-- looking a key up in a dictionary assembled from limit entries only sees the entries of that key -/
theorem find?_entries (kl : List (String × Lim)) (key : String) :
    (kl.flatMap fun p => entry p.1 p.2).find? (fun q => q.1 == key) =
      ((kl.filter fun p => p.1 == key).flatMap fun p => entry p.1 p.2).find? (fun q => q.1 == key) := by
  induction kl with
  | nil => rfl
  | cons p kl ih =>
    rw [List.flatMap_cons, List.find?_append, ih, List.filter_cons]
    cases h : p.1 == key
    · rw [find_entry_ne _ _ _ h]; rfl
    · rw [if_pos rfl, List.flatMap_cons, List.find?_append]

/-- `bbox.get(key, dflt) or alt` on a dictionary that holds the limit `l` under `key` = the model's `Lim.get` -/
theorem orElse_dictGet (kl : List (String × Lim)) (key : String) (l : Lim) (dflt alt : Rat)
    (h : kl.filter (fun p => p.1 == key) = [(key, l)]) :
    Spl.orElse (Spl.dictGet (kl.flatMap fun p => entry p.1 p.2) key dflt) alt = l.get dflt alt := by
  rw [Spl.dictGet, find?_entries, h]
  cases l with
  | omitted => rfl
  | _ =>
    simp only [entry, List.flatMap_cons, List.flatMap_nil, List.append_nil, List.find?_cons, beq_self_eq_true]
    rfl

theorem toDict_eq (bx : Box) : toDict bx =
    [("fmin", bx.fmin), ("fmax", bx.fmax), ("dmin", bx.dmin), ("dmax", bx.dmax)].flatMap
      fun p => entry p.1 p.2 := by
  simp [toDict]

/-- the four lookups of `Partition.bbox` on the dictionary of a box -/
theorem orElse_toDict (bx : Box) :
    (∀ d a, Spl.orElse (Spl.dictGet (toDict bx) "fmin" d) a = bx.fmin.get d a) ∧
    (∀ d a, Spl.orElse (Spl.dictGet (toDict bx) "fmax" d) a = bx.fmax.get d a) ∧
    (∀ d a, Spl.orElse (Spl.dictGet (toDict bx) "dmin" d) a = bx.dmin.get d a) ∧
    (∀ d a, Spl.orElse (Spl.dictGet (toDict bx) "dmax" d) a = bx.dmax.get d a) := by
  rw [toDict_eq]
  exact ⟨fun _ _ => orElse_dictGet _ _ _ _ _ rfl, fun _ _ => orElse_dictGet _ _ _ _ _ rfl,
    fun _ _ => orElse_dictGet _ _ _ _ _ rfl, fun _ _ => orElse_dictGet _ _ _ _ _ rfl⟩

/-! ### `combinations(rectangles, 2)` -/

/-- `any` over the pairs of a list of encoded values, against a recursive form on the values themselves -/
theorem any_combinations2_map {α β : Type} (g : α → β) (p : β → β → Bool) (l : List α) (rec : List α → Bool)
    (hnil : rec [] = false) (hcons : ∀ x xs, rec (x :: xs) = (xs.any (fun y => p (g x) (g y)) || rec xs)) :
    (Spl.combinations2 (l.map g)).any (fun q => p q.1 q.2) = rec l := by
  induction l with
  | nil => exact hnil.symm
  | cons x xs ih =>
    rw [hcons, List.map_cons, Spl.combinations2, List.any_append, ih, List.any_map, List.any_map]
    rfl

theorem any_combinations2 {α : Type} (p : α → α → Bool) (l : List α) (rec : List α → Bool)
    (hnil : rec [] = false) (hcons : ∀ x xs, rec (x :: xs) = (xs.any (p x) || rec xs)) :
    (Spl.combinations2 l).any (fun q => p q.1 q.2) = rec l := by
  have := any_combinations2_map id p l rec hnil hcons
  rwa [List.map_id] at this

/-! ### a loop that computes one value per item or raises -/

theorem mapM_guard {α β : Type} (bad : α → Bool) (g : α → β) (er : Err) (l : List α) :
    l.mapM (fun x => if bad x then (.error er : Except Err β) else .ok (g x)) =
      if l.any bad then .error er else .ok (l.map g) := by
  induction l with
  | nil => rfl
  | cons x xs ih =>
    rw [List.mapM_cons, ih, List.any_cons, List.map_cons]
    cases bad x <;> cases xs.any bad <;> rfl

/-! ### the partition loop of `bbox` -/

/-- the fold over rectangles carrying `(partitions, masks)`: appends one masked value per rectangle and ORs the masks -/
theorem foldl_parts {ρ : Type} (m : ρ → Bool) (val : Bool → Rat) (rs : List ρ) (acc : List Rat) (b : Bool) :
    rs.foldl (fun (st : List Rat × Bool) r => (st.1 ++ [val (m r)], (st.2 || m r))) (acc, b)
      = (acc ++ rs.map (fun r => val (m r)), (b || rs.any m)) := by
  induction rs generalizing acc b with
  | nil => simp
  | cons r rs ih =>
    rw [List.foldl_cons, ih]
    simp [List.append_assoc, Bool.or_assoc]

/-! ### `sorted(set(freq).union([fcut]))` on a strictly increasing frequency axis -/

theorem insertU_of_all_lt (x : Rat) (l : List Rat) (h : ∀ y ∈ l, y < x) : Spl.insertU x l = l ++ [x] := by
  induction l with
  | nil => rfl
  | cons y l ih =>
    have hy : y < x := h y List.mem_cons_self
    rw [Spl.insertU, if_neg (Rat.not_lt.mpr (Rat.le_of_lt hy)), if_neg (Rat.ne_of_lt hy).symm,
      ih fun z hz => h z (List.mem_cons_of_mem _ hz)]
    rfl

theorem foldl_insertU_sorted (rest acc : List Rat) (h : (acc ++ rest).Pairwise (· < ·)) :
    rest.foldl (fun acc x => Spl.insertU x acc) acc = acc ++ rest := by
  induction rest generalizing acc with
  | nil => simp
  | cons x rest ih =>
    rw [List.foldl_cons]
    have hx : ∀ y ∈ acc, y < x := by
      intro y hy
      exact (List.pairwise_append.mp h).2.2 y hy x (by simp)
    rw [insertU_of_all_lt x acc hx, ih (acc ++ [x]) (by simpa using h)]
    simp

/-- `sorted(set(f).union([x]))` for a strictly increasing `f` -/
theorem sortedUnion_single (f : Vec) (x : Rat) (h : f.Pairwise (· < ·)) :
    Spl.sortedUnion f [x] = Spl.insertU x f := by
  unfold Spl.sortedUnion
  rw [List.foldl_append, foldl_insertU_sorted f [] (by simpa using h)]
  rfl

theorem insertU_of_mem (x : Rat) (f : Vec) (h : f.Pairwise (· < ·)) (hx : x ∈ f) : Spl.insertU x f = f := by
  induction f with
  | nil => cases hx
  | cons y l ih =>
    obtain ⟨hy, hl⟩ := List.pairwise_cons.mp h
    rcases List.mem_cons.mp hx with rfl | hx
    · rw [Spl.insertU, if_neg Rat.lt_irrefl, if_pos rfl]
    · rw [Spl.insertU, if_neg (Rat.not_lt.mpr (Rat.le_of_lt (hy x hx))), if_neg (Rat.ne_of_lt (hy x hx)).symm,
        ih hl hx]

theorem insertU_of_not_mem (x : Rat) (f : Vec) (hx : x ∉ f) :
    Spl.insertU x f = f.take (searchsorted f x) ++ x :: f.drop (searchsorted f x) := by
  induction f with
  | nil => rfl
  | cons y l ih =>
    obtain ⟨hne, hl⟩ := not_or.mp (mt List.mem_cons.mpr hx)
    by_cases h1 : x < y
    · have hs : searchsorted (y :: l) x = 0 := by
        rw [searchsorted, List.takeWhile_cons_of_neg (p := fun z => decide (z < x)) fun h =>
          Rat.not_lt.mpr (Rat.le_of_lt h1) (of_decide_eq_true h)]
        rfl
      rw [Spl.insertU, if_pos h1, hs]
      rfl
    · have h3 : y < x := Rat.lt_of_le_of_ne (Rat.not_lt.mp h1) (Ne.symm hne)
      have hs : searchsorted (y :: l) x = searchsorted l x + 1 := by
        rw [searchsorted, List.takeWhile_cons_of_pos (p := fun z => decide (z < x)) (decide_eq_true h3)]
        rfl
      rw [Spl.insertU, if_neg h1, if_neg hne, hs, ih hl]
      rfl

end WS.SplBridge
