import WsVerif.Model.IO.Instruments
import WsVerif.Lemmas.Basic
import Mathlib.Data.Rat.Floor
import Mathlib.Tactic.NormNum
import Mathlib.Tactic.Ring
import Mathlib.Data.List.Perm.Basic
import Mathlib.Data.List.Sort
import Mathlib.Algebra.BigOperators.Group.List.Basic
/-! Helper lemmas for the file-format and reader properties (C11–C13): finite sums, Python's `%` (`pmod`),
`np.arange` lengths, the stable insertion sort and `argsort`. -/
namespace WS.Instr
open WS

/-! ### finite sums -/

theorem sum_zipWith_affine (k h p q : ℚ) : ∀ a b : List ℚ, a.length = b.length →
    (List.zipWith (fun x y => k * (h + p * x + q * y)) a b).sum =
      k * ((a.length : ℚ) * h + p * a.sum + q * b.sum)
  | [], [], _ => by simp
  | x :: a, y :: b, hl => by
    rw [List.zipWith_cons_cons, List.sum_cons, sum_zipWith_affine k h p q a b (Nat.succ.inj hl), List.sum_cons,
      List.sum_cons, List.length_cons, Nat.cast_succ]
    ring

/-! ### Python's `%` -/

theorem pmod_sub_period (x m : ℚ) (hm : m ≠ 0) : pmod (x - m) m = pmod x m := by
  rw [← pmod_add_period (x - m) m hm, sub_add_cancel]

/-- scaling argument and modulus by the same non-zero factor scales the remainder -/
theorem pmod_mul_left (k x m : ℚ) (hk : k ≠ 0) : pmod (k * x) (k * m) = k * pmod x m := by
  unfold pmod
  rw [mul_div_mul_left _ _ hk]; ring

/-- reversing the sense of a direction twice (`(θ + 180) % 360`) is the identity modulo 360 -/
theorem pmod_half_turn_twice (d : ℚ) : pmod (pmod (d + 180) 360 + 180) 360 = pmod d 360 := by
  rw [pmod_add_pmod _ _ _ (by norm_num), add_assoc, ← pmod_add_period d 360 (by norm_num)]
  norm_num

/-- `⌈d / step⌉`, the length of `np.arange` over a span `d`, when `d` is `n` whole steps -/
theorem ceil_div_of_mul_eq (n : Nat) (d step : ℚ) (hs : step ≠ 0) (h : (n : ℚ) * step = d) :
    (-((-(d / step)).floor)).toNat = n := by
  rw [← h, mul_div_cancel_right₀ _ hs, ← Int.cast_natCast, ← Int.cast_neg, Rat.floor_intCast, neg_neg,
    Int.toNat_natCast]

theorem arangeLen_of_mul_eq (start stop step : ℚ) (n : Nat) (hs : 0 < step) (h : (n : ℚ) * step = stop - start) :
    arangeLen start stop step = n :=
  (if_neg (not_le.mpr hs)).trans (ceil_div_of_mul_eq n _ step hs.ne' h)

theorem getD_transpose (m : Nat) (e : Mat) (i : Nat) (hi : i < m) :
    (transpose m e).getD i [] = e.map fun r => r.getD i 0 := by
  unfold transpose
  simp [List.getD_eq_getElem?_getD, hi]

/-! ### the stable sort is Mathlib's insertion sort on the keys -/
section Sorting
variable {α κ : Type} [LE κ] [DecidableLE κ]

theorem insertBy_eq (key : α → κ) (x : α) (l : List α) :
    insertBy key x l = l.orderedInsert (fun a b => key a ≤ key b) x := by
  induction l with
  | nil => rfl
  | cons y t ih => simp only [insertBy, List.orderedInsert, ih]

theorem sortBy_eq (key : α → κ) (l : List α) : sortBy key l = l.insertionSort (fun a b => key a ≤ key b) := by
  induction l with
  | nil => rfl
  | cons x t ih => rw [sortBy, ih, insertBy_eq]; rfl

theorem sortBy_perm (key : α → κ) (l : List α) : (sortBy key l).Perm l :=
  sortBy_eq key l ▸ List.perm_insertionSort _ l

theorem sortBy_sorted (htot : ∀ a b : κ, a ≤ b ∨ b ≤ a) (htrans : ∀ a b c : κ, a ≤ b → b ≤ c → a ≤ c)
    (key : α → κ) (l : List α) : (sortBy key l).Pairwise fun a b => key a ≤ key b := by
  have : Std.Total fun a b : α => key a ≤ key b := ⟨fun a b => htot _ _⟩
  have : IsTrans α fun a b => key a ≤ key b := ⟨fun a b c => htrans _ _ _⟩
  exact sortBy_eq key l ▸ List.pairwise_insertionSort _ l

theorem sortBy_of_sorted (key : α → κ) (l : List α) (h : l.Pairwise fun a b => key a ≤ key b) :
    sortBy key l = l :=
  sortBy_eq key l ▸ h.insertionSort_eq

/-- the permutation a sort by key applies is a permutation of the positions -/
theorem sortBy_zipIdx_perm (keys : List κ) :
    ((sortBy (fun p : κ × Nat => p.1) keys.zipIdx).map (·.2)).Perm (List.range keys.length) := by
  have h := (sortBy_perm (fun p : κ × Nat => p.1) keys.zipIdx).map (·.2)
  rwa [List.zipIdx_map_snd, ← List.range_eq_range'] at h
end Sorting

/-- the permutation `sortby` applies (to the time labels and to the data alike) is a permutation of the positions;
    that equal time stamps keep their file order is not claimed by the property -/
theorem sortPerm_perm (keys : List Int) : (sortPerm keys).Perm (List.range keys.length) :=
  sortBy_zipIdx_perm keys

theorem argsort_perm (keys : Vec) : (argsort keys).Perm (List.range keys.length) :=
  sortBy_zipIdx_perm keys

theorem takeIdx_argsort (keys : Vec) :
    takeIdx keys (argsort keys) = (sortBy (fun p : Rat × Nat => p.1) keys.zipIdx).map Prod.fst := by
  unfold takeIdx argsort
  rw [List.map_map]
  apply List.map_congr_left
  intro p hp
  have hp' := (sortBy_perm (fun p : Rat × Nat => p.1) keys.zipIdx).mem_iff.mp hp
  have := List.mem_zipIdx_iff_getElem?.mp hp'
  simp [List.getD_eq_getElem?_getD, this]

theorem argsort_sorted (keys : Vec) : (takeIdx keys (argsort keys)).Pairwise (· ≤ ·) := by
  rw [takeIdx_argsort]
  exact List.pairwise_map.mpr (sortBy_sorted (κ := Rat) le_total (fun _ _ _ => le_trans) _ _)

/-- re-ordering labels and a data row by the same `argsort` keeps every (label, value) pair -/
theorem argsort_pairs (keys row : Vec) (hlen : row.length = keys.length) :
    (List.zip (takeIdx keys (argsort keys)) (takeIdx row (argsort keys))).Perm (List.zip keys row) := by
  -- both sides pair the labels and the row read at a list of positions: `argsort keys`, and all positions in order
  have h := (argsort_perm keys).map fun k => (getR keys k, getR row k)
  rwa [← List.zip_map', ← List.zip_map', map_getR_range, ← hlen, map_getR_range] at h

theorem dedupAdj_of_strict (l : List Int) (h : l.Pairwise (· < ·)) : dedupAdj l = l := by
  induction l with
  | nil => rfl
  | cons a t ih =>
    cases t with
    | nil => rfl
    | cons b u =>
      rw [List.pairwise_cons] at h
      rw [dedupAdj, if_neg (ne_of_lt (h.1 b List.mem_cons_self)), ih h.2]
end WS.Instr
