import WsVerif.Model.RgRt
import WsVerif.Lemmas.Regrid
/-! Helper lemmas for `Props/C08rg.lean`: the vocabulary `WS.Rg` on NaN-free spectra against `Model/Regrid.lean`. -/
namespace WS.Rg
open WS WS.Regrid

theorem getO_map_some (r : Vec) (i : Nat) : getO (r.map some) i = some (getR r i) := by
  simp [getO, getR, List.getD_eq_getElem?_getD, List.getElem?_map]

theorem map_getO_range (r : ORow) : (List.range r.length).map (getO r) = r := by
  apply List.ext_getElem
  · simp
  · intro i h1 h2
    simp [getO, List.getD_eq_getElem?_getD]
    simp at h1
    simp [h1]

theorem pick_neg_one {α : Type} (l : List α) (d : α) : pick l (-1) d = l.getLastD d := by
  simp [pick, List.getD_eq_getElem?_getD, List.getLastD_eq_getLast?, List.getLast?_eq_head?_reverse, List.head?_eq_getElem?]

theorem pick_zero {α : Type} (l : List α) (d : α) : pick l 0 d = l.headD d := by
  cases l <;> rfl

/-- `np.unique` only drops entries -/
theorem dedupGo_sublist {α : Type} : ∀ (t : List (ℚ × α)) (p : ℚ × α), (dedupGo p t).Sublist (p :: t)
  | [], _ => List.Sublist.refl _
  | q :: t, p => by
    rw [dedupGo_cons]
    split
    · exact (dedupGo_sublist t p).trans ((List.sublist_cons_self q t).cons_cons p)
    · exact (dedupGo_sublist t q).cons_cons p

theorem mem_dedupK {α : Type} (l : List (ℚ × α)) (x : ℚ × α) (h : x ∈ dedupK l) : x ∈ l := by
  cases l with
  | nil => exact h
  | cons p t => exact (dedupGo_sublist t p).subset h

theorem mem_zip_range (v : Vec) (p : ℚ × Nat) (h : p ∈ v.zip (List.range v.length)) : getR v p.2 = p.1 := by
  obtain ⟨i, hi, rfl⟩ := List.mem_iff_getElem.mp h
  simp at hi
  simp [getR, List.getD_eq_getElem?_getD, hi]

/-- `isel` with the index of `np.unique` gives the sorted distinct labels -/
theorem nodes_labels (v : Vec) :
    ((dedupK (sortK (v.zip (List.range v.length)))).map (·.2)).map (getR v) =
      (dedupK (sortK (v.zip (List.range v.length)))).map (·.1) := by
  rw [List.map_map]
  apply List.map_congr_left
  intro p hp
  exact mem_zip_range v p ((mem_sortK p _).mp (mem_dedupK _ p hp))

theorem minL_sorted (l : Vec) (h : l.Pairwise (· < ·)) : minL l = l.headD 0 := by
  cases l with
  | nil => rfl
  | cons a t =>
    apply le_antisymm
    · exact minL_le_mem (a :: t) a (by simp)
    · exact head_le_minL (a :: t) h

theorem maxL_sorted (l : Vec) (h : l.Pairwise (· < ·)) : maxL l = lastD l := by
  by_cases hl : l = []
  · subst hl; rfl
  · exact le_antisymm (maxL_le_last l h) (maxL_ge_mem l _ (lastD_mem l hl))

/-- a stable sort of strictly increasing labels is the identity -/
theorem argsort_sorted (l : Vec) (h : l.Pairwise (· < ·)) :
    (sortK (l.zip (List.range l.length))).map (·.2) = List.range l.length := by
  rw [sortK_sorted]
  · exact List.map_snd_zip (by simp)
  · rw [List.map_fst_zip (by simp)]
    exact h.imp le_of_lt

/-! ### the frequency interpolation on lifted rows -/

theorem insertK_map_snd {α β : Type} (g : α → β) (p : ℚ × α) : ∀ t : List (ℚ × α),
    insertK (p.1, g p.2) (t.map fun q => (q.1, g q.2)) = (insertK p t).map fun q => (q.1, g q.2) := by
  intro t
  induction t with
  | nil => rfl
  | cons q t ih =>
    simp only [List.map_cons, insertK_cons]
    split
    · simp
    · simp [ih]

theorem sortK_map_snd {α β : Type} (g : α → β) (l : List (ℚ × α)) :
    sortK (l.map fun q => (q.1, g q.2)) = (sortK l).map fun q => (q.1, g q.2) := by
  induction l with
  | nil => rfl
  | cons p t ih => simp only [List.map_cons, sortK_cons, ih, insertK_map_snd]

theorem getD_map_nil {α β : Type} (g : List α → List β) (hg : g [] = []) (l : List (List α)) (i : Nat) :
    (l.map g).getD i [] = g (l.getD i []) := by
  simp only [List.getD_eq_getElem?_getD, List.getElem?_map]
  cases l[i]? <;> simp [hg]

/-- the reading of `interp(freq=…, assume_sorted=False, fill_value=0)` on rows lifted by `M`, against the model's
    node search and `applyLocV`, for any lifting `M` / mask `K` compatible with NaN propagation -/
theorem interpFreq_lift (M : Vec → ORow) (K : Loc → Vec → ORow) (nd : Nat) (F d : Vec) (E : Mat) (tf : Vec)
    (hM0 : M [] = [])
    (hseg : ∀ i t a b, List.zipWith (fun x y => lerpO x y t) (M a) (M b) = K (.seg i t) (List.zipWith (fun x y => lerpT x y t) a b))
    (hnan : List.replicate nd none = K .nan (List.replicate nd 0))
    (hout : List.replicate nd (some 0) = K .out (List.replicate nd 0))
    (hnd : ((E.map M).headD []).length = nd) :
    interpFreq { freq := F, dir := d, e := E.map M } tf 0 =
      { freq := tf, dir := d,
        e := tf.map fun x => K (locate ((sortK (F.zip E)).map (·.1)) x)
              (applyLocV nd ((sortK (F.zip E)).map (·.2)) (locate ((sortK (F.zip E)).map (·.1)) x)) } := by
  simp only [interpFreq, hnd]
  congr 1
  apply List.map_congr_left
  intro x _
  have hz : F.zip (E.map M) = (F.zip E).map fun q => (q.1, M q.2) := by
    rw [List.zip_map_right]; rfl
  rw [hz, sortK_map_snd]
  simp only [List.map_map, Function.comp_def]
  have h2 : (sortK (F.zip E)).map (fun q => M q.2) = ((sortK (F.zip E)).map (·.2)).map M := by
    simp [List.map_map, Function.comp_def]
  rw [h2]
  simp only [lin1V]
  cases h : locate ((sortK (F.zip E)).map (·.1)) x with
  | out => simp only [applyLocV]; exact hout
  | nan => simp only [applyLocV]; exact hnan
  | seg i t => simp only [applyLocV, getD_map_nil M hM0]; exact hseg i t _ _

example : interpFreq_lift (fun _ => []) (fun _ _ => []) 0 [] [] [] [1] rfl (by simp) rfl rfl rfl =
    interpFreq_lift (fun _ => []) (fun _ _ => []) 0 [] [] [] [1] rfl (by simp) rfl rfl rfl := rfl

end WS.Rg
